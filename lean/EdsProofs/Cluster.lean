import EdsModel.Cluster
import EdsProps.C13
import EdsProps.C01b
/-
  EdsProofs.Cluster — lemmas on the L3 cluster machine (EdsModel/Cluster.lean), used by EdsProps/L3.lean,
  L3RV, L3Live, L3Cli, C11c and Sync7:
    0  `stepF {} = step`, `run = runF` without faults
    1  `EdsSub` (a subset of the planned daemonset writes), identity frame of the daemonset object
    2  frames of a step (`stepF_eds_frame`, `stepF_status_frame`), the own replica sets after a step
       (`OwnShape`, `own_stepF`)
    3  projections of the world after the writes; relation to `applyEdsWrites` of EdsProps/C13.lean;
       status and spec hash after a reconcile that reached `edsMain` (`step_main_active`, `step_main_templateHash`);
       the reconcile that creates the replica set of a new template (`edsWrites_create`, `step_creates`)
    4  the canary block a daemonset reconcile writes (`updateInstance_canary_block`, `reconcileEds_canary_nodes`)
    5  relation to the pod-store transition of EdsProps/C01b.lean
  The facts about the daemonset reconcile that do not mention the world are in EdsProofs/ReconcileEds.lean.
-/
namespace Eds
open Cluster

/-! ## 0. `stepF {} = step`, runs -/

theorem maskEds_ok (w : EdsWrites) : maskEds {} w = w := by
  cases w; simp [maskEds]

theorem maskErs_ok (w : ErsWrites) : maskErs {} w = w := by
  cases w; simp [maskErs]

theorem stepF_ok (w : World) (op : Op) : stepF {} w op = step w op := by
  cases op <;> simp only [stepF, step, maskEds_ok, maskErs_ok]

theorem run_eq_runF (w : World) (ops : List Op) : run w ops = runF w (ops.map (fun op => (({} : Faults), op))) := by
  unfold run runF
  induction ops generalizing w with
  | nil => rfl
  | cons op ops ih => simp only [List.map_cons, List.foldl_cons, stepF_ok]; exact ih _

/-! ## 1. sub-writes, frames -/

/-- `wr` is a subset of the planned writes `full`. -/
structure EdsSub (wr full : EdsWrites) : Prop where
  defaulted : wr.defaulted = none ∨ wr.defaulted = full.defaulted
  created : wr.created = none ∨ wr.created = full.created
  deleted : ∀ x ∈ wr.deletedErs, x ∈ full.deletedErs
  status : wr.statusUpdate = none ∨ wr.statusUpdate = full.statusUpdate
  spec : wr.specUpdate = none ∨ wr.specUpdate = full.specUpdate

theorem EdsSub.refl (w : EdsWrites) : EdsSub w w :=
  ⟨Or.inr rfl, Or.inr rfl, fun _ h => h, Or.inr rfl, Or.inr rfl⟩

theorem EdsSub.mask (f : Faults) (w : EdsWrites) : EdsSub (maskEds f w) w := by
  refine ⟨?_, ?_, ?_, ?_, ?_⟩
  · unfold maskEds; cases f.edsDefaulted <;> simp
  · unfold maskEds; cases f.ersCreate <;> simp
  · intro x hx; exact (List.mem_filter.1 hx).1
  · unfold maskEds; cases f.edsStatus <;> simp
  · unfold maskEds; cases f.edsSpec <;> simp

theorem applyEdsObj_ident (d : EDS) (wr : EdsWrites) (t : Template) :
    (applyEdsObj d wr t).name = d.name ∧ (applyEdsObj d wr t).ns = d.ns ∧ (applyEdsObj d wr t).labels = d.labels := by
  unfold applyEdsObj
  cases wr.defaulted <;> cases wr.statusUpdate <;> cases wr.specUpdate <;> exact ⟨rfl, rfl, rfl⟩

theorem stepF_ident (f : Faults) (w : World) (op : Op) :
    (stepF f w op).eds.name = w.eds.name ∧ (stepF f w op).eds.ns = w.eds.ns ∧
    (stepF f w op).eds.labels = w.eds.labels := by
  cases op with
  | reconcileEds nn m => exact applyEdsObj_ident _ _ _
  | reconcileErs name rel aff =>
    simp only [stepF]
    cases findErs w name <;> exact ⟨rfl, rfl, rfl⟩
  | _ => exact ⟨rfl, rfl, rfl⟩


/-! ## 2. the own replica sets after a step -/

def World.own (w : World) : List ERS := ownErs w.eds w.erss

/-- a sub-write creates only what the reconcile planned: the replica set of the spec's template, and
only when no own replica set carries its hash. -/
theorem EdsSub.created_some {d : EDS} {all : List ERS} {pods : List Pod} {nodes : List Node} {now : Time}
    {m : String} {wr : EdsWrites} (hs : EdsSub wr (reconcileEds d all pods nodes now m)) {n : NewErs}
    (hc : wr.created = some n) :
    n = newReplicaSetFromInstance d ∧
    ∀ e ∈ ownErs d all, SMap.get? e.annotations K.templateHashAnnot ≠ some d.templateHash := by
  rcases hs.created with h | h
  · rw [h] at hc; cases hc
  · rw [h] at hc
    exact ⟨(reconcileEds_created_iff d all pods nodes now m n hc).2.1,
      (C13_create_only_if_none d all pods nodes now m n hc).2⟩

theorem ersOwner_store {w : World} {rs : ERS} {d : EDS} (h : ersOwner rs w.store = some d) : d = w.eds := by
  simpa [World.store] using (ersOwner_some h).1

/-- what a replica-set reconcile of `rs` with writes `wr` does to a stored replica set `e`: the status write,
on `rs` itself. -/
def setStatusOf (rs : ERS) (wr : ErsWrites) (e : ERS) : ERS :=
  if e.ns == rs.ns && e.name == rs.name then
    (match wr.statusUpdate with
     | some st => { e with status := st }
     | none => e)
  else e

theorem setStatusOf_eq (rs : ERS) (wr : ErsWrites) (e : ERS) :
    setStatusOf rs wr e = { e with status := (setStatusOf rs wr e).status } := by
  unfold setStatusOf
  split
  · cases wr.statusUpdate <;> rfl
  · rfl

theorem applyErs_erss (w : World) (rs : ERS) (wr : ErsWrites) :
    (applyErs w rs wr).erss = w.erss.map (setStatusOf rs wr) := rfl

theorem setStatusOf_frame (rs : ERS) (wr : ErsWrites) (e : ERS) :
    (setStatusOf rs wr e).ns = e.ns ∧ (setStatusOf rs wr e).labels = e.labels ∧
    (setStatusOf rs wr e).annotations = e.annotations := by
  rw [setStatusOf_eq]; exact ⟨rfl, rfl, rfl⟩

theorem setStatusOf_name (rs : ERS) (wr : ErsWrites) (e : ERS) : (setStatusOf rs wr e).name = e.name := by
  rw [setStatusOf_eq]

theorem setStatusOf_gen (rs : ERS) (wr : ErsWrites) (e : ERS) :
    (setStatusOf rs wr e).templateGeneration = e.templateGeneration := by
  rw [setStatusOf_eq]

theorem own_applyErs (w : World) (rs : ERS) (wr : ErsWrites) :
    ownErs w.eds (applyErs w rs wr).erss = (ownErs w.eds w.erss).map (setStatusOf rs wr) := by
  rw [applyErs_erss]
  exact ownErs_map _ _ _ (setStatusOf_frame rs wr)

/-- the daemonset object is written by daemonset reconciles and user edits only. -/
theorem stepF_eds_frame (f : Faults) (w : World) (op : Op) (h : ∀ nn m, op ≠ .reconcileEds nn m)
    (hu : ∀ a b c d, op ≠ .userSpec a b c d) : (stepF f w op).eds = w.eds := by
  cases op with
  | reconcileEds nn m => exact absurd rfl (h nn m)
  | reconcileErs name rel aff =>
    simp only [stepF]
    cases findErs w name <;> rfl
  | userSpec a b c d => exact absurd rfl (hu a b c d)
  | _ => rfl

/-- its status by daemonset reconciles only. -/
theorem stepF_status_frame (f : Faults) (w : World) (op : Op) (h : ∀ nn m, op ≠ .reconcileEds nn m) :
    (stepF f w op).eds.status = w.eds.status := by
  cases op with
  | reconcileEds nn m => exact absurd rfl (h nn m)
  | reconcileErs name rel aff =>
    simp only [stepF]
    cases findErs w name <;> rfl
  | _ => rfl

theorem own_congr_step (f : Faults) (w : World) (op : Op) (l : List ERS) :
    ownErs (stepF f w op).eds l = ownErs w.eds l :=
  ownErs_congr _ _ _ (stepF_ident f w op).1 (stepF_ident f w op).2.1

/-- what a step does to the daemonset's own replica sets: a daemonset reconcile applies a subset of its
planned deletions and creation; every other step changes at most the status of some. -/
inductive OwnShape (f : Faults) (w : World) (op : Op) : Prop where
  | eds (nn m : String) (wr : EdsWrites) : op = .reconcileEds nn m → EdsSub wr (edsWrites w m) →
      (stepF f w op).own = ownErs w.eds (applyErsList w.eds w.erss wr nn w.now) → OwnShape f w op
  | map (g : ERS → ERS) : (∀ e, g e = { e with status := (g e).status }) →
      (stepF f w op).own = w.own.map g → OwnShape f w op

theorem own_stepF (f : Faults) (w : World) (op : Op) : OwnShape f w op := by
  cases op with
  | reconcileEds nn m => exact .eds nn m _ rfl (EdsSub.mask f _) (own_congr_step f w _ _)
  | reconcileErs name rel aff =>
    cases h : findErs w name with
    | none =>
      refine .map id (fun _ => rfl) ?_
      simp only [stepF, h, List.map_id]
    | some rs =>
      refine .map _ (setStatusOf_eq rs (maskErs f (ersWrites w rs rel aff))) ?_
      unfold World.own
      rw [own_congr_step]
      simp only [stepF, h]
      exact own_applyErs w rs _
  | _ => exact .map id (fun _ => rfl) (List.map_id _).symm


/-! ## 3. projections of the daemonset object after the writes -/

theorem applyEdsObj_status (d : EDS) (wr : EdsWrites) (t : Template) :
    (applyEdsObj d wr t).status = (match wr.statusUpdate with | some st => st | none => d.status) := by
  unfold applyEdsObj
  cases wr.defaulted <;> cases wr.statusUpdate <;> cases wr.specUpdate <;> rfl

theorem applyEdsObj_templateHash (d : EDS) (wr : EdsWrites) (t : Template) :
    (applyEdsObj d wr t).templateHash = (match wr.specUpdate with | some x => x.1 | none => d.templateHash) := by
  unfold applyEdsObj
  cases wr.defaulted <;> cases wr.statusUpdate <;> cases wr.specUpdate <;> rfl

theorem applyEdsObj_annotations (d : EDS) (wr : EdsWrites) (t : Template) :
    (applyEdsObj d wr t).annotations = (match wr.specUpdate with | some x => x.2 | none => d.annotations) := by
  unfold applyEdsObj
  cases wr.defaulted <;> cases wr.statusUpdate <;> cases wr.specUpdate <;> rfl

theorem applyEdsObj_strategy (d : EDS) (wr : EdsWrites) (t : Template) :
    (applyEdsObj d wr t).strategy = (match wr.defaulted with | some x => x.1 | none => d.strategy) := by
  unfold applyEdsObj
  cases wr.defaulted <;> cases wr.statusUpdate <;> cases wr.specUpdate <;> rfl

theorem step_reconcileEds (w : World) (nn m : String) :
    step w (.reconcileEds nn m) = applyEds w (edsWrites w m) nn := rfl

theorem applyEds_status (w : World) (wr : EdsWrites) (nn : String) :
    (applyEds w wr nn).eds.status = (match wr.statusUpdate with | some st => st | none => w.eds.status) :=
  applyEdsObj_status _ _ _

/-- under any fault pattern the status after a daemonset reconcile is the previous one or the one the
reconcile planned. -/
theorem stepF_reconcileEds_status (f : Faults) (w : World) (nn m : String) :
    (stepF f w (.reconcileEds nn m)).eds.status = w.eds.status ∨
    (edsWrites w m).statusUpdate = some (stepF f w (.reconcileEds nn m)).eds.status := by
  have hst : (stepF f w (.reconcileEds nn m)).eds.status =
      (match (maskEds f (edsWrites w m)).statusUpdate with | some st => st | none => w.eds.status) :=
    applyEds_status _ _ _
  rw [hst]
  rcases (EdsSub.mask f (edsWrites w m)).status with h | h
  · rw [h]; exact Or.inl rfl
  · rw [h]
    cases (edsWrites w m).statusUpdate with
    | none => exact Or.inl rfl
    | some st => exact Or.inr rfl

theorem applyEds_erss (w : World) (wr : EdsWrites) (nn : String) :
    (applyEds w wr nn).erss = applyErsList w.eds w.erss wr nn w.now := rfl

theorem applyEds_frame (w : World) (wr : EdsWrites) (nn : String) :
    (applyEds w wr nn).pods = w.pods ∧ (applyEds w wr nn).nodes = w.nodes ∧ (applyEds w wr nn).now = w.now ∧
    (applyEds w wr nn).settings = w.settings ∧ (applyEds w wr nn).daemonsets = w.daemonsets :=
  ⟨rfl, rfl, rfl, rfl, rfl⟩

/-- the relation to the store transition of `EdsProps/C13.lean`: the same object, created at `now`. -/
theorem ersOfNewAt_eq_C13 (d : EDS) (n : NewErs) (nn : String) (now : Time) :
    ersOfNewAt d n nn now = { ersOfNew d n nn with creation := now } := rfl

theorem applyErsList_eq_C13 (d : EDS) (all : List ERS) (wr : EdsWrites) (nn : String) :
    applyErsList d all wr nn 0 = applyEdsWrites d all wr nn :=
  (applyEdsWrites_eq d all wr nn).symm

/-- after a daemonset reconcile that reached `edsMain` (every write succeeding) the status names the
current replica set of that reconcile as active … -/
theorem step_main_active (w : World) (nn m : String) (u : ERS)
    (hr : edsWrites w m = edsMain w.eds w.own u w.pods w.nodes w.now) :
    (step w (.reconcileEds nn m)).eds.status.activeReplicaSet = (currentOf w.eds w.own u w.now).1.name := by
  rw [step_reconcileEds, applyEds_status, hr]
  exact edsMain_active_after _ _ _ _ _ _

/-- … and the template hash in spec is the previous one or the generation of that replica set. -/
theorem step_main_templateHash (w : World) (nn m : String) (u : ERS)
    (hr : edsWrites w m = edsMain w.eds w.own u w.pods w.nodes w.now) :
    (step w (.reconcileEds nn m)).eds.templateHash = w.eds.templateHash ∨
    (step w (.reconcileEds nn m)).eds.templateHash = (currentOf w.eds w.own u w.now).1.templateGeneration := by
  have hth : (step w (.reconcileEds nn m)).eds.templateHash =
      (match (edsWrites w m).specUpdate with | some x => x.1 | none => w.eds.templateHash) :=
    applyEdsObj_templateHash _ _ _
  rw [hth, hr]
  exact edsMain_specHash_cases _ _ _ _ _ _

/-- the reconcile of a defaulted, valid daemonset with an up-to-date replica set runs `edsMain` on the own
replica sets. -/
theorem edsWrites_main (w : World) (hd : isDefaulted w.eds.strategy w.eds.templateName = true)
    (hv : validateSpec w.eds.strategy = .ok) {u : ERS} (hu : upToDateOf w.eds w.own = some u) (m : String) :
    edsWrites w m = edsMain w.eds w.own u w.pods w.nodes w.now := by
  unfold edsWrites
  rw [reconcileEds_of_ok _ _ _ _ _ _ hd hv, show upToDateOf w.eds (ownErs w.eds w.erss) = some u from hu]
  rfl

/-- **the reconcile of a defaulted, valid daemonset whose template no own replica set carries** plans the
creation of that replica set and nothing else … -/
theorem edsWrites_create (w : World) (hd : isDefaulted w.eds.strategy w.eds.templateName = true)
    (hv : validateSpec w.eds.strategy = .ok)
    (hnew : ∀ e ∈ w.own, SMap.get? e.annotations K.templateHashAnnot ≠ some w.eds.templateHash) (m : String) :
    edsWrites w m = { created := some (newReplicaSetFromInstance w.eds), requeue := true } := by
  unfold edsWrites
  rw [reconcileEds_of_ok _ _ _ _ _ _ hd hv, (upToDateOf_eq_none_iff w.eds (ownErs w.eds w.erss)).2 hnew]

/-- … so that the step leaves the daemonset object alone and appends the created replica set (under the
name the API server hands out) to the own ones. -/
theorem step_creates (w : World) (hd : isDefaulted w.eds.strategy w.eds.templateName = true)
    (hv : validateSpec w.eds.strategy = .ok)
    (hnew : ∀ e ∈ w.own, SMap.get? e.annotations K.templateHashAnnot ≠ some w.eds.templateHash) (nn m : String) :
    (step w (.reconcileEds nn m)).eds = w.eds ∧
    (step w (.reconcileEds nn m)).own = w.own ++ [ersOfNewAt w.eds (newReplicaSetFromInstance w.eds) nn w.now] := by
  have hwr := edsWrites_create w hd hv hnew m
  have heds : (step w (.reconcileEds nn m)).eds = w.eds := by
    show (applyEds w (edsWrites w m) nn).eds = w.eds
    rw [hwr]; rfl
  refine ⟨heds, ?_⟩
  unfold World.own
  rw [heds, step_reconcileEds, applyEds_erss,
    ownErs_applyErsList w.eds w.erss _ nn w.now (by rw [hwr]; intro n hn; cases hn; rfl), hwr]
  show (ownErs w.eds w.erss).filter _ ++ [_] = _
  congr 1
  simp

/-! ## 4. the canary node list a daemonset reconcile writes -/

/-- `status.canary.nodes` (empty without a canary block). -/
def canaryNodesOf (st : EDSStatus) : List String :=
  match st.canary with | some cs => cs.nodes | none => []

theorem ersCanaryNodes_eq (d : EDS) : ersCanaryNodes d = canaryNodesOf d.status := rfl

theorem canaryNodesOf_some {st : EDSStatus} {cs : CanaryStatus} (h : st.canary = some cs) :
    canaryNodesOf st = cs.nodes := by
  unfold canaryNodesOf; rw [h]

theorem canaryNodesOf_none {st : EDSStatus} (h : st.canary = none) : canaryNodesOf st = [] := by
  unfold canaryNodesOf; rw [h]

/-- the canary block of the status `updateInstance` computes: without a canary strategy the previous
block; with one, a block naming the up-to-date replica set — which is then not the current one — whose
node list is the previous one or the result of `selectNodes` run on the previous one with the request
resolved against the targeted nodes. -/
theorem updateInstance_canary_block (d : EDS) (current u : ERS) (cu rdy avail : Int) (now : Time)
    (pods : List Pod) (nodes : List Node) :
    ∀ cs, (updateInstance d current u cu rdy avail now pods nodes).status.canary = some cs →
      (d.strategy.canary = none ∧ d.status.canary = some cs) ∨
      ∃ c, d.strategy.canary = some c ∧ cs.replicaSet = u.name ∧ current.name ≠ u.name ∧
        (cs.nodes = canaryNodesOf d.status ∨
         ∃ sel short, selectNodes u.template c (targetedCount u.template nodes) (canaryNodesOf d.status)
           pods nodes = .ok (sel, short) ∧ cs.nodes = sel) := by
  have hcur : (d.status.canary.getD { replicaSet := "", nodes := [] }).nodes = canaryNodesOf d.status := by
    unfold canaryNodesOf; cases d.status.canary <;> rfl
  cases hc : d.strategy.canary with
  | none =>
    intro cs h
    rw [updateInstance_no_canary _ _ _ _ _ _ _ _ _ hc] at h
    exact Or.inl ⟨rfl, h⟩
  | some c =>
    cases hf : isCanaryFailed (some u) with
    | true =>
      intro cs h
      rw [updateInstance_failed _ _ _ _ _ _ _ _ _ c hc hf] at h
      cases h
    | false =>
      cases hact : isCanaryActive (some c) current.name u.name false with
      | false =>
        unfold updateInstance
        simp only [hc, hf, hact, manageStatus_inactive]
        intro cs h
        cases h
      | true =>
        have hne := (isCanaryActive_ne hact).1
        unfold updateInstance
        simp only [hc, hf, hact, manageStatus_active, if_true]
        -- every branch but the successful selection returns the block of `manageStatus_active`
        split
        · intro cs h; cases h; exact Or.inr ⟨c, rfl, rfl, hne, Or.inl hcur⟩
        · split
          · split
            · next sel short hsel =>
              intro cs h
              simp only [Option.map_some, Option.some.injEq] at h
              exact Or.inr ⟨c, rfl, by rw [← h], hne, Or.inr ⟨sel, short, hcur ▸ hsel, by rw [← h]⟩⟩
            · intro cs h; cases h; exact Or.inr ⟨c, rfl, rfl, hne, Or.inl hcur⟩
          · intro cs h; cases h; exact Or.inr ⟨c, rfl, rfl, hne, Or.inl hcur⟩

/-- the status write of `reconcileEds`, traced back to `updateInstance`: the canary node list it
carries is the previous one or the result of `selectNodes` (template of the up-to-date replica set,
request resolved against the nodes that template targets) on the previous one. -/
theorem reconcileEds_canary_nodes (d : EDS) (all : List ERS) (pods : List Pod) (nodes : List Node) (now : Time)
    (mode : String) (st : EDSStatus) (cs : CanaryStatus)
    (hst : (reconcileEds d all pods nodes now mode).statusUpdate = some st) (hcs : st.canary = some cs) :
    ∃ u, upToDateOf d (ownErs d all) = some u ∧
      (cs.nodes = canaryNodesOf d.status ∨
       ∃ c sel short, d.strategy.canary = some c ∧
         selectNodes u.template c (targetedCount u.template nodes) (canaryNodesOf d.status)
           (ownPods d pods) nodes = .ok (sel, short) ∧ cs.nodes = sel) := by
  obtain ⟨_, _, u, hu, hmain⟩ := reconcileEds_main d all pods nodes now mode (Or.inr (by rw [hst]; simp))
  rw [hmain] at hst
  have h1 := edsMain_statusUpdate _ _ _ _ _ _ st hst
  unfold edsUpd at h1
  rw [h1] at hcs
  refine ⟨u, hu, ?_⟩
  rcases updateInstance_canary_block _ _ _ _ _ _ _ _ _ cs hcs with ⟨_, hold⟩ | ⟨c, hc, _, _, h | ⟨sel, short, h⟩⟩
  · exact Or.inl (canaryNodesOf_some hold).symm
  · exact Or.inl h
  · exact Or.inr ⟨c, sel, short, hc, h⟩


/-! ## 5. relation to the pod-store transition of `EdsProps/C01b.lean` -/

/-- without label patches, on pods of the replica set's namespace, the pod transition of the cluster
machine is `applyPodWrites` of C01b (which addresses pods by name only and applies no label patch). -/
theorem applyPodWritesNs_eq_C01b (ns : String) (w : ErsWrites) (pods : List Pod) (now : Time)
    (hns : ∀ p ∈ pods, p.ns = ns) (ha : w.labelAdds = []) (hr : w.labelRemoves = []) :
    applyPodWritesNs ns w pods now = applyPodWrites w pods now := by
  unfold applyPodWritesNs applyPodWrites
  congr 1
  apply List.map_congr_left
  intro p hp
  simp [patchLabels, ha, hr, markDeletedNs, markDeleted, hns p hp]

end Eds
