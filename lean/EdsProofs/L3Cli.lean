import EdsModel.ClusterCli
import EdsProps.L3Live
import EdsProps.C19
/-
  EdsProofs.L3Cli — helper lemmas for EdsProps/L3Cli.lean (the kubectl-eds commands inside the cluster machine).

    1  the shape of a `cli` step: `stepC_cli_eq` (annotations `cliAnn`, replica sets mapped by `cliErsMap`)
    2  `updateCond` on Canary-Failed keeps every other condition
    3  the daemonset reconcile while the canary CONTINUES (`updateInstance_running`, `currentOf_of_active`)
    4  what a command leaves behind: the fields a `cli` step keeps, `cli_settles` (the requested state holds afterwards,
       written or found), the annotation read back after pause / unpause / validate, the refusals during a canary
-/
namespace Eds
open Cluster

/-! ## 1. the shape of a `cli` step -/

/-- the annotations of the daemonset after the command. -/
def cliAnn (w : World) (cmd : CliCmd) : SMap :=
  match cliOut w cmd with
  | .patchAnnotations ann => ann
  | _ => w.eds.annotations

/-- what the command does to a replica set. -/
def cliErsMap (w : World) (cmd : CliCmd) (e : ERS) : ERS :=
  match cliOut w cmd with
  | .failErs name => if e.ns == w.eds.ns && e.name == name then failErsObj w.now e else e
  | _ => e

theorem stepC_op (w : World) (o : Op) : stepC w (.op o) = step w o := rfl

theorem stepC_cli_eq (w : World) (cmd : CliCmd) :
    stepC w (.cli cmd) =
      { w with eds := { w.eds with annotations := cliAnn w cmd }, erss := w.erss.map (cliErsMap w cmd) } := by
  show applyCli w (cliOut w cmd) = _
  unfold cliAnn cliErsMap
  cases cliOut w cmd with
  | patchAnnotations ann => simp [applyCli]
  | failErs name => simp [applyCli]
  | refused why => simp [applyCli]

theorem cliErsMap_eq (w : World) (cmd : CliCmd) (e : ERS) :
    cliErsMap w cmd e = { e with status := (cliErsMap w cmd e).status } := by
  unfold cliErsMap
  split
  · split <;> rfl
  · rfl

theorem cliErsMap_frame (w : World) (cmd : CliCmd) (e : ERS) :
    (cliErsMap w cmd e).ns = e.ns ∧ (cliErsMap w cmd e).labels = e.labels ∧
    (cliErsMap w cmd e).annotations = e.annotations := by
  rw [cliErsMap_eq]; exact ⟨rfl, rfl, rfl⟩

theorem cliErsMap_name (w : World) (cmd : CliCmd) (e : ERS) : (cliErsMap w cmd e).name = e.name := by
  rw [cliErsMap_eq]

theorem cliErsMap_of_ne_fail (w : World) (cmd : CliCmd) (h : cmd ≠ .canaryFail) (e : ERS) :
    cliErsMap w cmd e = e := by
  unfold cliErsMap
  split
  · rename_i name hn
    exact absurd (C19_only_fail_touches_ers cmd _ _ _ name hn) h
  · rfl

theorem cliErsMap_id (w : World) (cmd : CliCmd) (h : cmd ≠ .canaryFail) : cliErsMap w cmd = id :=
  funext (cliErsMap_of_ne_fail w cmd h)

theorem stepC_cli_ne_fail (w : World) (cmd : CliCmd) (h : cmd ≠ .canaryFail) :
    stepC w (.cli cmd) = { w with eds := { w.eds with annotations := cliAnn w cmd } } := by
  rw [stepC_cli_eq, cliErsMap_id w cmd h, List.map_id]

theorem cliAnn_fail (w : World) : cliAnn w .canaryFail = w.eds.annotations := by
  unfold cliAnn
  split
  · rename_i ann hn
    exact absurd hn (C19_fail_never_patches _ _ _ ann)
  · rfl

theorem stepC_cli_own (w : World) (cmd : CliCmd) :
    (stepC w (.cli cmd)).own = w.own.map (cliErsMap w cmd) := by
  rw [stepC_cli_eq]
  unfold World.own
  show ownErs { w.eds with annotations := cliAnn w cmd } (w.erss.map (cliErsMap w cmd)) = _
  rw [ownErs_congr { w.eds with annotations := cliAnn w cmd } w.eds _ rfl rfl]
  exact ownErs_map _ _ _ (cliErsMap_frame w cmd)

theorem findErs_stepC_cli (w : World) (cmd : CliCmd) (name : String) :
    findErs (stepC w (.cli cmd)) name = (findErs w name).map (cliErsMap w cmd) := by
  rw [stepC_cli_eq]
  unfold findErs
  show (w.erss.map (cliErsMap w cmd)).find? (fun e => e.ns == w.eds.ns && e.name == name) = _
  apply find?_map_congr
  intro e
  rw [(cliErsMap_frame w cmd e).1, cliErsMap_name]

/-! ## 2. `updateCond` keeps the conditions of every other type -/

theorem cliFailConds_other (cs : List Cond) (now : Time) :
    (cliFailConds cs now).filter (fun c => c.type != "Canary-Failed") =
      cs.filter (fun c => c.type != "Canary-Failed") := by
  unfold cliFailConds updateCond
  split
  · apply updateFirst_filter_other
    intro c
    by_cases h1 : (c.status != "True") = true <;> simp [h1]
  · simp [List.filter_append]

theorem cliFailConds_true (cs : List Cond) (now : Time) :
    isCondTrue (cliFailConds cs now) "Canary-Failed" = true :=
  C19_fail_via_updateCond cs now "Manually failed" "" false true

theorem failErsObj_failed (now : Time) (e : ERS) : isCanaryFailed (some (failErsObj now e)) = true :=
  cliFailConds_true e.status.conds now

/-! ## 3. the daemonset reconcile while the canary continues -/

/-- **the canary is running and its node selection is settled**: the status carries the canary block `cs`, the
block names the up-to-date replica set `u`, the number of canary nodes the strategy asks for (resolved against
`status.desired`, as `updateInstanceWithCurrentRS` does) is the number of nodes already selected, and `u` has not
failed. -/
structure CanaryRunning (w : World) (u : ERS) (c : Canary) (cs : CanaryStatus) : Prop where
  block : w.eds.status.canary = some cs
  named : cs.replicaSet = u.name
  settled : resolveIntOrPercent c.replicas w.eds.status.desired = some (cs.nodes.length : Int)
  notFailed : isCanaryFailed (some u) = false

/-- `updateInstance` while the canary continues: no node selection, no template restore, annotations kept. -/
theorem updateInstance_running (d : EDS) (a u : ERS) (cur rdy avail : Int) (now : Time)
    (pods : List Pod) (nodes : List Node) (c : Canary) (cs : CanaryStatus) (hc : d.strategy.canary = some c)
    (hne : a.name ≠ u.name) (hf : isCanaryFailed (some u) = false) (hcs : d.status.canary = some cs)
    (hset : resolveIntOrPercent c.replicas d.status.desired = some (cs.nodes.length : Int)) :
    updateInstance d a u cur rdy avail now pods nodes =
      { status := manageStatus
          { baseStatus d a cur rdy avail with
            conds := manageCanaryStatusConditions d.status.conds now false
              (isCanaryPaused d.annotations (some u)).1 (isCanaryPaused d.annotations (some u)).2 u.name }
          u true false (isCanaryPaused d.annotations (some u)).1 (isCanaryPaused d.annotations (some u)).2 d.annotations,
        restoreFrom := none, annotations := d.annotations, selectErr := false } := by
  unfold updateInstance
  simp only [hc, hf]
  have ha : isCanaryActive (some c) a.name u.name false = true := by simp [isCanaryActive, hne]
  simp only [ha, manageStatus_active, hset, baseStatus, hcs]
  simp

theorem currentOf_of_active (d : EDS) (list : List ERS) (u a : ERS) (now : Time) (c : Canary)
    (hc : d.strategy.canary = some c)
    (hact : lastWhere (fun e => e.name == d.status.activeReplicaSet) list = some a)
    (hsel : (selectCurrent (some c) d.annotations (some a) u false now).1 = .active) :
    (currentOf d list u now).1 = a := by
  unfold currentOf
  simp only [hact, hc]
  cases hsc : selectCurrent (some c) d.annotations (some a) u false now with
  | mk p rq =>
    rw [hsc] at hsel
    simp only [] at hsel
    subst hsel
    rfl

/-! ## 4. what a command leaves behind -/

section Settles
open Spec.C19

theorem stepC_cli_status (w : World) (cmd : CliCmd) : (stepC w (.cli cmd)).eds.status = w.eds.status := by
  rw [stepC_cli_eq]

theorem stepC_cli_template (w : World) (cmd : CliCmd) :
    (stepC w (.cli cmd)).eds.templateHash = w.eds.templateHash ∧ (stepC w (.cli cmd)).eds.template = w.eds.template := by
  rw [stepC_cli_eq]; exact ⟨rfl, rfl⟩

theorem stepC_cli_annotations (w : World) (cmd : CliCmd) : (stepC w (.cli cmd)).eds.annotations = cliAnn w cmd := by
  rw [stepC_cli_eq]

theorem CanaryRunning.of_status {w w' : World} {u : ERS} {c : Canary} {cs : CanaryStatus}
    (R : CanaryRunning w u c cs) (h : w'.eds.status = w.eds.status) : CanaryRunning w' u c cs :=
  ⟨by rw [h]; exact R.block, R.named, by rw [h]; exact R.settled, R.notFailed⟩

/-- a clock tick changes nothing a `CanaryWorld` reads. -/
theorem CanaryWorld.tick {w : World} {a u : ERS} {c : Canary} (H : CanaryWorld w a u c) (d : Nat) :
    CanaryWorld (step w (.tick d)) a u c :=
  H.transfer id (fun _ => rfl) (List.map_id _).symm rfl rfl rfl rfl

/-- **a command whose documented precondition holds leaves the daemonset in the state it asks for**: either the
object already was in that state (the command is refused, the annotations are unchanged), or the documented values
have been written. -/
theorem cli_settles (w : World) (cmd : CliCmd) (hne : cmd ≠ .canaryFail)
    (hpre : precondition cmd w.eds.strategy.canary.isSome w.eds.status.canary = true) :
    (C19.already cmd w.eds.status.canary w.eds.annotations = true ∧
      (stepC w (.cli cmd)).eds.annotations = w.eds.annotations) ∨
    writtenOk cmd w.eds.status.canary (stepC w (.cli cmd)).eds.annotations = true := by
  rw [stepC_cli_annotations]
  unfold cliAnn cliOut
  cases hal : C19.already cmd w.eds.status.canary w.eds.annotations with
  | true =>
    obtain ⟨why, hw⟩ := C19_refuses_already cmd w.eds.strategy.canary.isSome _ _ hal
    rw [hw]
    exact Or.inl ⟨rfl, rfl⟩
  | false =>
    have hr := (C19_acts cmd _ _ _ hpre hal).1 hne
    rw [hr]
    exact Or.inr (C19_writes _ _ _ _ _ hr)

/-- reading a key after such a command: the value both outcomes of `cli_settles` agree on. -/
theorem cli_settles_get (w : World) (cmd : CliCmd) (hne : cmd ≠ .canaryFail)
    (hpre : precondition cmd w.eds.strategy.canary.isSome w.eds.status.canary = true) (k v : String)
    (hal : C19.already cmd w.eds.status.canary w.eds.annotations = true → SMap.get? w.eds.annotations k = some v)
    (hwr : ∀ ann, writtenOk cmd w.eds.status.canary ann = true → SMap.get? ann k = some v) :
    SMap.get? (stepC w (.cli cmd)).eds.annotations k = some v := by
  rcases cli_settles w cmd hne hpre with ⟨h, he⟩ | h
  · rw [he]; exact hal h
  · exact hwr _ h

/-- after `canary pause` on a daemonset with a canary strategy and an active canary the canary-paused annotation
reads "true" — whether the command acted or refused because it already did. -/
theorem pause_annotation (w : World) (c : Canary) (cs : CanaryStatus) (hc : w.eds.strategy.canary = some c)
    (hb : w.eds.status.canary = some cs) :
    SMap.get? (stepC w (.cli .canaryPause)).eds.annotations K.canaryPausedAnnot = some "true" :=
  cli_settles_get w .canaryPause nofun (by rw [hc, hb]; rfl) _ _ (fun hal => by simpa [C19.already] using hal)
    (fun ann hw => by simp only [writtenOk, Bool.and_eq_true, beq_iff_eq] at hw; exact hw.1)

/-- after `canary unpause` (canary strategy, active canary) the canary-paused annotation reads "false". -/
theorem unpause_annotation (w : World) (c : Canary) (cs : CanaryStatus) (hc : w.eds.strategy.canary = some c)
    (hb : w.eds.status.canary = some cs) :
    SMap.get? (stepC w (.cli .canaryUnpause)).eds.annotations K.canaryPausedAnnot = some "false" :=
  cli_settles_get w .canaryUnpause nofun (by rw [hc, hb]; rfl) _ _ (fun hal => by simpa [C19.already] using hal)
    (fun ann hw => by simp only [writtenOk, Bool.and_eq_true, beq_iff_eq] at hw; exact hw.1)

/-- after `canary validate` with an active canary the canary-valid annotation names `status.canary.replicaSet`. -/
theorem validate_annotation (w : World) (cs : CanaryStatus) (hb : w.eds.status.canary = some cs) :
    SMap.get? (stepC w (.cli .canaryValidate)).eds.annotations K.canaryValidAnnot = some cs.replicaSet :=
  cli_settles_get w .canaryValidate nofun (by rw [hb]; rfl) _ _ (fun hal => by simpa [C19.already, hb] using hal)
    (fun ann hw => by simpa [writtenOk, hb] using hw)

theorem cliOut_fail {w : World} {c : Canary} {cs : CanaryStatus} (hc : w.eds.strategy.canary = some c)
    (hb : w.eds.status.canary = some cs) : cliOut w .canaryFail = .failErs cs.replicaSet := by
  unfold cliOut
  rw [hc, hb]; rfl

/-- the world after `canary fail`: only the replica-set list differs. -/
theorem stepC_fail_eq (w : World) :
    stepC w (.cli .canaryFail) = { w with erss := w.erss.map (cliErsMap w .canaryFail) } := by
  rw [stepC_cli_eq, cliAnn_fail]

/-- with `status.canary` set, the rolling-update and freeze commands are refused. -/
theorem cliOut_refused_active_canary {w : World} {cs : CanaryStatus} (hb : w.eds.status.canary = some cs)
    (cmd : CliCmd) (h : cmd = .ruPause ∨ cmd = .ruUnpause ∨ cmd = .freeze ∨ cmd = .unfreeze) :
    cliOut w cmd = .refused "active-canary" := by
  unfold cliOut
  rw [hb]
  rcases h with rfl | rfl | rfl | rfl <;> rfl

end Settles

/-- a replica set created at the world's clock has not ended its canary (durations are not negative). -/
theorem isCanaryEnded_new (c : Canary) (n : ERS) (now : Time) (hcr : n.creation = now)
    (hd : ∀ d, c.duration = some d → 0 ≤ d) : (isCanaryEnded (some c) n now).1 = false := by
  unfold isCanaryEnded
  simp only []
  cases hdu : c.duration with
  | none => rfl
  | some d =>
    have := hd d hdu
    simp only [hcr]
    generalize pendingNoRestart c d n now = pnr
    have hp : (if pnr > now + d - now then pnr else now + d - now) ≥ 0 := by split <;> omega
    rw [if_pos hp]

end Eds
