import EdsModel.Generated.DecRolling
import EdsProofs.BridgePodCompare
import EdsModel.Rolling
/-
  EdsProofs.BridgeRolling — the classification loop of `ManageDeployment` (strategy/rollingupdate.go),

      for node, pod := range params.PodByNodeName { … }

  as the translator regenerates it on every run (EdsModel/Generated/DecRolling.lean: the statement is cut out of the
  function — the rest of `ManageDeployment` talks to the API server — and translated as a function of the locals it
  reads, returning the locals it assigns), is the fold of the model's `countStep` (EdsModel/Rolling.lean, `countAll`).

  Iteration over the Go map is iteration over the association list in the order given: the theorems hold for every
  list, i.e. for every iteration order Go may choose.  Every iteration reads the wall clock twice
  (`HasPodSchedulerIssue`): the translated loop takes the two readings as functions of the iteration index; the model
  evaluates the whole loop at one instant `wall`, which is the hypothesis `hw1` / `hw2` of the bridge (the clock does not
  advance during the loop).
-/
namespace Eds.Bridge
open Eds

/-- the deletion candidates in iteration order: what the Go loop appends to its single list `allPodToDelete` (the model
keeps the unavailable and the available ones apart, `toDeleteUnavail` / `toDeleteAvail`; see `delOrder_partition`). -/
def delStep (tg : String) (wall : Time) (d : List (NodeItem × Pod)) (e : NodeItem × Option Pod) : List (NodeItem × Pod) :=
  match e.2 with
  | none => d
  | some pod =>
    match classify tg wall e with
    | .outdated _ => d ++ [(e.1, pod)]
    | _ => d

def delOrder (tg : String) (wall : Time) (es : List (NodeItem × Option Pod)) : List (NodeItem × Pod) :=
  es.foldl (delStep tg wall) []

/-- one iteration of the translated loop is the model's `countStep` (and `delStep` for the single deletion list); no
iteration panics. -/
theorem classify_cons (metaNow : Int) (P : GParams) (rs : ERS) (hrs : P.replicaset = some rs) (nilSlice : Bool)
    (w1 w2 : Int → Int) (wall : Time) (hw1 : ∀ i, w1 i = wall) (hw2 : ∀ i, w2 i = wall)
    (k : List (Option NodeItem) → List (Option NodeItem) → Int → Int → Int → Int → Int → Int → Int → Int → Int →
      Option (List (Option NodeItem) × List (Option NodeItem) × Int × Int × Int × Int × Int × Int × Int × Int × Int))
    (ni : NodeItem) (go : Option GPod) (mo : Option Pod) (hv : OptPodRel go mo)
    (rest : List (Option NodeItem × Option GPod)) (i : Int) (c : Counts) (d : List (NodeItem × Pod)) :
    Generated.Decisions.manageDeploymentClassify.loop1 metaNow P nilSlice w1 w2 k ((some ni, go) :: rest) i
        (c.toCreate.map some) (d.map fun e => some e.1) c.allPods c.available c.created c.desired c.stuck c.oldAvailable
        c.oldUnavailable c.terminating c.ready =
      Generated.Decisions.manageDeploymentClassify.loop1 metaNow P nilSlice w1 w2 k rest (i + 1)
        ((countStep rs.templateGeneration wall c (ni, mo)).toCreate.map some)
        ((delStep rs.templateGeneration wall d (ni, mo)).map fun e => some e.1)
        (countStep rs.templateGeneration wall c (ni, mo)).allPods (countStep rs.templateGeneration wall c (ni, mo)).available
        (countStep rs.templateGeneration wall c (ni, mo)).created (countStep rs.templateGeneration wall c (ni, mo)).desired
        (countStep rs.templateGeneration wall c (ni, mo)).stuck (countStep rs.templateGeneration wall c (ni, mo)).oldAvailable
        (countStep rs.templateGeneration wall c (ni, mo)).oldUnavailable
        (countStep rs.templateGeneration wall c (ni, mo)).terminating (countStep rs.templateGeneration wall c (ni, mo)).ready := by
  simp only [Generated.Decisions.manageDeploymentClassify.loop1]
  cases hv with
  | none => simp [countStep, delStep]
  | @some g m hr =>
    simp only [Option.isNone_some, Bool.false_eq_true, if_false, hw1, hw2,
      src_hasPodSchedulerIssue g m wall hr.rel.nodeName hr.rel.creation hr.deletion hr.gracePeriod, Option.bind_some,
      src_compareCurrentPodWithNewPod P rs hrs g m ni hr, src_isPodAvailable g m hr.rel.conds,
      src_isPodReady g m hr.rel.conds, hr.deletion.symm]
    generalize hc' : countStep rs.templateGeneration wall c (ni, some m) = c'
    generalize hd' : delStep rs.templateGeneration wall d (ni, some m) = d'
    simp only [countStep, delStep, classify] at hc' hd'
    -- along `classify`: stuck; outdated (terminating or a deletion candidate); up to date
    cases hsi : m.schedulerIssue wall
    · cases hcmp : comparePod rs.templateGeneration m ni
      · cases hdel : m.deletion.isNone
        · simp only [hsi, hcmp, hdel, Bool.false_eq_true, if_false, Bool.not_false, if_true] at hc' hd' ⊢
          subst hc' hd'
          rfl
        · simp only [hsi, hcmp, hdel, Bool.false_eq_true, if_false, Bool.not_false, if_true] at hc' hd' ⊢
          subst hc' hd'
          cases m.available <;>
            simp only [List.map_append, List.map_cons, List.map_nil, Bool.false_eq_true, if_false, if_true]
      · simp only [hsi, hcmp, Bool.false_eq_true, if_false, Bool.not_true] at hc' hd' ⊢
        subst hc' hd'
        cases m.available <;> cases m.ready <;> simp only [Bool.false_eq_true, if_false, if_true, Int.add_zero]
    · simp only [hsi, if_true] at hc' hd' ⊢
      subst hc' hd'
      rfl

/-- the translated loop over `params.PodByNodeName` is the fold of `countStep` / `delStep` over the model's list. -/
theorem classifyLoop (metaNow : Int) (P : GParams) (rs : ERS) (hrs : P.replicaset = some rs) (nilSlice : Bool)
    (w1 w2 : Int → Int) (wall : Time) (hw1 : ∀ i, w1 i = wall) (hw2 : ∀ i, w2 i = wall)
    (k : List (Option NodeItem) → List (Option NodeItem) → Int → Int → Int → Int → Int → Int → Int → Int → Int →
      Option (List (Option NodeItem) × List (Option NodeItem) × Int × Int × Int × Int × Int × Int × Int × Int × Int))
    (PB : List (Option NodeItem × Option GPod)) (es : List (NodeItem × Option Pod)) (hrel : EntriesRel PB es)
    (i : Int) (c : Counts) (d : List (NodeItem × Pod)) :
    Generated.Decisions.manageDeploymentClassify.loop1 metaNow P nilSlice w1 w2 k PB i
        (c.toCreate.map some) (d.map fun e => some e.1) c.allPods c.available c.created c.desired c.stuck c.oldAvailable
        c.oldUnavailable c.terminating c.ready =
      k ((es.foldl (countStep rs.templateGeneration wall) c).toCreate.map some)
        ((es.foldl (delStep rs.templateGeneration wall) d).map fun e => some e.1)
        (es.foldl (countStep rs.templateGeneration wall) c).allPods (es.foldl (countStep rs.templateGeneration wall) c).available
        (es.foldl (countStep rs.templateGeneration wall) c).created (es.foldl (countStep rs.templateGeneration wall) c).desired
        (es.foldl (countStep rs.templateGeneration wall) c).stuck (es.foldl (countStep rs.templateGeneration wall) c).oldAvailable
        (es.foldl (countStep rs.templateGeneration wall) c).oldUnavailable
        (es.foldl (countStep rs.templateGeneration wall) c).terminating (es.foldl (countStep rs.templateGeneration wall) c).ready := by
  induction hrel generalizing i c d with
  | nil => simp [Generated.Decisions.manageDeploymentClassify.loop1]
  | @cons ni go mo PB es hv _ ih =>
    rw [classify_cons metaNow P rs hrs nilSlice w1 w2 wall hw1 hw2 k ni go mo hv PB i c d, ih]
    simp

/-- **the classification loop of `ManageDeployment`** (C03, C09, C14: the counters `calcLimits` and the status are
computed from).  Started from the values `ManageDeployment` initialises (zero counters, empty lists), on a non-nil
`params` with a non-nil `Replicaset`, for every association list `PodByNodeName` related entry by entry to the model's
list (any content, any order), with the clock constant during the loop: the translated statement never panics and
leaves exactly the model's `countAll` in the locals — `allPodToDelete` being the deletion candidates in iteration
order, `delOrder`. -/
theorem src_manageDeploymentClassify (P : GParams) (rs : ERS) (hrs : P.replicaset = some rs) (metaNow : Int)
    (nilSlice : Bool) (w1 w2 : Int → Int) (wall : Time) (hw1 : ∀ i, w1 i = wall) (hw2 : ∀ i, w2 i = wall)
    (es : List (NodeItem × Option Pod)) (hrel : EntriesRel P.podByNodeName es) :
    Generated.Decisions.manageDeploymentClassify (some P) metaNow 0 0 0 0 0 0 0 0 0 [] [] nilSlice w1 w2 =
      some ((countAll rs.templateGeneration wall es).toCreate.map some,
            (delOrder rs.templateGeneration wall es).map (fun e => some e.1),
            (countAll rs.templateGeneration wall es).allPods, (countAll rs.templateGeneration wall es).available,
            (countAll rs.templateGeneration wall es).created, (countAll rs.templateGeneration wall es).desired,
            (countAll rs.templateGeneration wall es).stuck, (countAll rs.templateGeneration wall es).oldAvailable,
            (countAll rs.templateGeneration wall es).oldUnavailable, (countAll rs.templateGeneration wall es).terminating,
            (countAll rs.templateGeneration wall es).ready) := by
  unfold Generated.Decisions.manageDeploymentClassify
  simp only [Option.bind_some]
  have := classifyLoop metaNow P rs hrs nilSlice w1 w2 wall hw1 hw2
    (fun a b c d e f g h i j k => some (a, b, c, d, e, f, g, h, i, j, k)) P.podByNodeName es hrel 0 {} []
  simp only [List.map_nil] at this
  rw [this]
  rfl

/-! `ManageDeployment` then sorts `allPodToDelete` stably with `less(i, j) = !available(i) && available(j)`
(`sort.SliceStable`, library code): the unavailable candidates first, each class in iteration order.  That is the
model's `toDeleteUnavail ++ toDeleteAvail` (`rollingPlan`): -/

theorem del_partition_step (tg : String) (wall : Time) (c : Counts) (d : List (NodeItem × Pod)) (e : NodeItem × Option Pod)
    (h1 : d.filter (fun x => !x.2.available) = c.toDeleteUnavail)
    (h2 : d.filter (fun x => x.2.available) = c.toDeleteAvail) :
    (delStep tg wall d e).filter (fun x => !x.2.available) = (countStep tg wall c e).toDeleteUnavail ∧
    (delStep tg wall d e).filter (fun x => x.2.available) = (countStep tg wall c e).toDeleteAvail := by
  rcases e with ⟨ni, mo⟩
  cases mo with
  | none => simpa [delStep, countStep] using ⟨h1, h2⟩
  | some m =>
    unfold delStep countStep classify
    simp only []
    cases m.schedulerIssue wall <;> cases comparePod tg m ni <;> cases m.deletion <;> cases hav : m.available <;>
      simp [hav, h1, h2, List.filter_append]

/-- the stable partition of the Go loop's `allPodToDelete` by availability is the model's pair of lists. -/
theorem src_delOrder_partition (tg : String) (wall : Time) (es : List (NodeItem × Option Pod)) :
    (delOrder tg wall es).filter (fun x => !x.2.available) = (countAll tg wall es).toDeleteUnavail ∧
    (delOrder tg wall es).filter (fun x => x.2.available) = (countAll tg wall es).toDeleteAvail := by
  unfold delOrder countAll
  suffices h : ∀ (c : Counts) (d : List (NodeItem × Pod)),
      d.filter (fun x => !x.2.available) = c.toDeleteUnavail → d.filter (fun x => x.2.available) = c.toDeleteAvail →
      (es.foldl (delStep tg wall) d).filter (fun x => !x.2.available) = (es.foldl (countStep tg wall) c).toDeleteUnavail ∧
      (es.foldl (delStep tg wall) d).filter (fun x => x.2.available) = (es.foldl (countStep tg wall) c).toDeleteAvail from
    h {} [] rfl rfl
  induction es with
  | nil => intro c d h1 h2; exact ⟨h1, h2⟩
  | cons e es ih =>
    intro c d h1 h2
    obtain ⟨g1, g2⟩ := del_partition_step tg wall c d e h1 h2
    exact ih _ _ g1 g2

/-- a nil `params` is dereferenced by the range expression. -/
theorem src_manageDeploymentClassify_nil (metaNow : Int) (nilSlice : Bool) (w1 w2 : Int → Int)
    (a b c d e f g h i : Int) (l1 l2 : List (Option NodeItem)) :
    Generated.Decisions.manageDeploymentClassify none metaNow a b c d e f g h i l1 l2 nilSlice w1 w2 = none := rfl

/-! ### Non-vacuity: a concrete map, evaluated on both sides, in both orders.

`n1` runs an outdated (wrong template hash), ready pod; `n2` has no pod.  The counters do not depend on the order of the
association list; the lists are in iteration order. -/

def rNode (n : String) : NodeItem := { node := { (default : Node) with name := n }, setting := none }

def rGoPod : GPod :=
  { (default : GPod) with
    name := "p1", spec := { nodeName := "n1", affinity := none },
    status := { phase := "Running", reason := "", startTime := none, initContainerStatuses := [],
                containerStatuses := [], ephemeralContainerStatuses := [],
                conditions := [{ type := "Ready", status := "True", lastProbeTime := 0, lastTransitionTime := 0,
                                 reason := "", message := "" }] },
    annotations := [⟨"extendeddaemonset.datadoghq.com/templatehash", "old"⟩] }

def rModelPod : Pod :=
  { (default : Pod) with
    name := "p1", nodeName := "n1", conds := Go.canonPodConds rGoPod,
    annotations := [⟨"extendeddaemonset.datadoghq.com/templatehash", "old"⟩] }

def rErs : ERS := { (default : ERS) with name := "rs", templateGeneration := "new" }

def rParams (pb : List (Option NodeItem × Option GPod)) : GParams :=
  { strategy := none, newStatus := none, replicaset := some rErs, podByNodeName := pb }

theorem rPodRel : PodRelC rGoPod rModelPod :=
  { rel := { name := rfl, nodeName := rfl, creation := rfl, startTime := rfl, conds := rfl, cstats := rfl,
             affRequired := rfl, annotations := rfl },
    deletion := rfl, gracePeriod := rfl, containers := rfl }

theorem ex_classify_eval :
    Generated.Decisions.manageDeploymentClassify
        (some (rParams [(some (rNode "n1"), some rGoPod), (some (rNode "n2"), none)])) 100 0 0 0 0 0 0 0 0 0 [] [] false
        (fun _ => 100) (fun _ => 100) =
      some ([some (rNode "n2")], [some (rNode "n1")], 1, 0, 0, 2, 0, 1, 0, 0, 0) ∧
    Generated.Decisions.manageDeploymentClassify
        (some (rParams [(some (rNode "n2"), none), (some (rNode "n1"), some rGoPod)])) 100 0 0 0 0 0 0 0 0 0 [] [] false
        (fun _ => 100) (fun _ => 100) =
      some ([some (rNode "n2")], [some (rNode "n1")], 1, 0, 0, 2, 0, 1, 0, 0, 0) ∧
    ((countAll "new" 100 [(rNode "n1", some rModelPod), (rNode "n2", none)]).desired,
     (countAll "new" 100 [(rNode "n1", some rModelPod), (rNode "n2", none)]).oldAvailable,
     (countAll "new" 100 [(rNode "n1", some rModelPod), (rNode "n2", none)]).allPods) = (2, 1, 1) := by
  refine ⟨?_, ?_, ?_⟩
  · rfl
  · rfl
  · decide +kernel

theorem ex_classify_bridge :
    Generated.Decisions.manageDeploymentClassify
        (some (rParams [(some (rNode "n1"), some rGoPod), (some (rNode "n2"), none)])) 100 0 0 0 0 0 0 0 0 0 [] [] false
        (fun _ => 100) (fun _ => 100) =
      some (((countAll "new" 100 [(rNode "n1", some rModelPod), (rNode "n2", none)]).toCreate.map some),
            (delOrder "new" 100 [(rNode "n1", some rModelPod), (rNode "n2", none)]).map (fun e => some e.1),
            (countAll "new" 100 [(rNode "n1", some rModelPod), (rNode "n2", none)]).allPods,
            (countAll "new" 100 [(rNode "n1", some rModelPod), (rNode "n2", none)]).available,
            (countAll "new" 100 [(rNode "n1", some rModelPod), (rNode "n2", none)]).created,
            (countAll "new" 100 [(rNode "n1", some rModelPod), (rNode "n2", none)]).desired,
            (countAll "new" 100 [(rNode "n1", some rModelPod), (rNode "n2", none)]).stuck,
            (countAll "new" 100 [(rNode "n1", some rModelPod), (rNode "n2", none)]).oldAvailable,
            (countAll "new" 100 [(rNode "n1", some rModelPod), (rNode "n2", none)]).oldUnavailable,
            (countAll "new" 100 [(rNode "n1", some rModelPod), (rNode "n2", none)]).terminating,
            (countAll "new" 100 [(rNode "n1", some rModelPod), (rNode "n2", none)]).ready) :=
  src_manageDeploymentClassify _ rErs rfl 100 false _ _ 100 (fun _ => rfl) (fun _ => rfl) _
    (.cons (.some rPodRel) (.cons .none .nil))

end Eds.Bridge
