import EdsModel.Generated.DecCanary
import EdsProofs.BridgeConds
/-
  EdsProofs.BridgeCanary — the hand-written model functions the property theorems are stated about are
  *equal* to the Lean definitions the translator (tools/extract/gotolean.go) regenerates from the Go
  source on every run (EdsModel/Generated/DecCanary.lean).  A change to one of these Go functions
  changes the generated definition and breaks the corresponding `src_*` theorem.

  `none` on the generated side is a Go panic; every theorem therefore also says that the function
  does not panic on the stated arguments (non-nil where the callers pass non-nil).
-/
namespace Eds.Bridge
open Eds

theorem src_isRollingUpdatePaused (ann : SMap) :
    Generated.Decisions.isRollingUpdatePaused ann = some (SMap.getD ann K.rollingUpdatePausedAnnot == "true") := rfl

theorem src_isRolloutFrozen (ann : SMap) :
    Generated.Decisions.isRolloutFrozen ann = some (SMap.getD ann K.rolloutFrozenAnnot == "true") := rfl

theorem src_nonCanaryState (ann : SMap) : Generated.Decisions.nonCanaryState ann = some (Eds.nonCanaryState ann) := by
  unfold Generated.Decisions.nonCanaryState Eds.nonCanaryState
  simp only [src_isRolloutFrozen, src_isRollingUpdatePaused, Option.bind_some, apply_ite some]

theorem optEqLemma (x : Option String) (s : String) :
    (if x.isSome = true then some (x.getD "" == s) else some false) = some (x == some s) := by
  cases x <;> simp

theorem src_isCanaryUnpaused (ann : SMap) :
    Generated.Decisions.isCanaryDeploymentUnpaused ann = some (isCanaryUnpaused ann) := by
  unfold Generated.Decisions.isCanaryDeploymentUnpaused isCanaryUnpaused
  simp only [SMap.contains, SMap.getD, K.canaryUnpausedAnnot]
  exact optEqLemma _ _

theorem src_isCanaryValid (ann : SMap) (n : String) :
    Generated.Decisions.isCanaryDeploymentValid ann n = some (isCanaryValid ann n) := by
  unfold Generated.Decisions.isCanaryDeploymentValid isCanaryValid
  simp only [SMap.contains, SMap.getD, K.canaryValidAnnot]
  exact optEqLemma _ _

theorem src_isCanaryFailed (ers : Option ERS) :
    Generated.Decisions.isCanaryDeploymentFailed ers = some (isCanaryFailed ers) := by
  unfold Generated.Decisions.isCanaryDeploymentFailed isCanaryFailed
  cases ers with
  | none => simp [Option.bind]
  | some e => cases h : isCondTrue e.status.conds "Canary-Failed" <;> simp [Option.bind, h]

theorem pausedAnnLemma (x y : Option String) :
    (if (x.isSome && x.getD "" == "true") = true then
        (if y.isSome = true then some (true, y.getD "") else some (true, "Unknown"))
      else some (false, "")) =
    some (if (x == some "true") = true then (true, match y with | some r => r | none => "Unknown")
          else (false, "")) := by
  cases x <;> cases y <;> simp [ite_some_some]

theorem src_isCanaryPaused (ann : SMap) (ers : Option ERS) :
    Generated.Decisions.isCanaryDeploymentPaused ann ers = some (isCanaryPaused ann ers) := by
  unfold Generated.Decisions.isCanaryDeploymentPaused isCanaryPaused
  simp only [SMap.contains, SMap.getD, K.canaryPausedAnnot, K.canaryPausedReasonAnnot]
  cases ers with
  | none =>
    simp only [Option.isSome_none, Option.bind]
    exact pausedAnnLemma _ _
  | some e =>
    simp only [Option.isSome_some, Option.bind]
    by_cases h : isCondTrue e.status.conds "Canary-Paused" = true
    · obtain ⟨c, hc, _⟩ := isCondTrue_findCond h
      simp [h, hc]
    · simp only [h]
      exact pausedAnnLemma _ _

theorem endedCore (fc : Option Cond) (nr : Option Int) (d creation now : Int) :
    ((if fc.isSome = true then fc.bind fun rc => some rc.lastUpdate else some zeroTime).bind fun lastRestartTime =>
      (if (nr.isSome && !isZeroTime lastRestartTime) = true then
          nr.bind fun p5 => some (lastRestartTime + p5 - now)
        else some (-d)).bind fun pnr =>
        if decide ((if decide (pnr > creation + d - now) = true then pnr else creation + d - now) ≥ 0) = true then
          some (false, if decide (pnr > creation + d - now) = true then pnr else creation + d - now)
        else some (true, if decide (pnr > creation + d - now) = true then pnr else creation + d - now)) =
    some (
      let lrt := match fc with | some rc => rc.lastUpdate | none => zeroTime
      let pnr := match nr with
        | some nr => if !isZeroTime lrt then lrt + nr - now else -d
        | none => -d
      let pending : Int := creation + d - now
      let pending := if pnr > pending then pnr else pending
      if pending >= 0 then (false, pending) else (true, pending)) := by
  cases fc <;> cases nr <;> simp only [Option.isSome_some, Option.isSome_none, Option.bind_some,
    Option.bind_none, Bool.false_and, Bool.true_and, if_true, if_false, decide_eq_true_eq, Bool.false_eq_true,
    ite_some_some]

theorem src_isCanaryEnded (c : Option Canary) (rs : ERS) (now : Time) :
    Generated.Decisions.isCanaryDeploymentEnded c (some rs) now = some (isCanaryEnded c rs now) := by
  unfold Generated.Decisions.isCanaryDeploymentEnded isCanaryEnded
  cases c with
  | none => simp
  | some c =>
    simp only [Option.isNone_some, Option.bind_some]
    cases hd : c.duration with
    | none => simp
    | some d =>
      simp only [Option.isNone_some, pendingNoRestart, lastRestartTime, Option.bind_some]
      exact endedCore _ _ _ _ _

/-- the replica set `selectCurrentReplicaSet` returns, in terms of the model's `Pick`. -/
def pickErs (p : Pick) (active : Option ERS) (u : ERS) : Option ERS :=
  match p with
  | .active => active
  | .upToDate => some u

theorem src_selectCurrent (d : GEds) (active : Option ERS) (u : ERS) (now : Time) (same : Bool) :
    Generated.Decisions.selectCurrentReplicaSet (some d) active (some u) now same =
      some (pickErs (selectCurrent d.spec.strategy.canary d.annotations active u same now).1 active u,
            (selectCurrent d.spec.strategy.canary d.annotations active u same now).2) := by
  unfold Generated.Decisions.selectCurrentReplicaSet selectCurrent
  cases same with
  | true => simp [pickErs]
  | false =>
    cases active with
    | none => simp [pickErs]
    | some a =>
      cases hc : d.spec.strategy.canary with
      | none => simp [pickErs, hc]
      | some c =>
        simp only [Bool.false_eq_true, if_false, Option.isNone_some, Option.bind_some, hc,
          src_isCanaryEnded, src_isCanaryPaused, src_isCanaryValid, src_isCanaryFailed]
        split <;> simp_all [pickErs]


end Eds.Bridge
