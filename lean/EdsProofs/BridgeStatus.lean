import EdsModel.Generated.DecStatus
import EdsProofs.BridgeConds
import EdsProofs.BridgeCanary
import EdsModel.CanaryS
import EdsModel.Filter
import EdsModel.SettingCtl
/-
  EdsProofs.BridgeStatus — the hand-written model functions the property theorems are stated about are
  *equal* to the Lean definitions the translator (tools/extract/gotolean.go) regenerates from the Go
  source on every run (EdsModel/Generated/DecStatus.lean): the canary failure evaluation of the replica-set
  controller (`manageCanaryPodFailures`, C06), the status functions of the ExtendedDaemonSet controller
  (`manageStatus`, `manageCanaryStatusConditions`, `clearCanaryAnnotations`; C14, C07) and small pure helpers.

  `none` on the generated side is a Go panic; every theorem therefore also says that the function
  does not panic on the stated arguments (non-nil where the callers pass non-nil).
-/
namespace Eds.Bridge
open Eds

/-! ### small pure helpers -/

theorem src_boolToCondition (b : Bool) : Generated.Decisions.boolToCondition b = some (boolCond b) := by
  cases b <;> rfl

/-- `utils.MergeResult` is the model's `mergeResult` on (requeue, requeueAfter). -/
theorem src_mergeResult (r1 r2 : GReconcileResult) :
    Generated.Decisions.mergeResult r1 r2 =
      some { requeue := (Eds.mergeResult (r1.requeue, r1.requeueAfter) (r2.requeue, r2.requeueAfter)).1,
             requeueAfter := (Eds.mergeResult (r1.requeue, r1.requeueAfter) (r2.requeue, r2.requeueAfter)).2 } := by
  unfold Generated.Decisions.mergeResult Eds.mergeResult
  cases (r1.requeue || r2.requeue) <;>
    simp only [decide_eq_true_eq, Bool.false_eq_true, if_true, if_false, apply_ite (GReconcileResult.mk _)]

theorem containsLoop (s : String) (k : Unit → Option Bool) (l : List String) (i : Int) :
    Generated.Decisions.containsString.loop1 s k l i = if l.contains s then some true else k () := by
  induction l generalizing i with
  | nil => simp [Generated.Decisions.containsString.loop1]
  | cons v rest ih =>
    simp only [Generated.Decisions.containsString.loop1, List.contains_cons]
    by_cases h : v = s
    · simp [h]
    · have h' : (s == v) = false := by simpa using fun e => h e.symm
      simp [h, h', ih]

/-- `utils.ContainsString` never panics and is list membership. -/
theorem src_containsString (l : List String) (s : String) :
    Generated.Decisions.containsString l s = some (l.contains s) := by
  unfold Generated.Decisions.containsString
  rw [containsLoop]
  cases l.contains s <;> rfl

/-! ### the model pod as the canonical form of the Go pod -/

/-- `m` is `harness/canon.CPod` of `g`, as far as the functions translated in this group read a pod. -/
structure PodRel (g : GPod) (m : Pod) : Prop where
  name : m.name = g.name
  nodeName : m.nodeName = g.spec.nodeName
  creation : m.creation = g.creationTimestamp
  startTime : m.startTime = g.status.startTime
  conds : m.conds = Go.canonPodConds g
  cstats : m.cstats = Go.canonCstats g
  affRequired : m.affRequired = Go.canonAffRequired g.spec.affinity
  annotations : m.annotations = g.annotations

/-- the pointwise relation of a list of Go pods and the list of their canonical forms. -/
inductive PodsRel : List GPod → List Pod → Prop
  | nil : PodsRel [] []
  | cons {g : GPod} {m : Pod} {gs : List GPod} {ms : List Pod} : PodRel g m → PodsRel gs ms → PodsRel (g :: gs) (m :: ms)

/-- `compareSpecTemplateMD5Hash`: the pod carries the template hash annotation with this value. -/
theorem src_compareSpecTemplateMD5Hash (hash : String) (g : GPod) (m : Pod) (h : m.annotations = g.annotations) :
    Generated.Decisions.compareSpecTemplateMD5Hash hash (some g) = some (compareSpecTemplateHash hash m) := by
  unfold Generated.Decisions.compareSpecTemplateMD5Hash compareSpecTemplateHash SMap.getD SMap.contains
  simp only [Option.bind_some, h, K.templateHashAnnot]
  cases SMap.get? g.annotations "extendeddaemonset.datadoghq.com/templatehash" with
  | none => simp
  | some v => by_cases hv : v = hash <;> simp [hv]

theorem strLen_ne_zero (s : String) : (Go.strLen s != 0) = (s != "") := by
  unfold Go.strLen
  by_cases h : s = ""
  · subst h; rfl
  · have : s.utf8ByteSize ≠ 0 := fun e => h (String.utf8ByteSize_eq_zero_iff.mp e)
    have h2 : ((s.utf8ByteSize : Int) != 0) = true := by simp; omega
    simp [h, h2]

theorem strLen_eq_zero (s : String) : (Go.strLen s == 0) = (s == "") := by
  simpa [bne] using congrArg not (strLen_ne_zero s)

/-- `sortPodByNodeName.Less(i, j)` on two non-nil pods is the model's `podLess` of their canonical forms. -/
theorem src_sortPodByNodeNameLess (o : List (Option GPod)) (i j : Int) (a b : GPod) (ma mb : Pod)
    (hi : Go.index o i = some (some a)) (hj : Go.index o j = some (some b))
    (ha : PodRel a ma) (hb : PodRel b mb) :
    Generated.Decisions.sortPodByNodeNameLess o i j = some (podLess ma mb) := by
  unfold Generated.Decisions.sortPodByNodeNameLess podLess
  simp only [hi, hj, Option.bind_some, strLen_ne_zero, strLen_eq_zero, ha.nodeName, hb.nodeName, ha.creation, hb.creation,
    ha.name, hb.name, ite_some_some, Bool.if_false_right, Bool.decide_eq_true]

/-- `edsNodeByCreationTimestampAndPhase.Less(i, j)` is the model's `settingLess`. -/
theorem src_edsNodeByCreationTimestampAndPhaseLess (o : List (Option Setting)) (i j : Int) (a b : Setting)
    (hi : Go.index o i = some (some a)) (hj : Go.index o j = some (some b)) :
    Generated.Decisions.edsNodeByCreationTimestampAndPhaseLess o i j = some (settingLess a b) := by
  unfold Generated.Decisions.edsNodeByCreationTimestampAndPhaseLess settingLess
  simp only [hi, hj, Option.bind_some, ite_some_some]

/-! ### the status functions of the ExtendedDaemonSet controller (controllers/extendeddaemonset/controller.go) -/

theorem src_manageStatus (st : EDSStatus) (u : ERS) (ca f p : Bool) (pr : String) (g : GEds) :
    Generated.Decisions.manageStatus (some st) (some u) ca f p pr (some g) =
      some (some (Eds.manageStatus st u ca f p pr g.annotations)) := by
  unfold Generated.Decisions.manageStatus Eds.manageStatus
  simp only [Option.bind_some, src_nonCanaryState]
  rcases st with ⟨_, _, _, _, _, _, _, _, _, _ | cs, _⟩ <;> cases f <;> cases ca <;> cases p <;> rfl

/-- a failed canary: neither the up-to-date replica set nor the daemonset is read. -/
theorem src_manageStatus_failed (st : EDSStatus) (u : Option ERS) (ca p : Bool) (pr : String) (g : Option GEds) :
    Generated.Decisions.manageStatus (some st) u ca true p pr g =
      some (some { st with canary := none, state := "Canary Failed", reason := "" }) := by
  unfold Generated.Decisions.manageStatus
  simp

theorem src_manageCanaryStatusConditions (st : EDSStatus) (now : Time) (f p : Bool) (pr name : String) :
    Generated.Decisions.manageCanaryStatusConditions (some st) now f p pr name =
      some (some { st with conds := Eds.manageCanaryStatusConditions st.conds now f p pr name }) := by
  unfold Generated.Decisions.manageCanaryStatusConditions Eds.manageCanaryStatusConditions
  cases f <;> cases p <;> simp [src_updateEDSCondition, optWriteFalse, optSupportLastUpdate]

/-! #### `clearCanaryAnnotations` -/

theorem smap_contains_any (m : SMap) (k : String) : SMap.contains m k = m.any (fun e => e.k == k) := by
  unfold SMap.contains SMap.get?
  induction m with
  | nil => rfl
  | cons e rest ih =>
    simp only [List.find?_cons, List.any_cons]
    cases h : (e.k == k) with
    | true => simp
    | false => simpa using ih

theorem smap_erase_absent (m : SMap) (k : String) (h : SMap.contains m k = false) : SMap.erase m k = m := by
  unfold SMap.erase
  rw [List.filter_eq_self]
  intro e he
  rw [smap_contains_any] at h
  have := List.any_eq_false.mp h e he
  simpa [bne] using this

theorem clear_step (m : SMap) (k : String) :
    (if SMap.contains m k = true then SMap.erase m k else m) = SMap.erase m k := by
  cases h : SMap.contains m k
  · simp [smap_erase_absent m k h]
  · simp

/-- the loop of `clearCanaryAnnotations` over any list of keys: they are all removed, and the flag says whether one
was there. -/
theorem clearLoop (k : Option GEds → Bool → Option (Bool × Option GEds)) (keys : List String) (i : Int) (g : GEds)
    (u : Bool) :
    Generated.Decisions.clearCanaryAnnotations.loop1 k keys i (some g) u =
      k (some { g with annotations := g.annotations.filter fun e => !keys.contains e.k })
        (u || keys.any (SMap.contains g.annotations)) := by
  induction keys generalizing i g u with
  | nil =>
    have : g.annotations.filter (fun e => !([] : List String).contains e.k) = g.annotations :=
      List.filter_eq_self.mpr fun _ _ => rfl
    simp only [Generated.Decisions.clearCanaryAnnotations.loop1, this, List.any_nil, Bool.or_false]
  | cons key rest ih =>
    have hpair : ∀ b : Bool,
        (if b = true then (({ g with annotations := SMap.erase g.annotations key } : GEds), true) else (g, u)) =
          (({ g with annotations := if b = true then SMap.erase g.annotations key else g.annotations } : GEds), u || b) := by
      intro b; cases b <;> simp
    have hf : (SMap.erase g.annotations key).filter (fun e => !rest.contains e.k) =
        g.annotations.filter (fun e => !(key :: rest).contains e.k) := by
      unfold SMap.erase
      rw [List.filter_filter]
      apply List.filter_congr
      intro e _
      simp only [List.contains_cons, bne, Bool.not_or, Bool.and_comm]
    -- an absent key is not erased, a present one sets the flag whatever the later keys do
    have hb : ((u || SMap.contains g.annotations key) || rest.any (SMap.contains (SMap.erase g.annotations key))) =
        (u || (key :: rest).any (SMap.contains g.annotations)) := by
      cases hc : SMap.contains g.annotations key
      · rw [smap_erase_absent _ _ hc]; simp [hc]
      · simp [hc]
    simp only [Generated.Decisions.clearCanaryAnnotations.loop1, Option.bind_some, hpair, clear_step, ih, hf, hb]

/-- `clearCanaryAnnotations(eds)`: the three canary annotations are removed, the result says whether one was there. -/
theorem src_clearCanaryAnnotations (g : GEds) :
    Generated.Decisions.clearCanaryAnnotations (some g) =
      some ((Eds.clearCanaryAnnotations g.annotations).2,
            some { g with annotations := (Eds.clearCanaryAnnotations g.annotations).1 }) := by
  unfold Generated.Decisions.clearCanaryAnnotations
  rw [clearLoop]
  rfl

/-- a nil ExtendedDaemonSet is dereferenced. -/
theorem src_clearCanaryAnnotations_nil : Generated.Decisions.clearCanaryAnnotations none = none := rfl

/-! ### `manageUnscheduledPodNodes` (strategy/utils.go) -/

/-- one entry of the model's `unscheduledNodes`. -/
def unschedOf (p : Pod) : Option String :=
  match p.conds.find? (fun c => c.type == "PodScheduled") with
  | some c =>
    if c.status == "False" && c.reason == "Unschedulable" then
      some (if p.nodeName != "" then p.nodeName else nodeNameFromAffinity p.affRequired)
    else none
  | none => none

theorem unscheduledNodes_cons (m : Pod) (ms : List Pod) :
    unscheduledNodes (m :: ms) = (match unschedOf m with | some x => [x] | none => []) ++ unscheduledNodes ms := by
  have e : ∀ l, unscheduledNodes l = l.filterMap unschedOf := fun _ => rfl
  rw [e, e, List.filterMap_cons]
  cases unschedOf m <;> rfl

theorem unschedLoop (nilSlice : Bool) (k : List String → Option (List String)) (gs : List GPod) (ms : List Pod)
    (hrel : PodsRel gs ms) (i : Int) (out : List String) :
    Generated.Decisions.manageUnscheduledPodNodes.loop1 nilSlice k (gs.map some) i out =
      k (out ++ unscheduledNodes ms) := by
  induction hrel generalizing i out with
  | nil => simp [Generated.Decisions.manageUnscheduledPodNodes.loop1, unscheduledNodes]
  | @cons g m gs ms hr _ ih =>
    have hfind : m.conds.find? (fun c => c.type == "PodScheduled") =
        (g.status.conditions.find? (fun c => c.type == "PodScheduled")).map Go.canonPodCond := by
      rw [hr.conds, Go.canonPodConds, List.find?_map]; rfl
    have h1 := findFrom_fst "PodScheduled" g.status.conditions 0 (by omega)
    have h2 := findFrom_snd "PodScheduled" g.status.conditions 0
    simp only [List.map_cons, Generated.Decisions.manageUnscheduledPodNodes.loop1, Option.bind_some, src_getPodCondition,
      src_getNodeNameFromAffinity, unscheduledNodes_cons, unschedOf, hfind, hr.nodeName, hr.affRequired, ih]
    generalize findFrom "PodScheduled" g.status.conditions 0 = r at h1 h2 ⊢
    obtain ⟨j, oc⟩ := r
    simp only at h1 h2
    subst h2
    generalize List.find? (fun c : GPodCondition => c.type == "PodScheduled") g.status.conditions = oc at h1 ⊢
    rcases oc with _ | c
    · simp only [h1, Option.isNone_none, if_true, Option.map_none, List.nil_append]
    · simp only [h1, Option.isNone_some, Bool.false_eq_true, if_false, Option.bind_some, Option.map_some, Go.canonPodCond]
      cases (c.status == "False" && c.reason == "Unschedulable") <;> cases hn : (g.spec.nodeName == "") <;>
        simp [bne, hn]

theorem src_manageUnscheduledPodNodes (gs : List GPod) (ms : List Pod) (hrel : PodsRel gs ms)
    (nilSlice : Bool) :
    Generated.Decisions.manageUnscheduledPodNodes (gs.map some) nilSlice = some (unscheduledNodes ms) := by
  unfold Generated.Decisions.manageUnscheduledPodNodes
  rw [unschedLoop nilSlice _ gs ms hrel]
  simp

/-! ### `manageCanaryPodFailures` (strategy/canary.go)

The body of the translated loop is cut into three pieces in continuation-passing style (`cutA`: restart bookkeeping,
`cutB`: the cannot-start / slow-start evaluation, `cutC`: the fail / pause decision).  The three definitions are the
text of `Generated.Decisions.manageCanaryPodFailures.loop1`; `loop_cons` (by `rfl`) states that the loop body is
their composition, so a change of the Go function breaks `loop_cons`. -/

section Cuts
open Generated.Decisions

def cutA {β : Type} (pod : Option GPod) (restartCount : Int) (newRestartTime : Int) (restartingPodStatus : String)
    (K : Int × String → Option β) : Option β :=
    Option.bind (if (restartCount != 0) then
    Option.bind (Generated.Decisions.mostRecentRestart pod) fun r22 =>
    let (restartTime, recentRestartReason) := r22
    Option.bind (if (decide (restartTime > newRestartTime)) then
    let newRestartTime : Int := restartTime
    Option.bind pod fun pod_23 =>
    let restartingPodStatus : String := ("Pod " ++ pod_23.name ++ " restarting with reason: " ++ recentRestartReason)
    some (newRestartTime, restartingPodStatus)
    else
    some (newRestartTime, restartingPodStatus)) fun (newRestartTime, restartingPodStatus) =>
    some (newRestartTime, restartingPodStatus)
    else
    some (newRestartTime, restartingPodStatus)) K

set_option linter.unusedVariables false in
def cutB {β : Type} (pod : Option GPod) (params_1 : GParams) (autoPauseEnabled : Bool) (now : Int)
    (cannotStartPodReason cannotStartPodStatus : String) (K : Bool × String × String × String → Option β) : Option β :=
    let cannotStartReason : String := ""
    Option.bind (Generated.Decisions.cannotStart pod) fun r24 =>
    let (cannotStart', cannotStartReason) := r24
    Option.bind (if cannotStart' then (Option.bind params_1.strategy fun p25 =>
    Option.bind p25.canary fun p26 =>
    Option.bind p26.autoPause fun p27 =>
    some (p27.maxSlowStartDuration).isSome) else some false) fun c28 =>
    Option.bind (if c28 then (Option.bind pod fun pod_29 =>
    Option.bind pod_29.status.startTime fun p30 =>
    Option.bind params_1.strategy fun p31 =>
    Option.bind p31.canary fun p32 =>
    Option.bind p32.autoPause fun p33 =>
    Option.bind p33.maxSlowStartDuration fun p34 =>
    some (!(decide (now > (p30 + p34))))) else some false) fun c35 =>
    Option.bind (if c35 then
    let cannotStart' : Bool := false
    let cannotStartReason : String := "Unknown"
    some (cannotStart', cannotStartPodReason, cannotStartPodStatus, cannotStartReason)
    else
    Option.bind (if cannotStart' then
    Option.bind pod fun pod_36 =>
    let cannotStartPodStatus : String := ("Pod " ++ pod_36.name ++ " cannot start with reason: " ++ cannotStartReason)
    let cannotStartPodReason : String := cannotStartReason
    some (cannotStart', cannotStartPodReason, cannotStartPodStatus, cannotStartReason)
    else
    Option.bind (if autoPauseEnabled then (Option.bind (Generated.Decisions.pendingCreate pod) fun r37 =>
    some r37) else some false) fun c38 =>
    Option.bind (if c38 then (Option.bind params_1.strategy fun p39 =>
    Option.bind p39.canary fun p40 =>
    Option.bind p40.autoPause fun p41 =>
    some (p41.maxSlowStartDuration).isSome) else some false) fun c42 =>
    Option.bind (if c42 then
    Option.bind pod fun pod_43 =>
    Option.bind pod_43.status.startTime fun p44 =>
    Option.bind params_1.strategy fun p45 =>
    Option.bind p45.canary fun p46 =>
    Option.bind p46.autoPause fun p47 =>
    Option.bind p47.maxSlowStartDuration fun p48 =>
    Option.bind (if (decide (now > (p44 + p48))) then
    Option.bind params_1.strategy fun p49 =>
    Option.bind p49.canary fun p50 =>
    Option.bind p50.autoPause fun p51 =>
    Option.bind p51.maxSlowStartDuration fun p52 =>
    let cannotStart' : Bool := true
    let cannotStartReason : String := "SlowStartTimeoutExceeded"
    let cannotStartPodStatus : String := ("Pod " ++ pod_43.name ++ " cannot start with reason: " ++ cannotStartReason)
    let cannotStartPodReason : String := cannotStartReason
    some (cannotStart', cannotStartPodReason, cannotStartPodStatus, cannotStartReason)
    else
    some (cannotStart', cannotStartPodReason, cannotStartPodStatus, cannotStartReason)) fun (cannotStart', cannotStartPodReason, cannotStartPodStatus, cannotStartReason) =>
    some (cannotStart', cannotStartPodReason, cannotStartPodStatus, cannotStartReason)
    else
    some (cannotStart', cannotStartPodReason, cannotStartPodStatus, cannotStartReason)) fun (cannotStart', cannotStartPodReason, cannotStartPodStatus, cannotStartReason) =>
    some (cannotStart', cannotStartPodReason, cannotStartPodStatus, cannotStartReason)) fun (cannotStart', cannotStartPodReason, cannotStartPodStatus, cannotStartReason) =>
    some (cannotStart', cannotStartPodReason, cannotStartPodStatus, cannotStartReason)) K

def cutC {β : Type} (autoFailCanaryTimeout : Option (Int)) (autoFailEnabled : Bool) (autoFailMaxRestarts : Int)
    (autoFailMaxRestartsDuration : Option (Int)) (autoPauseEnabled : Bool) (autoPauseMaxRestarts : Int) (now : Int)
    (restartCondition : Option (Cond)) (startCondition : Option (Cond)) (restartCount : Int) (highRestartReason : String)
    (cannotStart' : Bool) (cannotStartReason : String) (result_16 : GResult) (next : GResult → Option β) : Option β :=
    if result_16.isFailed then
    next result_16
    else
    Option.bind (if (autoFailEnabled && (decide (restartCount > autoFailMaxRestarts))) then
    let result_16 : GResult := { result_16 with isFailed := true }
    let result_16 : GResult := { result_16 with failedReason := highRestartReason }
    some result_16
    else
    Option.bind (if ((autoFailEnabled && (autoFailMaxRestartsDuration).isSome) && (restartCondition).isSome) then (Option.bind restartCondition fun restartCondition_53 =>
    Option.bind autoFailMaxRestartsDuration fun autoFailMaxRestartsDuration_54 =>
    some (decide ((restartCondition_53.lastUpdate - restartCondition_53.lastTransition) > autoFailMaxRestartsDuration_54))) else some false) fun c55 =>
    Option.bind (if c55 then
    let result_16 : GResult := { result_16 with isFailed := true }
    let result_16 : GResult := { result_16 with failedReason := "RestartsTimeoutExceeded" }
    some result_16
    else
    Option.bind (if ((autoFailEnabled && (startCondition).isSome) && (autoFailCanaryTimeout).isSome) then (Option.bind startCondition fun startCondition_56 =>
    Option.bind autoFailCanaryTimeout fun autoFailCanaryTimeout_57 =>
    some (decide ((now - startCondition_56.lastTransition) > autoFailCanaryTimeout_57))) else some false) fun c58 =>
    let result_16 := if c58 then
    let result_16 : GResult := { result_16 with isFailed := true }
    let result_16 : GResult := { result_16 with failedReason := "TimeoutExceeded" }
    result_16
    else
    let result_16 := if result_16.isUnpaused then
    let result_16 : GResult := { result_16 with isPaused := false }
    let result_16 : GResult := { result_16 with pausedReason := "" }
    result_16
    else
    let result_16 := if autoPauseEnabled then
    let result_16 := if cannotStart' then
    let result_16 : GResult := { result_16 with isPaused := true }
    let result_16 : GResult := { result_16 with pausedReason := cannotStartReason }
    result_16
    else
    let result_16 := if (decide (restartCount > autoPauseMaxRestarts)) then
    let result_16 : GResult := { result_16 with isPaused := true }
    let result_16 : GResult := { result_16 with pausedReason := highRestartReason }
    result_16
    else
    result_16
    result_16
    result_16
    else
    result_16
    result_16
    result_16
    some result_16) fun result_16 =>
    some result_16) fun result_16 =>
    next result_16

theorem loop_cons (autoFailCanaryTimeout : Option (Int)) (autoFailEnabled : Bool) (autoFailMaxRestarts : Int) (autoFailMaxRestartsDuration : Option (Int)) (autoPauseEnabled : Bool) (autoPauseMaxRestarts : Int) (now : Int) (params_1 : GParams) (restartCondition : Option (Cond)) (startCondition : Option (Cond))
    (k_ : Bool → String → String → Int → String → GResult → Option (Option (GResult))) (pod : Option GPod) (rest20 : List (Option GPod)) (i19 : Int)
    (cannotStart' : Bool) (cannotStartPodReason cannotStartPodStatus : String) (newRestartTime : Int) (restartingPodStatus : String) (result_16 : GResult) :
    Generated.Decisions.manageCanaryPodFailures.loop1 autoFailCanaryTimeout autoFailEnabled autoFailMaxRestarts autoFailMaxRestartsDuration autoPauseEnabled autoPauseMaxRestarts now params_1 restartCondition startCondition k_ (pod :: rest20) i19 cannotStart' cannotStartPodReason cannotStartPodStatus newRestartTime restartingPodStatus result_16 =
    (Option.bind (Generated.Decisions.highestRestartCount pod) fun r21 =>
    let (restartCount, highRestartReason) := r21
    cutA pod restartCount newRestartTime restartingPodStatus fun (newRestartTime, restartingPodStatus) =>
    cutB pod params_1 autoPauseEnabled now cannotStartPodReason cannotStartPodStatus fun (cannotStart', cannotStartPodReason, cannotStartPodStatus, cannotStartReason) =>
    cutC autoFailCanaryTimeout autoFailEnabled autoFailMaxRestarts autoFailMaxRestartsDuration autoPauseEnabled autoPauseMaxRestarts now restartCondition startCondition restartCount highRestartReason cannotStart' cannotStartReason result_16 fun result_16 =>
    Generated.Decisions.manageCanaryPodFailures.loop1 autoFailCanaryTimeout autoFailEnabled autoFailMaxRestarts autoFailMaxRestartsDuration autoPauseEnabled autoPauseMaxRestarts now params_1 restartCondition startCondition k_ rest20 (i19 + 1) cannotStart' cannotStartPodReason cannotStartPodStatus newRestartTime restartingPodStatus result_16) := rfl

end Cuts

/-! the model's `failStep` in three phases -/

/-- restart bookkeeping -/
def phaseA (s : FailState) (pod : Pod) (restartCount : Int) : FailState :=
  if restartCount != 0 then
    let (rt, rr) := Eds.mostRecentRestart pod.cstats
    if rt > s.newRestartTime then
      { s with newRestartTime := rt,
               restartingPodStatus := "Pod " ++ pod.name ++ " restarting with reason: " ++ rr }
    else s
  else s

/-- the cannot-start / slow-start evaluation: (cannotStart, cannotStartReason, state); `none` = `pod.Status.StartTime`
is dereferenced and nil. -/
def phaseB (cfg : FailCfg) (s : FailState) (pod : Pod) : Option (Bool × String × FailState) :=
  let (cs0, csr0) := Eds.cannotStart pod.cstats
  let needStart := (cs0 && cfg.maxSlowStart.isSome) ||
                   (!cs0 && cfg.autoPauseEnabled && Eds.pendingCreate pod.cstats && cfg.maxSlowStart.isSome)
  if needStart && pod.startTime.isNone then none else
  let startT := pod.startTime.getD 0
  let slow := cfg.maxSlowStart.getD 0
  let after := cfg.now > startT + slow
  some (
    if cs0 && cfg.maxSlowStart.isSome && !after then (false, "Unknown", s)
    else if cs0 then
      (true, csr0, { s with cannotStartPodStatus := "Pod " ++ pod.name ++ " cannot start with reason: " ++ csr0,
                            cannotStartPodReason := csr0 })
    else if cfg.autoPauseEnabled && Eds.pendingCreate pod.cstats && cfg.maxSlowStart.isSome then
      if after then
        (true, "SlowStartTimeoutExceeded",
          { s with cannotStartPodStatus := "Pod " ++ pod.name ++ " cannot start with reason: SlowStartTimeoutExceeded",
                   cannotStartPodReason := "SlowStartTimeoutExceeded" })
      else (false, csr0, s)
    else (false, csr0, s))

/-- the fail / pause decision -/
def phaseC (cfg : FailCfg) (restartCount : Int) (highReason : String) (cs : Bool) (csr : String) (s : FailState) : FailState :=
  if s.isFailed then s
  else if cfg.autoFailEnabled && restartCount > cfg.autoFailMaxRestarts then
    { s with isFailed := true, failedReason := highReason }
  else if cfg.autoFailEnabled && (match cfg.maxRestartsDuration, cfg.restartCond with
                                  | some d, some (tr, up) => up - tr > d
                                  | _, _ => false) then
    { s with isFailed := true, failedReason := "RestartsTimeoutExceeded" }
  else if cfg.autoFailEnabled && (match cfg.startCond, cfg.canaryTimeout with
                                  | some st, some d => cfg.now - st > d
                                  | _, _ => false) then
    { s with isFailed := true, failedReason := "TimeoutExceeded" }
  else if cfg.isUnpaused then { s with isPaused := false, pausedReason := "" }
  else if cfg.autoPauseEnabled then
    if cs then { s with isPaused := true, pausedReason := csr }
    else if restartCount > cfg.autoPauseMaxRestarts then { s with isPaused := true, pausedReason := highReason }
    else s
  else s

theorem failStep_phases (cfg : FailCfg) (s : FailState) (m : Pod) (hs : s.panicked = false) :
    failStep cfg s m =
      match phaseB cfg (phaseA s m (highestRestart m.cstats).1) m with
      | none => { phaseA s m (highestRestart m.cstats).1 with panicked := true }
      | some (cs, csr, sB) =>
        phaseC cfg (highestRestart m.cstats).1 (highestRestart m.cstats).2 cs csr { sB with cannotStart := cs } := by
  unfold failStep phaseA phaseB phaseC
  simp only [hs, Bool.false_eq_true, if_false]
  by_cases hN : (((Eds.cannotStart m.cstats).fst && cfg.maxSlowStart.isSome ||
        !(Eds.cannotStart m.cstats).fst && cfg.autoPauseEnabled && Eds.pendingCreate m.cstats && cfg.maxSlowStart.isSome) &&
      m.startTime.isNone) = true
  · simp only [hN, if_true]
  · simp only [hN, Bool.false_eq_true, if_false]
    rfl

/-- the flags of the Go `Result` are the flags of the model's state; the other fields are not touched by the loop. -/
def withState (R0 : GResult) (s : FailState) : GResult :=
  { R0 with isFailed := s.isFailed, failedReason := s.failedReason, isPaused := s.isPaused, pausedReason := s.pausedReason }

theorem cutA_eq {β : Type} (g : GPod) (m : Pod) (hr : PodRel g m) (hwf : podLastStatesWF g) (s : FailState)
    (rcnt : Int) (K : Int × String → Option β) :
    cutA (some g) rcnt s.newRestartTime s.restartingPodStatus K =
      K ((phaseA s m rcnt).newRestartTime, (phaseA s m rcnt).restartingPodStatus) := by
  unfold cutA phaseA
  simp only [src_mostRecentRestart g hwf, Option.bind_some, hr.cstats, hr.name]
  generalize Eds.mostRecentRestart (Go.canonCstats g) = p
  rcases p with ⟨rt, rr⟩
  by_cases h0 : rcnt = 0 <;> by_cases h1 : rt > s.newRestartTime <;> simp [h0, h1]

theorem slow_lit : " cannot start with reason: " ++ "SlowStartTimeoutExceeded" =
    " cannot start with reason: SlowStartTimeoutExceeded" := by decide +kernel

theorem slow_msg (n : String) : "Pod " ++ n ++ " cannot start with reason: " ++ "SlowStartTimeoutExceeded" =
    "Pod " ++ n ++ " cannot start with reason: SlowStartTimeoutExceeded" := by
  rw [String.append_assoc (s₁ := "Pod " ++ n), slow_lit]

theorem cutB_eq {β : Type} (g : GPod) (m : Pod) (hr : PodRel g m) (P : GParams) (strat : Strategy) (c : Canary)
    (ap : AutoPause) (hP : P.strategy = some strat) (hc : strat.canary = some c) (hap : c.autoPause = some ap)
    (cfg : FailCfg) (hslow : cfg.maxSlowStart = ap.maxSlowStartDuration) (ape : Bool) (hape : cfg.autoPauseEnabled = ape)
    (now : Int) (hnow : cfg.now = now) (s : FailState)
    (K : Bool × String × String × String → Option β) :
    cutB (some g) P ape now s.cannotStartPodReason s.cannotStartPodStatus K =
      match phaseB cfg s m with
      | none => none
      | some (cs, csr, sB) => K (cs, sB.cannotStartPodReason, sB.cannotStartPodStatus, csr) := by
  unfold cutB phaseB
  simp only [src_cannotStart, src_pendingCreate, Option.bind_some, hP, hc, hap, hr.cstats, hr.name, hr.startTime, hslow,
    hape, hnow]
  generalize Eds.cannotStart (Go.canonCstats g) = p
  rcases p with ⟨cs0, csr0⟩
  generalize Eds.pendingCreate (Go.canonCstats g) = pc
  generalize ap.maxSlowStartDuration = slow
  generalize g.status.startTime = stt
  -- `pod.Status.StartTime` is read only behind a slow-start limit: for a pod that cannot start, else for one
  -- pending creation under auto-pause; the model tests for the nil pointer first, the code meets it on the way
  cases cs0 with
  | true =>
    cases slow with
    | none => rfl
    | some d =>
      cases stt with
      | none => rfl
      | some t =>
        simp only [if_true, Option.bind_some, Option.isSome_some, Bool.and_self, Bool.true_and, Option.getD_some]
        cases decide (now > t + d) <;> rfl
  | false =>
    cases ape <;> cases pc <;> cases slow <;> cases stt <;> try rfl
    next d t =>
      simp only [if_true, Option.bind_some, Option.isSome_some, Bool.and_self, Bool.true_and, Option.getD_some,
        decide_eq_true_eq, Bool.false_eq_true, if_false, Bool.false_and, Bool.not_false, Bool.or_true, Option.isNone_some,
        slow_msg]
      split <;> rfl

/-- the model's configuration of the evaluation, from the values the Go function reads at its top. -/
def mkCfg (ape : Bool) (apm : Int) (slow : Option Dur) (afe : Bool) (afm : Int) (mrd cto : Option Dur) (unp : Bool)
    (rc sc : Option Cond) (now : Time) : FailCfg :=
  { autoPauseEnabled := ape, autoPauseMaxRestarts := apm, maxSlowStart := slow, autoFailEnabled := afe,
    autoFailMaxRestarts := afm, maxRestartsDuration := mrd, canaryTimeout := cto, isUnpaused := unp,
    restartCond := rc.map (fun c => (c.lastTransition, c.lastUpdate)), startCond := sc.map (·.lastTransition), now := now }

/-- the `PodRestarting` gate of the Go function (`autoFailMaxRestartsDuration` and the stored condition, both
optional) as one Boolean. -/
theorem restartGate (afe : Bool) (mrd : Option Int) (rc : Option Cond) :
    (if ((afe && mrd.isSome) && rc.isSome) = true then
        (Option.bind rc fun r => Option.bind mrd fun d => some (decide (r.lastUpdate - r.lastTransition > d)))
      else some false) =
    some (afe && match mrd, rc.map (fun c => (c.lastTransition, c.lastUpdate)) with
                 | some d, some (tr, up) => decide (up - tr > d)
                 | _, _ => false) := by
  cases afe <;> cases mrd <;> cases rc <;> rfl

/-- the `Canary` timeout gate as one Boolean. -/
theorem startGate (afe : Bool) (cto : Option Int) (sc : Option Cond) (now : Int) :
    (if ((afe && sc.isSome) && cto.isSome) = true then
        (Option.bind sc fun c => Option.bind cto fun d => some (decide (now - c.lastTransition > d)))
      else some false) =
    some (afe && match sc.map (·.lastTransition), cto with
                 | some st, some d => decide (now - st > d)
                 | _, _ => false) := by
  cases afe <;> cases sc <;> cases cto <;> rfl

theorem bind_ite {α β : Type} (c : Prop) [Decidable c] (x y : Option α) (f : α → Option β) :
    (if c then x else y).bind f = if c then x.bind f else y.bind f := by
  split <;> rfl

/-- `cutC` on the values a configuration `cfg` holds is `phaseC cfg`.  Once the two gates are Booleans both sides are
the same cascade of conditions; `bind`, `some`, `next` and `withState R0` are pushed to its leaves, where the two
records agree field by field. -/
theorem cutC_phaseC {β : Type} (cfg : FailCfg) (rc sc : Option Cond)
    (hrc : cfg.restartCond = rc.map fun c => (c.lastTransition, c.lastUpdate))
    (hsc : cfg.startCond = sc.map (·.lastTransition)) (R0 : GResult) (hunp : cfg.isUnpaused = R0.isUnpaused)
    (rcnt : Int) (hreason : String) (cs : Bool) (csr : String) (s : FailState) (next : GResult → Option β) :
    cutC cfg.canaryTimeout cfg.autoFailEnabled cfg.autoFailMaxRestarts cfg.maxRestartsDuration cfg.autoPauseEnabled
        cfg.autoPauseMaxRestarts cfg.now rc sc rcnt hreason cs csr (withState R0 s) next =
      next (withState R0 (phaseC cfg rcnt hreason cs csr s)) := by
  unfold cutC phaseC
  rw [restartGate, startGate, ← hrc, ← hsc, hunp]
  simp only [Option.bind_some, bind_ite, apply_ite some, apply_ite next, apply_ite (withState R0), decide_eq_true_eq]
  rfl

theorem cutC_eq {β : Type} (cto : Option Int) (afe : Bool) (afm : Int) (mrd : Option Int) (ape : Bool) (apm : Int) (now : Int)
    (rc sc : Option Cond) (slow : Option Dur) (rcnt : Int) (hreason : String) (cs : Bool) (csr : String) (R0 : GResult)
    (s : FailState) (next : GResult → Option β) :
    cutC cto afe afm mrd ape apm now rc sc rcnt hreason cs csr (withState R0 s) next =
      next (withState R0 (phaseC (mkCfg ape apm slow afe afm mrd cto R0.isUnpaused rc sc now) rcnt hreason cs csr s)) :=
  cutC_phaseC (mkCfg ape apm slow afe afm mrd cto R0.isUnpaused rc sc now) rc sc rfl rfl R0 rfl rcnt hreason cs csr s next

/-! each phase writes two fields of the state (four for `phaseC`) and leaves the others. -/

theorem phaseA_shape (s : FailState) (m : Pod) (r : Int) :
    ∃ t st, phaseA s m r = { s with newRestartTime := t, restartingPodStatus := st } := by
  unfold phaseA
  (repeat' split) <;> exact ⟨_, _, rfl⟩

theorem phaseB_shape (cfg : FailCfg) (s : FailState) (m : Pod) (cs : Bool) (csr : String) (sB : FailState)
    (h : phaseB cfg s m = some (cs, csr, sB)) :
    ∃ st r, sB = { s with cannotStartPodStatus := st, cannotStartPodReason := r } := by
  unfold phaseB at h
  simp only at h
  split at h
  · cases h
  · simp only [Option.some.injEq] at h
    (repeat' split at h) <;> (simp only [Prod.mk.injEq] at h; obtain ⟨_, _, rfl⟩ := h; exact ⟨_, _, rfl⟩)

theorem phaseC_frame (cfg : FailCfg) (r : Int) (hr : String) (cs : Bool) (csr : String) (s : FailState) :
    (phaseC cfg r hr cs csr s).cannotStart = s.cannotStart ∧
    (phaseC cfg r hr cs csr s).cannotStartPodReason = s.cannotStartPodReason ∧
    (phaseC cfg r hr cs csr s).cannotStartPodStatus = s.cannotStartPodStatus ∧
    (phaseC cfg r hr cs csr s).newRestartTime = s.newRestartTime ∧
    (phaseC cfg r hr cs csr s).restartingPodStatus = s.restartingPodStatus ∧
    (phaseC cfg r hr cs csr s).panicked = s.panicked := by
  unfold phaseC
  simp only [apply_ite FailState.cannotStart, apply_ite FailState.cannotStartPodReason,
    apply_ite FailState.cannotStartPodStatus, apply_ite FailState.newRestartTime,
    apply_ite FailState.restartingPodStatus, apply_ite FailState.panicked, ite_self, and_self]

theorem fold_panicked (cfg : FailCfg) (ms : List Pod) (s : FailState) (h : s.panicked = true) :
    ms.foldl (failStep cfg) s = s := by
  induction ms with
  | nil => rfl
  | cons m rest ih =>
    have : failStep cfg s m = s := by unfold failStep; simp [h]
    simp [List.foldl_cons, this, ih]

/-- the translated loop over the pods is the fold of the model's `failStep`; a panic of an iteration is the model's
`panicked` flag. -/
theorem failLoop (cto : Option Int) (afe : Bool) (afm : Int) (mrd : Option Int) (ape : Bool) (apm : Int) (now : Int)
    (P : GParams) (strat : Strategy) (c : Canary) (ap : AutoPause)
    (hP : P.strategy = some strat) (hc : strat.canary = some c) (hap : c.autoPause = some ap)
    (rc sc : Option Cond) (k : Bool → String → String → Int → String → GResult → Option (Option GResult)) (R0 : GResult)
    (gs : List GPod) (ms : List Pod) (hrel : PodsRel gs ms) (hwf : ∀ g ∈ gs, podLastStatesWF g)
    (i : Int) (s : FailState) (hs : s.panicked = false) :
    Generated.Decisions.manageCanaryPodFailures.loop1 cto afe afm mrd ape apm now P rc sc k (gs.map some) i
        s.cannotStart s.cannotStartPodReason s.cannotStartPodStatus s.newRestartTime s.restartingPodStatus (withState R0 s) =
      if (ms.foldl (failStep (mkCfg ape apm ap.maxSlowStartDuration afe afm mrd cto R0.isUnpaused rc sc now)) s).panicked then none
      else k (ms.foldl (failStep (mkCfg ape apm ap.maxSlowStartDuration afe afm mrd cto R0.isUnpaused rc sc now)) s).cannotStart
        (ms.foldl (failStep (mkCfg ape apm ap.maxSlowStartDuration afe afm mrd cto R0.isUnpaused rc sc now)) s).cannotStartPodReason
        (ms.foldl (failStep (mkCfg ape apm ap.maxSlowStartDuration afe afm mrd cto R0.isUnpaused rc sc now)) s).cannotStartPodStatus
        (ms.foldl (failStep (mkCfg ape apm ap.maxSlowStartDuration afe afm mrd cto R0.isUnpaused rc sc now)) s).newRestartTime
        (ms.foldl (failStep (mkCfg ape apm ap.maxSlowStartDuration afe afm mrd cto R0.isUnpaused rc sc now)) s).restartingPodStatus
        (withState R0 (ms.foldl (failStep (mkCfg ape apm ap.maxSlowStartDuration afe afm mrd cto R0.isUnpaused rc sc now)) s)) := by
  induction hrel generalizing i s with
  | nil => simp [Generated.Decisions.manageCanaryPodFailures.loop1, hs]
  | @cons g m gs ms hr _ ih =>
    have hwg : podLastStatesWF g := hwf g (by simp)
    have hwr : ∀ x ∈ gs, podLastStatesWF x := fun x hx => hwf x (by simp [hx])
    rw [List.map_cons, loop_cons, src_highestRestartCount g hwg, List.foldl_cons, failStep_phases _ s m hs, hr.cstats]
    generalize highestRestart (Go.canonCstats g) = hrp
    rcases hrp with ⟨rcnt, hreason⟩
    simp only [Option.bind_some]
    rw [cutA_eq g m hr hwg s rcnt]
    obtain ⟨t, st, hA⟩ := phaseA_shape s m rcnt
    rw [hA, cutB_eq g m hr P strat c ap hP hc hap
      (mkCfg ape apm ap.maxSlowStartDuration afe afm mrd cto R0.isUnpaused rc sc now) rfl ape rfl now rfl
      { s with newRestartTime := t, restartingPodStatus := st }]
    cases hpb : phaseB (mkCfg ape apm ap.maxSlowStartDuration afe afm mrd cto R0.isUnpaused rc sc now)
        { s with newRestartTime := t, restartingPodStatus := st } m with
    | none =>
      rw [fold_panicked _ _ _ rfl]
      rfl
    | some v =>
      rcases v with ⟨cs, csr, sB⟩
      obtain ⟨a, b, rfl⟩ := phaseB_shape _ _ m cs csr sB hpb
      simp only []
      let sB : FailState := { s with newRestartTime := t, restartingPodStatus := st, cannotStartPodStatus := a,
                                     cannotStartPodReason := b, cannotStart := cs }
      have hC := cutC_eq (β := Option GResult) cto afe afm mrd ape apm now rc sc ap.maxSlowStartDuration rcnt hreason
        cs csr R0 sB
      have hfr := phaseC_frame (mkCfg ape apm ap.maxSlowStartDuration afe afm mrd cto R0.isUnpaused rc sc now) rcnt
        hreason cs csr sB
      generalize phaseC _ rcnt hreason cs csr _ = sC at hC hfr ⊢
      obtain ⟨c1, c2, c3, c4, c5, c6⟩ := hfr
      have := ih hwr (i + 1) sC (c6.trans hs)
      rw [c1, c2, c3, c4, c5] at this
      exact (hC _).trans this

theorem podsRel_isEmpty {gs : List GPod} {ms : List Pod} (h : PodsRel gs ms) :
    ((Int.ofNat (List.length (gs.map some))) == 0) = ms.isEmpty := by
  cases h with
  | nil => rfl
  | cons _ _ =>
    simp only [List.map_cons, List.length_cons, List.isEmpty_cons]
    have : ∀ n : Nat, ((Int.ofNat (n + 1)) == 0) = false := by intro n; simp; omega
    exact this _

/-- **`manageCanaryPodFailures`** (C06).  On non-nil pods whose container statuses satisfy `Go.lastStateWF`, a non-nil
`params` with a non-nil `Strategy`, and a non-nil `result` whose `NewStatus` is non-nil (and not the object
`params.NewStatus` points to) and whose `FailedReason` is still empty — what `manageCanaryStatus` passes — the
translated function is the model's `manageCanaryPodFailures` on the canonical form of the pods: same panics (nil
`Canary` / `AutoPause` / `AutoFail` fields, nil `StartTime` where the slow-start gate reads it), same flags and
reasons, same status (conditions and `canary-failed`). -/
theorem src_manageCanaryPodFailures_gen (gs : List GPod) (ms : List Pod) (hrel : PodsRel gs ms)
    (hwf : ∀ g ∈ gs, podLastStatesWF g) (P : GParams) (strat : Strategy) (pst st : ERSStatus) (R : GResult)
    (hPs : P.strategy = some strat) (hPn : P.newStatus = some pst)
    (hst : R.newStatus = some st) (hfr : R.failedReason = "") (now : Time) :
    Generated.Decisions.manageCanaryPodFailures (gs.map some) (some P) (some R) now =
      match Eds.manageCanaryPodFailures ms strat.canary pst st R.isFailed R.isPaused R.pausedReason R.isUnpaused now with
      | none => none
      | some (s, st') =>
        some (some { R with isFailed := s.isFailed, failedReason := s.failedReason, isPaused := s.isPaused,
                            pausedReason := s.pausedReason, newStatus := some st' }) := by
  rcases R with ⟨fz, ip, pr, iu, ifl, fr, ns, ptc, ptd, rr, un⟩
  simp only at hst hfr
  subst hst hfr
  unfold Generated.Decisions.manageCanaryPodFailures Eds.manageCanaryPodFailures canaryDerefs
  simp only [Option.bind_some, Option.pure_def, Option.bind_eq_bind, hPs]
  -- the seven pointers read at the top, in the order of `canaryDerefs`: a nil one is a `none` on both sides
  cases hcan : strat.canary with
  | none => rfl
  | some c =>
  simp only [Option.bind_some]
  cases hap : c.autoPause with
  | none => rfl
  | some ap =>
  simp only [Option.bind_some]
  cases hape : ap.enabled with
  | none => rfl
  | some ape =>
  simp only [Option.bind_some]
  cases hapm : ap.maxRestarts with
  | none => rfl
  | some apm =>
  simp only [Option.bind_some]
  cases haf : c.autoFail with
  | none => rfl
  | some af =>
  simp only [Option.bind_some]
  cases hafe : af.enabled with
  | none => rfl
  | some afe =>
  simp only [Option.bind_some]
  cases hafm : af.maxRestarts with
  | none => rfl
  | some afm =>
  simp only [Option.bind_some]
  have hopt : ∀ (x : Option Int), (if x.isSome = true then some x else some none) = some x := by
    intro x; cases x <;> rfl
  have hlast : ∀ (x : Option Cond),
      (if x.isSome = true then x.bind fun r => some r.lastUpdate else some zeroTime) =
        some (match x with | some rc => rc.lastUpdate | none => zeroTime) := by
    intro x; cases x <;> rfl
  -- the result the loop starts from (the pause is dropped when there is no pod, an unpause and no failure), as a state
  have hR0 : ∀ (b : Bool) (R0 : GResult),
      (if b = true then { R0 with isPaused := false, pausedReason := "" } else R0) =
        withState R0 { isFailed := R0.isFailed, failedReason := R0.failedReason,
                       isPaused := if b = true then false else R0.isPaused,
                       pausedReason := if b = true then "" else R0.pausedReason } := by
    intro b R0; cases b <;> rfl
  simp only [hPn, hopt, Option.bind_some, src_getERSCondition, podsRel_isEmpty hrel,
    hR0 _ ⟨fz, ip, pr, iu, ifl, "", some st, ptc, ptd, rr, un⟩]
  refine (failLoop af.canaryTimeout afe afm af.maxRestartsDuration ape apm now _ strat c ap hPs hcan hap _ _ _ _
    gs ms hrel hwf 0 { isFailed := ifl, failedReason := "",
                       isPaused := if (ms.isEmpty && iu && !ifl) = true then false else ip,
                       pausedReason := if (ms.isEmpty && iu && !ifl) = true then "" else pr } rfl).trans ?_
  rw [mkCfg]
  generalize List.foldl _ _ ms = s'
  cases s'.panicked
  · simp only [Bool.false_eq_true, if_false, withState, src_boolToCondition, src_updateERSCondition, Option.bind_some, bind_ite,
      hlast]
    -- `PodRestarting` is written under one test, the status string follows `isFailed`: the same two choices on both sides
    generalize (!isZeroTime s'.newRestartTime && decide (s'.newRestartTime > _)) = c
    cases c <;> cases s'.isFailed <;> rfl
  · rfl

/-- `src_manageCanaryPodFailures_gen` on the parameters that carry nothing but `Strategy` and `NewStatus` (the other
fields are not read by the function). -/
theorem src_manageCanaryPodFailures (gs : List GPod) (ms : List Pod) (hrel : PodsRel gs ms)
    (hwf : ∀ g ∈ gs, podLastStatesWF g) (strat : Strategy) (pst st : ERSStatus) (R : GResult)
    (hst : R.newStatus = some st) (hfr : R.failedReason = "") (now : Time) :
    Generated.Decisions.manageCanaryPodFailures (gs.map some)
        (some { strategy := some strat, newStatus := some pst }) (some R) now =
      match Eds.manageCanaryPodFailures ms strat.canary pst st R.isFailed R.isPaused R.pausedReason R.isUnpaused now with
      | none => none
      | some (s, st') =>
        some (some { R with isFailed := s.isFailed, failedReason := s.failedReason, isPaused := s.isPaused,
                            pausedReason := s.pausedReason, newStatus := some st' }) :=
  src_manageCanaryPodFailures_gen gs ms hrel hwf _ strat pst st R rfl rfl hst hfr now

/-! **The hypothesis `podLastStatesWF` is necessary** (the finding of BridgeConds carried to its caller): on the pod
with a restarted container whose `lastState` is set to `running`, `HighestRestartCount` dereferences the nil
`LastTerminationState.Terminated`, so `manageCanaryPodFailures` — hence the whole replica-set sync — panics, while the
model (on the canonical form, where `harness/canon` drops that `lastState`) returns.  The API schema allows the object;
the kubelet only ever writes `terminated` into `lastState`. -/

def findingStrategy : Strategy :=
  { rollingUpdate := { maxUnavailable := none, maxPodSchedulerFailure := none, maxParallelPodCreation := none,
                       slowStartInterval := none, slowStartAdditiveIncrease := none },
    canary := some { replicas := none, duration := none, nodeSelector := none, antiAffinityKeys := [],
                     autoPause := some { enabled := some false, maxRestarts := some 2, maxSlowStartDuration := none },
                     autoFail := some { enabled := some false, maxRestarts := some 5, maxRestartsDuration := none,
                                        canaryTimeout := none },
                     noRestartsDuration := none, validationMode := "auto" },
    reconcileFrequency := none }

def findingStatus : ERSStatus := { status := "canary", desired := 1, current := 1, ready := 1, available := 1, ignored := 0, conds := [] }

def findingResult : GResult :=
  { isFrozen := false, isPaused := false, pausedReason := "", isUnpaused := false, isFailed := false, failedReason := "",
    newStatus := some findingStatus }

def findingModelPod : Pod := { (default : Pod) with name := "p", cstats := Go.canonCstats findingPod }

theorem finding_manageCanaryPodFailures_panics :
    Generated.Decisions.manageCanaryPodFailures [some findingPod]
      (some { strategy := some findingStrategy, newStatus := some findingStatus }) (some findingResult) 0 = none ∧
    (Eds.manageCanaryPodFailures [findingModelPod] findingStrategy.canary findingStatus findingStatus
      false false "" false 0).isSome = true := by
  decide +kernel
end Eds.Bridge
