import EdsModel.Conc
import EdsProofs.Lists
/-
  Helper lemmas about the interleaving model `EdsModel.Conc` (C17).

  * `Next` / `step_cases` / `step_induction` — one step replaces a goroutine that is not done by its
                     successor (four transitions), and the shared list with it;
  * `Done`         — goroutine `x` exists and has reported (`pc = 3`); monotone along every run;
  * `SafeInv`      — safety invariant valid for EVERY discipline (also the racy one): the shared
                     list is duplicate free and only holds failing goroutines that are done, and
                     the same holds for every snapshot a racy goroutine is about to write back;
  * `SyncInv`      — completeness invariant of the synchronised disciplines: nobody is between the
                     read and the write (`pc ≠ 2`) and every done failing goroutine is in the list;
  * `Le3` / `run_roundRobin_done` — progress of the round-robin schedule.
-/
namespace Eds.Conc

theorem step_none {d : Discipline} {fails : Nat → Bool} {s : St} {i : Nat}
    (h : s.gs[i]? = none) : step d fails s i = s := by
  simp [step, h]

/-- what a step does to a goroutine `g` that is not done, the shared list being `sh`: its successor and
the new shared list. -/
inductive Next (d : Discipline) (fails : Nat → Bool) (i : Nat) (sh : List Nat) (g : G) :
    G → List Nat → Prop
  | call : g.pc = 0 → Next d fails i sh g { g with pc := if fails i then 1 else 3 } sh
  | report : g.pc = 1 → d ≠ .racy → Next d fails i sh g { g with pc := 3 } (sh ++ [i])
  | read : g.pc = 1 → d = .racy → Next d fails i sh g { g with pc := 2, snap := sh } sh
  | write : g.pc = 2 → Next d fails i sh g { g with pc := 3 } (g.snap ++ [i])

/-- a step of an existing goroutine either leaves the state alone (`pc ≥ 3`) or replaces the
goroutine by its successor, and the shared list. -/
theorem step_cases (d : Discipline) (fails : Nat → Bool) {s : St} {i : Nat} {g : G}
    (h : s.gs[i]? = some g) :
    (3 ≤ g.pc ∧ step d fails s i = s) ∨
    ∃ g' sh, Next d fails i s.shared g g' sh ∧ step d fails s i = { gs := s.gs.set i g', shared := sh } := by
  by_cases h0 : g.pc = 0
  · exact Or.inr ⟨_, _, .call h0, by simp [step, h, h0, setG]⟩
  · by_cases h1 : g.pc = 1
    · cases d
      case racy => exact Or.inr ⟨_, _, .read h1 rfl, by simp [step, h, h1, setG]⟩
      all_goals exact Or.inr ⟨_, _, .report h1 (by decide), by simp [step, h, h1, setG]⟩
    · by_cases h2 : g.pc = 2
      · exact Or.inr ⟨_, _, .write h2, by simp [step, h, h2, setG]⟩
      · exact Or.inl ⟨by omega, by simp [step, h, h0, h1, h2]⟩

/-- what holds before a step and is kept when a goroutine is replaced by its successor holds after it. -/
theorem step_induction {d : Discipline} {fails : Nat → Bool} {P : St → Prop} {s : St} (k : Nat) (h : P s)
    (hnext : ∀ g g' sh, s.gs[k]? = some g → Next d fails k s.shared g g' sh →
      P { gs := s.gs.set k g', shared := sh }) : P (step d fails s k) := by
  cases hk : s.gs[k]? with
  | none => rw [step_none hk]; exact h
  | some g =>
    rcases step_cases d fails hk with ⟨_, e⟩ | ⟨g', sh, hn, e⟩ <;> rw [e]
    · exact h
    · exact hnext g g' sh hk hn

/-- a successor is one step further, at most at `pc = 3`. -/
theorem Next.pc {d : Discipline} {fails : Nat → Bool} {i : Nat} {sh sh' : List Nat} {g g' : G}
    (h : Next d fails i sh g g' sh') : g.pc < g'.pc ∧ g'.pc ≤ 3 := by
  cases h with
  | call p => dsimp only; split <;> omega
  | report p _ => dsimp only; omega
  | read p _ => dsimp only; omega
  | write p => dsimp only; omega

theorem get_set {gs : List G} {k j : Nat} {g g' x : G} (hk : gs[k]? = some g)
    (h : (gs.set k g')[j]? = some x) : (j = k ∧ x = g') ∨ (j ≠ k ∧ gs[j]? = some x) := by
  by_cases hjk : j = k
  · subst hjk
    rw [List.getElem?_set_self (List.getElem?_eq_some_iff.mp hk).1] at h
    exact Or.inl ⟨rfl, (Option.some.inj h).symm⟩
  · rw [List.getElem?_set_ne (Ne.symm hjk)] at h
    exact Or.inr ⟨hjk, h⟩

theorem step_length (d : Discipline) (fails : Nat → Bool) (s : St) (i : Nat) :
    (step d fails s i).gs.length = s.gs.length :=
  step_induction (P := fun s' => s'.gs.length = s.gs.length) i rfl (fun _ _ _ _ _ => List.length_set)

theorem run_cons (d : Discipline) (fails : Nat → Bool) (a : Nat) (t : List Nat) (s : St) :
    run d fails (a :: t) s = run d fails t (step d fails s a) := rfl

theorem run_append (d : Discipline) (fails : Nat → Bool) (l₁ l₂ : List Nat) (s : St) :
    run d fails (l₁ ++ l₂) s = run d fails l₂ (run d fails l₁ s) := by
  simp [run, List.foldl_append]

/-- a property that holds initially and is preserved by every step holds after every run. -/
theorem run_induction (d : Discipline) (fails : Nat → Bool) (P : St → Prop)
    (hstep : ∀ s i, P s → P (step d fails s i)) (sched : List Nat) (s : St) (h : P s) :
    P (run d fails sched s) := by
  induction sched generalizing s with
  | nil => exact h
  | cons a t ih => exact ih _ (hstep s a h)

theorem run_length (d : Discipline) (fails : Nat → Bool) (sched : List Nat) (s : St) :
    (run d fails sched s).gs.length = s.gs.length :=
  run_induction d fails (fun s' => s'.gs.length = s.gs.length)
    (fun s' i h => (step_length d fails s' i).trans h) sched s rfl

theorem init_get {n i : Nat} {g : G} (h : (init n).gs[i]? = some g) : i < n ∧ g = {} := by
  simp only [init, List.getElem?_replicate] at h
  by_cases hi : i < n
  · simp [hi] at h; exact ⟨hi, h.symm⟩
  · simp [hi] at h

/-- goroutine `x` exists and has finished (reported its error, if any). -/
def Done (s : St) (x : Nat) : Prop := ∃ g, s.gs[x]? = some g ∧ g.pc = 3

theorem Done.lt {s : St} {x : Nat} (h : Done s x) : x < s.gs.length := by
  rcases h with ⟨g, hg, _⟩
  exact (List.getElem?_eq_some_iff.mp hg).1

theorem not_done_of_pc {s : St} {k : Nat} {g : G} (hk : s.gs[k]? = some g) (hpc : g.pc ≠ 3) :
    ¬ Done s k := by
  rintro ⟨g', hg', h3⟩
  rw [hk] at hg'
  exact hpc ((Option.some.inj hg') ▸ h3)

theorem Done.update {s : St} {k x : Nat} {g g' : G} {sh : List Nat}
    (hk : s.gs[k]? = some g) (hpc : g.pc ≠ 3) (h : Done s x) :
    Done { gs := s.gs.set k g', shared := sh } x := by
  have hne : k ≠ x := fun e => not_done_of_pc hk hpc (e ▸ h)
  rcases h with ⟨gx, hx, hx3⟩
  exact ⟨gx, by simp only [List.getElem?_set_ne hne]; exact hx, hx3⟩

theorem Done.self {s : St} {k : Nat} {g g' : G} {sh : List Nat}
    (hk : s.gs[k]? = some g) (h3 : g'.pc = 3) :
    Done { gs := s.gs.set k g', shared := sh } k :=
  ⟨g', List.getElem?_set_self (List.getElem?_eq_some_iff.mp hk).1, h3⟩

theorem Done.step {d : Discipline} {fails : Nat → Bool} {s : St} {x : Nat} (k : Nat)
    (h : Done s x) : Done (step d fails s k) x :=
  step_induction (P := fun s => Done s x) k h (fun _ _ _ hk hn => h.update hk (by have := hn.pc; omega))

theorem Done.run {d : Discipline} {fails : Nat → Bool} {s : St} {x : Nat} (sched : List Nat)
    (h : Done s x) : Done (run d fails sched s) x :=
  run_induction d fails (fun s => Done s x) (fun _ i hs => hs.step i) sched s h

structure SafeInv (fails : Nat → Bool) (s : St) : Prop where
  nodup : s.shared.Nodup
  valid : ∀ x ∈ s.shared, Done s x ∧ fails x = true
  fl : ∀ (i : Nat) (g : G), s.gs[i]? = some g → g.pc = 1 ∨ g.pc = 2 → fails i = true
  snap : ∀ (i : Nat) (g : G), s.gs[i]? = some g → g.pc = 2 →
    g.snap.Nodup ∧ ∀ x ∈ g.snap, Done s x ∧ fails x = true

theorem SafeInv.init (fails : Nat → Bool) (n : Nat) : SafeInv fails (init n) where
  nodup := List.nodup_nil
  valid := by intro x hx; cases hx
  fl := by
    intro i g hg hpc
    obtain ⟨-, rfl⟩ := init_get hg
    rcases hpc with h | h <;> cases h
  snap := by
    intro i g hg hpc
    obtain ⟨-, rfl⟩ := init_get hg
    cases hpc

/-- generic preservation: replace a not-yet-done goroutine `k` by `g'` and the list by `sh`. -/
theorem SafeInv.update {fails : Nat → Bool} {s : St} {k : Nat} {g g' : G} {sh : List Nat}
    (inv : SafeInv fails s) (hk : s.gs[k]? = some g) (hpc : g.pc ≠ 3)
    (hnd : sh.Nodup)
    (hval : ∀ x ∈ sh, (Done s x ∨ (x = k ∧ g'.pc = 3)) ∧ fails x = true)
    (hfl : g'.pc = 1 ∨ g'.pc = 2 → fails k = true)
    (hsnap : g'.pc = 2 → g'.snap.Nodup ∧ ∀ x ∈ g'.snap, Done s x ∧ fails x = true) :
    SafeInv fails { gs := s.gs.set k g', shared := sh } where
  nodup := hnd
  valid := by
    intro x hx
    rcases hval x hx with ⟨h | ⟨rfl, h3⟩, hf⟩
    · exact ⟨h.update hk hpc, hf⟩
    · exact ⟨Done.self hk h3, hf⟩
  fl := by
    intro i gi hi hp
    rcases get_set hk hi with ⟨rfl, rfl⟩ | ⟨_, hi'⟩
    · exact hfl hp
    · exact inv.fl i gi hi' hp
  snap := by
    intro i gi hi hp
    -- the snapshot was taken in `s` or before; `Done` survives the update
    have old : gi.snap.Nodup ∧ ∀ x ∈ gi.snap, Done s x ∧ fails x = true := by
      rcases get_set hk hi with ⟨rfl, rfl⟩ | ⟨_, hi'⟩
      · exact hsnap hp
      · exact inv.snap i gi hi' hp
    exact ⟨old.1, fun x hx => ⟨(old.2 x hx).1.update hk hpc, (old.2 x hx).2⟩⟩

/-- goroutine `k` reports: it is appended to a duplicate-free list `l` of failing goroutines that were
done before (the shared list, or the snapshot a racy goroutine took of it). -/
theorem SafeInv.report {fails : Nat → Bool} {s : St} {k : Nat} {g g' : G} {l : List Nat}
    (inv : SafeInv fails s) (hk : s.gs[k]? = some g) (hpc : g.pc = 1 ∨ g.pc = 2) (h3 : g'.pc = 3)
    (hl : l.Nodup ∧ ∀ x ∈ l, Done s x ∧ fails x = true) :
    SafeInv fails { gs := s.gs.set k g', shared := l ++ [k] } := by
  have hne : g.pc ≠ 3 := by omega
  refine inv.update hk hne ?_ (fun x hx => ?_) (by omega) (by omega)
  · exact nodup_concat.mpr ⟨fun ha => not_done_of_pc hk hne (hl.2 k ha).1, hl.1⟩
  · rcases List.mem_append.mp hx with hx | hx
    · exact ⟨Or.inl (hl.2 x hx).1, (hl.2 x hx).2⟩
    · exact ⟨Or.inr ⟨List.mem_singleton.mp hx, h3⟩, List.mem_singleton.mp hx ▸ inv.fl k g hk hpc⟩

theorem SafeInv.step {fails : Nat → Bool} {s : St} (d : Discipline) (k : Nat)
    (inv : SafeInv fails s) : SafeInv fails (step d fails s k) := by
  refine step_induction k inv (fun g g' sh hk hn => ?_)
  have hold : ∀ {P : Nat → Prop}, ∀ x ∈ s.shared, (Done s x ∨ P x) ∧ fails x = true := fun x hx =>
    ⟨Or.inl (inv.valid x hx).1, (inv.valid x hx).2⟩
  cases hn with
  | call p =>
    refine inv.update hk (by omega) inv.nodup hold ?_ ?_
    · by_cases hf : fails k = true
      · intro _; exact hf
      · simp [hf]
    · by_cases hf : fails k = true <;> simp [hf]
  | report p _ => exact inv.report hk (Or.inl p) rfl ⟨inv.nodup, inv.valid⟩
  | read p _ =>
    exact inv.update hk (by omega) inv.nodup hold (fun _ => inv.fl k g hk (Or.inl p))
      (fun _ => ⟨inv.nodup, inv.valid⟩)
  | write p => exact inv.report hk (Or.inr p) rfl (inv.snap k g hk p)

theorem SafeInv.run {fails : Nat → Bool} (d : Discipline) (sched : List Nat) (n : Nat) :
    SafeInv fails (run d fails sched (Conc.init n)) :=
  run_induction d fails (SafeInv fails) (fun _ i hs => hs.step d i) sched _ (SafeInv.init fails n)

/-- consequence used by the properties: duplicate free, only failing ids below `n`. -/
theorem safe_run (d : Discipline) (fails : Nat → Bool) (sched : List Nat) (n : Nat) :
    (run d fails sched (init n)).shared.Nodup ∧
    ∀ i ∈ (run d fails sched (init n)).shared, i < n ∧ fails i = true := by
  have inv := SafeInv.run (fails := fails) d sched n
  refine ⟨inv.nodup, fun i hi => ⟨?_, (inv.valid i hi).2⟩⟩
  have := (inv.valid i hi).1.lt
  rw [run_length] at this
  simpa [init] using this

theorem shared_subset_failing (d : Discipline) (fails : Nat → Bool) (sched : List Nat) (n : Nat) :
    (run d fails sched (init n)).shared ⊆ (List.range n).filter fails := by
  intro x hx
  have := (safe_run d fails sched n).2 x hx
  exact List.mem_filter.mpr ⟨List.mem_range.mpr this.1, this.2⟩

theorem shared_length_le (d : Discipline) (fails : Nat → Bool) (sched : List Nat) (n : Nat) :
    (run d fails sched (init n)).shared.length ≤ nFails fails n :=
  (safe_run d fails sched n).1.length_le_of_subset (shared_subset_failing d fails sched n)

structure SyncInv (fails : Nat → Bool) (s : St) : Prop where
  no2 : ∀ (i : Nat) (g : G), s.gs[i]? = some g → g.pc ≠ 2
  comp : ∀ (i : Nat) (g : G), s.gs[i]? = some g → g.pc = 3 → fails i = true → i ∈ s.shared

theorem SyncInv.init (fails : Nat → Bool) (n : Nat) : SyncInv fails (init n) where
  no2 := by
    intro i g hg
    obtain ⟨-, rfl⟩ := init_get hg
    decide
  comp := by
    intro i g hg hpc
    obtain ⟨-, rfl⟩ := init_get hg
    cases hpc

/-- generic preservation: replace goroutine `k` by a `g'` that is not between read and write, and the list
by a longer one that holds `k` if `g'` is done and failed. -/
theorem SyncInv.update {fails : Nat → Bool} {s : St} {k : Nat} {g g' : G} {sh : List Nat}
    (inv : SyncInv fails s) (hk : s.gs[k]? = some g) (h2 : g'.pc ≠ 2) (hsub : s.shared ⊆ sh)
    (hcomp : g'.pc = 3 → fails k = true → k ∈ sh) :
    SyncInv fails { gs := s.gs.set k g', shared := sh } where
  no2 := by
    intro i gi hi
    rcases get_set hk hi with ⟨-, rfl⟩ | ⟨-, hi'⟩
    · exact h2
    · exact inv.no2 i gi hi'
  comp := by
    intro i gi hi h3 hf
    rcases get_set hk hi with ⟨rfl, rfl⟩ | ⟨-, hi'⟩
    · exact hcomp h3 hf
    · exact hsub (inv.comp i gi hi' h3 hf)

theorem SyncInv.step {fails : Nat → Bool} {s : St} {d : Discipline} (hd : d ≠ .racy) (k : Nat)
    (inv : SyncInv fails s) : SyncInv fails (step d fails s k) := by
  refine step_induction k inv (fun g g' sh hk hn => ?_)
  cases hn with
  | call p =>
    refine inv.update hk ?_ (fun _ h => h) ?_
    · by_cases hf : fails k = true <;> simp [hf]
    · intro h3 hf
      simp [hf] at h3
  | report p _ => exact inv.update hk (by simp) (List.subset_append_left _ _) (fun _ _ => by simp)
  | read _ hr => exact absurd hr hd
  | write p => exact absurd p (inv.no2 k g hk)

theorem SyncInv.run {fails : Nat → Bool} {d : Discipline} (hd : d ≠ .racy) (sched : List Nat)
    (n : Nat) : SyncInv fails (run d fails sched (Conc.init n)) :=
  run_induction d fails (SyncInv fails) (fun _ i hs => hs.step hd i) sched _ (SyncInv.init fails n)

theorem finished_get {s : St} (h : finished s = true) {i : Nat} (hi : i < s.gs.length) :
    ∃ g, s.gs[i]? = some g ∧ g.pc = 3 := by
  refine ⟨s.gs[i], List.getElem?_eq_getElem hi, ?_⟩
  simpa using List.all_eq_true.mp h s.gs[i] (List.getElem_mem hi)

/-- fan-in completeness of a synchronised discipline. -/
theorem sync_complete {d : Discipline} (hd : d ≠ .racy) (fails : Nat → Bool) (sched : List Nat)
    (n : Nat) (hfin : finished (run d fails sched (init n)) = true) :
    (run d fails sched (init n)).shared.Perm ((List.range n).filter fails) := by
  have hnd : ((List.range n).filter fails).Nodup :=
    List.Nodup.sublist List.filter_sublist List.nodup_range
  refine (List.perm_ext_iff_of_nodup (safe_run d fails sched n).1 hnd).mpr (fun x => ⟨?_, ?_⟩)
  · exact fun hx => shared_subset_failing d fails sched n hx
  · intro hx
    rcases List.mem_filter.mp hx with ⟨hr, hf⟩
    have hlt : x < (run d fails sched (init n)).gs.length := by
      rw [run_length]; simpa [init] using List.mem_range.mp hr
    rcases finished_get hfin hlt with ⟨g, hg, h3⟩
    exact (SyncInv.run (fails := fails) hd sched n).comp x g hg h3 hf

/-- every goroutine has a legal program counter. -/
def Le3 (s : St) : Prop := ∀ (i : Nat) (g : G), s.gs[i]? = some g → g.pc ≤ 3

theorem Le3.init (n : Nat) : Le3 (init n) := by
  unfold Le3
  intro i g hg
  obtain ⟨-, rfl⟩ := init_get hg
  decide

theorem Le3.update {s : St} {k : Nat} {g g' : G} {sh : List Nat} (h : Le3 s) (hk : s.gs[k]? = some g)
    (h' : g'.pc ≤ 3) : Le3 { gs := s.gs.set k g', shared := sh } := by
  intro i gi hi
  rcases get_set hk hi with ⟨-, rfl⟩ | ⟨-, hi'⟩
  · exact h'
  · exact h i gi hi'

theorem Le3.step {s : St} (d : Discipline) (fails : Nat → Bool) (k : Nat) (h : Le3 s) :
    Le3 (step d fails s k) :=
  step_induction (P := Le3) k h (fun _ _ _ hk hn => h.update hk hn.pc.2)

/-- one step of goroutine `k` strictly advances its program counter until it reaches 3. -/
theorem step_advance (d : Discipline) (fails : Nat → Bool) {s : St} {k : Nat} {g : G}
    (hk : s.gs[k]? = some g) (hle : g.pc ≤ 3) :
    ∃ g', (step d fails s k).gs[k]? = some g' ∧ g'.pc ≤ 3 ∧ min 3 (g.pc + 1) ≤ g'.pc := by
  rcases step_cases d fails hk with ⟨p, e⟩ | ⟨g', sh, hn, e⟩ <;> rw [e]
  · exact ⟨g, hk, hle, by omega⟩
  · have := hn.pc
    exact ⟨g', List.getElem?_set_self (List.getElem?_eq_some_iff.mp hk).1, this.2, by omega⟩

theorem three_steps_done (d : Discipline) (fails : Nat → Bool) {s : St} {k : Nat}
    (hle : Le3 s) (hk : k < s.gs.length) : Done (run d fails [k, k, k] s) k := by
  have h0 := List.getElem?_eq_getElem hk
  rcases step_advance d fails h0 (hle _ _ h0) with ⟨g1, h1, l1, a1⟩
  rcases step_advance d fails h1 l1 with ⟨g2, h2, l2, a2⟩
  rcases step_advance d fails h2 l2 with ⟨g3, h3, l3, a3⟩
  exact ⟨g3, h3, by omega⟩

theorem Le3.run {s : St} (d : Discipline) (fails : Nat → Bool) (sched : List Nat) (h : Le3 s) :
    Le3 (run d fails sched s) :=
  run_induction d fails Le3 (fun _ i hs => hs.step d fails i) sched s h

theorem run_roundRobin_done (d : Discipline) (fails : Nat → Bool) (l : List Nat) (s : St)
    (hle : Le3 s) :
    ∀ i ∈ l, i < s.gs.length → Done (run d fails (l.flatMap (fun i => [i, i, i])) s) i := by
  induction l generalizing s with
  | nil => intro i hi; cases hi
  | cons a t ih =>
    intro i hi hlt
    rw [List.flatMap_cons, run_append]
    rcases List.mem_cons.mp hi with rfl | hi
    · exact (three_steps_done d fails hle hlt).run _
    · exact ih _ (hle.run d fails _) i hi (by rw [run_length]; exact hlt)

theorem roundRobin_finished (d : Discipline) (fails : Nat → Bool) (n : Nat) :
    finished (run d fails ((List.range n).flatMap (fun i => [i, i, i])) (init n)) = true := by
  apply List.all_eq_true.mpr
  intro g hg
  rcases List.mem_iff_getElem?.mp hg with ⟨i, hi⟩
  have hlt : i < (init n).gs.length := by
    have := (List.getElem?_eq_some_iff.mp hi).1
    rwa [run_length] at this
  have hmem : i ∈ List.range n := by
    apply List.mem_range.mpr; simpa [init] using hlt
  rcases run_roundRobin_done d fails (List.range n) (init n) (Le3.init n) i hmem hlt with
    ⟨g', hg', h3⟩
  obtain rfl : g = g' := Option.some.inj (hi.symm.trans hg')
  simp [h3]

end Eds.Conc
