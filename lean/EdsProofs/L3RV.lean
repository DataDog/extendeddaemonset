import EdsModel.ClusterRV
import EdsProps.L3
/-
  EdsProofs.L3RV — helper lemmas for the cluster machine with resourceVersions
  (EdsModel/ClusterRV.lean), used by EdsProps/L3RV.lean:
    1  `execEds` with a FRESH read: the world of `applyEds`, one recorded value per applied write
    2  `execEds` with an OUTDATED version: only the replica-set writes are applied
    3  a stale reconcile = the step of `stepF` that drops every ExtendedDaemonSet write, taken in the
       world seen through the stale object, with the stored object put back (`stale_world_eq`)
    4  `seenWith`: the own replica sets depend on the daemonset's name and namespace only
    5  `HistIdent` (recorded values keep the object's identity) is an invariant
    6  the own replica sets after a stale reconcile (`stale_own_eq`, `stale_own_lift`)
    7  `step_reconcile_has_uptodate` (recovery)
-/
namespace Eds
open Cluster ClusterRV

/-! ## 1. a reconcile that read the stored object with its version -/

/-- the values the stored object goes through while the writes `wr` are applied to `d`, most recent
first, without the final one. -/
def edsStages (d : EDS) (wr : EdsWrites) : List EDS :=
  let d1 := match wr.defaulted with | some x => wDefaulted x d | none => d
  let d2 := match wr.statusUpdate with | some st => wStatus st d1 | none => d1
  (match wr.specUpdate with | some _ => [d2] | none => []) ++
  (match wr.statusUpdate with | some _ => [d1] | none => []) ++
  (match wr.defaulted with | some _ => [d] | none => [])

theorem execEds_fresh (w : WorldRV) (wr : EdsWrites) (nn : String) :
    (execEds w w.world.eds w.rv wr nn).world = applyEds w.world wr nn ∧
    (execEds w w.world.eds w.rv wr nn).hist = edsStages w.world.eds wr ++ w.hist ∧
    (execEds w w.world.eds w.rv wr nn).rv = w.rv + (edsStages w.world.eds wr).length := by
  obtain ⟨dflt, cr, del, st, sp, rq, rqa, err⟩ := wr
  cases dflt <;> cases st <;> cases sp <;>
    simp [execEds, WorldRV.putGuarded, WorldRV.put, WorldRV.setErss, edsStages, applyEds, applyEdsObj,
      wDefaulted, wStatus, wSpec]

/-! ## 2. a reconcile carrying an outdated version -/

/-- with an outdated version every write to the ExtendedDaemonSet is refused: a refused defaulting
update ends the reconcile; otherwise the replica-set writes are applied and the reconcile ends at the
status (or spec) update. -/
theorem execEds_outdated (w : WorldRV) (d : EDS) (ver : Nat) (wr : EdsWrites) (nn : String) (h : ver ≠ w.rv) :
    execEds w d ver wr nn =
      (match wr.defaulted with
       | some _ => w
       | none => WorldRV.setErss w (applyErsList d w.world.erss wr nn w.world.now)) := by
  obtain ⟨dflt, cr, del, st, sp, rq, rqa, err⟩ := wr
  cases dflt <;> cases st <;> cases sp <;>
    simp [execEds, WorldRV.putGuarded, WorldRV.setErss, h]

/-! ## 3. a stale reconcile as a faulty step in the world seen through the stale object -/

/-- the fault pattern that drops every write to the ExtendedDaemonSet and lets every replica-set write
through. -/
def ersOnly : Faults := { edsDefaulted := false, edsStatus := false, edsSpec := false }

theorem applyErsList_nowrites (d : EDS) (all : List ERS) (wr : EdsWrites) (nn : String) (now : Time)
    (hc : wr.created = none) (hd : wr.deletedErs = []) : applyErsList d all wr nn now = all := by
  unfold applyErsList
  simp [hc, hd]

theorem applyErsList_mask_ersOnly (d : EDS) (all : List ERS) (wr : EdsWrites) (nn : String) (now : Time) :
    applyErsList d all (maskEds ersOnly wr) nn now = applyErsList d all wr nn now := by
  unfold applyErsList maskEds ersOnly
  simp

theorem stepF_ersOnly_eds (w : World) (nn m : String) :
    (stepF ersOnly w (.reconcileEds nn m)).eds = w.eds := by
  simp [stepF, applyEds, applyEdsObj, maskEds, ersOnly]

theorem stepF_ersOnly_erss (w : World) (nn m : String) :
    (stepF ersOnly w (.reconcileEds nn m)).erss = applyErsList w.eds w.erss (edsWrites w m) nn w.now := by
  show applyErsList _ _ (maskEds ersOnly _) _ _ = _
  exact applyErsList_mask_ersOnly _ _ _ _ _

theorem stale_ver_ne (w : WorldRV) (k : Nat) (d : EDS) (h : w.hist[k]? = some d) : w.rv - (k + 1) ≠ w.rv := by
  have hk : k < w.hist.length := by
    rcases Nat.lt_or_ge k w.hist.length with hk | hk
    · exact hk
    · rw [List.getElem?_eq_none hk] at h; cases h
  have := w.hist_le
  omega

theorem stepRV_stale_def (w : WorldRV) (k : Nat) (nn m : String) :
    stepRV w (.reconcileEdsStale k nn m) =
      (match w.hist[k]? with
       | none => w
       | some d => execEds w d (w.rv - (k + 1)) (edsWrites (seenWith w.world d) m) nn) := rfl

/-- **a stale reconcile** changes at most the replica-set list, and changes it as the reconcile of the
world seen through the stale object does when all its ExtendedDaemonSet writes are dropped. -/
theorem stepRV_stale_eq (w : WorldRV) (k : Nat) (nn m : String) :
    stepRV w (.reconcileEdsStale k nn m) =
      (match w.hist[k]? with
       | none => w
       | some d => WorldRV.setErss w (stepF ersOnly (seenWith w.world d) (.reconcileEds nn m)).erss) := by
  rw [stepRV_stale_def]
  cases hk : w.hist[k]? with
  | none => rfl
  | some d =>
    simp only []
    rw [execEds_outdated _ _ _ _ _ (stale_ver_ne w k d hk), stepF_ersOnly_erss]
    cases hd : (edsWrites (seenWith w.world d) m).defaulted with
    | none => rfl
    | some x =>
      simp only []
      have hcases := reconcileEds_cases d w.world.erss w.world.pods w.world.nodes w.world.now m
      have hw : edsWrites (seenWith w.world d) m = reconcileEds d w.world.erss w.world.pods w.world.nodes w.world.now m := rfl
      rw [hw] at hd ⊢
      rcases hcases with hr | hr | ⟨_, hr⟩ | ⟨u, _, hr⟩
      · rw [hr, applyErsList_nowrites _ _ _ _ _ rfl rfl]
        rfl
      · rw [hr] at hd; cases hd
      · rw [hr] at hd; cases hd
      · rw [hr, edsMain_defaulted] at hd; cases hd

/-! ## 4. fresh ops; the shape of the history after a step -/

theorem stepRV_fresh_reconcileEds (w : WorldRV) (nn m : String) :
    stepRV w (.fresh (.reconcileEds nn m)) = execEds w w.world.eds w.rv (edsWrites w.world m) nn := rfl

theorem stepRV_fresh_world (w : WorldRV) (op : Op) : (stepRV w (.fresh op)).world = step w.world op := by
  cases op with
  | reconcileEds nn m => exact (execEds_fresh w _ nn).1
  | _ => rfl

theorem wDefaulted_ident (x : Strategy × String) (d : EDS) :
    (wDefaulted x d).name = d.name ∧ (wDefaulted x d).ns = d.ns ∧ (wDefaulted x d).labels = d.labels :=
  applyEdsObj_ident _ _ _
theorem wStatus_ident (st : EDSStatus) (d : EDS) :
    (wStatus st d).name = d.name ∧ (wStatus st d).ns = d.ns ∧ (wStatus st d).labels = d.labels :=
  applyEdsObj_ident _ _ _

theorem edsStages_ident (d : EDS) (wr : EdsWrites) :
    ∀ x ∈ edsStages d wr, x.name = d.name ∧ x.ns = d.ns ∧ x.labels = d.labels := by
  obtain ⟨dflt, cr, del, st, sp, rq, rqa, err⟩ := wr
  intro x hx
  cases dflt <;> cases st <;> cases sp <;> simp [edsStages] at hx
  all_goals
    rcases hx with rfl | rfl | rfl <;> simp [wDefaulted, wStatus, applyEdsObj]

theorem edsStages_nil (d : EDS) (wr : EdsWrites) (t : Template) (h : edsStages d wr = []) :
    applyEdsObj d wr t = d := by
  obtain ⟨dflt, cr, del, st, sp, rq, rqa, err⟩ := wr
  cases dflt <;> cases st <;> cases sp <;> simp [edsStages] at h
  rfl

theorem edsStages_last (d : EDS) (wr : EdsWrites) (h : edsStages d wr ≠ []) :
    (edsStages d wr).getLast? = some d := by
  obtain ⟨dflt, cr, del, st, sp, rq, rqa, err⟩ := wr
  cases dflt <;> cases st <;> cases sp <;> simp [edsStages] at h ⊢

/-- **the history after a step**: the values recorded by the step (`l`, most recent first) are put in
front of the old history; the version grows by their number; they are earlier values of the same
object; nothing recorded = object unchanged; otherwise the oldest recorded value is the object the step
started from. -/
theorem stepRV_hist_shape (w : WorldRV) (op : OpRV) :
    ∃ l, (stepRV w op).hist = l ++ w.hist ∧ (stepRV w op).rv = w.rv + l.length ∧
      (∀ x ∈ l, x.name = w.world.eds.name ∧ x.ns = w.world.eds.ns ∧ x.labels = w.world.eds.labels) ∧
      (l = [] → (stepRV w op).world.eds = w.world.eds) ∧
      (l ≠ [] → l.getLast? = some w.world.eds) := by
  cases op with
  | fresh op =>
    cases op with
    | reconcileEds nn m =>
      obtain ⟨h1, h2, h3⟩ := execEds_fresh w (edsWrites w.world m) nn
      refine ⟨edsStages w.world.eds (edsWrites w.world m), h2, h3, edsStages_ident _ _, ?_, edsStages_last _ _⟩
      intro hnil
      rw [stepRV_fresh_reconcileEds, h1]
      exact edsStages_nil _ _ _ hnil
    | userSpec _ _ _ _ =>
      exact ⟨[w.world.eds], rfl, rfl, by simp, by simp, by simp⟩
    | reconcileErs name rel aff =>
      refine ⟨[], rfl, rfl, by simp, fun _ => ?_, by simp⟩
      rw [stepRV_fresh_world, ← stepF_ok]
      exact stepF_eds_frame {} _ _ (fun _ _ h => by cases h) (fun _ _ _ _ h => by cases h)
    | _ => exact ⟨[], rfl, rfl, by simp, fun _ => rfl, by simp⟩
  | reconcileEdsStale k nn m =>
    refine ⟨[], ?_, ?_, by simp, fun _ => ?_, by simp⟩ <;>
      (rw [stepRV_stale_eq]; cases w.hist[k]? <;> rfl)

/-! ## 5. recorded values keep the identity of the object -/

/-- every recorded value is a value of the same object: same name, same namespace. -/
def HistIdent (w : WorldRV) : Prop := ∀ h ∈ w.hist, h.name = w.world.eds.name ∧ h.ns = w.world.eds.ns

instance (w : WorldRV) : Decidable (HistIdent w) :=
  inferInstanceAs (Decidable (∀ h ∈ w.hist, h.name = w.world.eds.name ∧ h.ns = w.world.eds.ns))

theorem histIdent_init (w : World) (v : Nat) : HistIdent (WorldRV.init w v) := by
  intro h hh; cases hh

theorem stepRV_ident (w : WorldRV) (op : OpRV) :
    (stepRV w op).world.eds.name = w.world.eds.name ∧ (stepRV w op).world.eds.ns = w.world.eds.ns ∧
    (stepRV w op).world.eds.labels = w.world.eds.labels := by
  cases op with
  | fresh op =>
    rw [stepRV_fresh_world, ← stepF_ok]
    exact stepF_ident {} _ _
  | reconcileEdsStale k nn m =>
    rw [stepRV_stale_eq]; cases w.hist[k]? <;> exact ⟨rfl, rfl, rfl⟩

theorem histIdent_stepRV (w : WorldRV) (op : OpRV) (h : HistIdent w) : HistIdent (stepRV w op) := by
  obtain ⟨l, hl, _, hid, _, _⟩ := stepRV_hist_shape w op
  obtain ⟨hn, hns, _⟩ := stepRV_ident w op
  intro x hx
  rw [hl] at hx
  rw [hn, hns]
  rcases List.mem_append.1 hx with hx | hx
  · exact ⟨(hid x hx).1, (hid x hx).2.1⟩
  · exact h x hx

/-! ## 6. the own replica sets after a stale reconcile -/

theorem own_seenWith (w : World) (d : EDS) (hn : d.name = w.eds.name) (hns : d.ns = w.eds.ns) :
    (seenWith w d).own = w.own :=
  ownErs_congr _ _ _ hn hns

/-- the own replica sets after a stale reconcile that read `d` are those of the faulty L3 step taken in
the world seen through `d`. -/
theorem stale_own_eq (w : WorldRV) (k : Nat) (nn m : String) (d : EDS) (hk : w.hist[k]? = some d)
    (hn : d.name = w.world.eds.name) (hns : d.ns = w.world.eds.ns) :
    (stepRV w (.reconcileEdsStale k nn m)).world.own =
      (stepF ersOnly (seenWith w.world d) (.reconcileEds nn m)).own := by
  rw [stepRV_stale_eq, hk]
  show ownErs w.world.eds _ = ownErs (stepF ersOnly (seenWith w.world d) (.reconcileEds nn m)).eds _
  rw [stepF_ersOnly_eds]
  exact (ownErs_congr _ _ _ hn hns).symm

theorem histIdent_get {w : WorldRV} (h : HistIdent w) {k : Nat} {d : EDS} (hk : w.hist[k]? = some d) :
    d.name = w.world.eds.name ∧ d.ns = w.world.eds.ns :=
  h d (List.mem_of_getElem? hk)

theorem stale_erss_eq (w : WorldRV) (k : Nat) (nn m : String) (d : EDS) (hk : w.hist[k]? = some d) :
    (stepRV w (.reconcileEdsStale k nn m)).world.erss =
      applyErsList d w.world.erss (edsWrites (seenWith w.world d) m) nn w.world.now := by
  rw [stepRV_stale_eq, hk]
  exact stepF_ersOnly_erss (seenWith w.world d) nn m

/-- a reconcile that read an object of ANOTHER identity (not reachable: `HistIdent`) creates nothing
the daemonset owns: its own replica sets can only become fewer. -/
theorem stale_own_foreign (w : WorldRV) (k : Nat) (nn m : String) (d : EDS) (hk : w.hist[k]? = some d)
    (hne : ¬ (d.name = w.world.eds.name ∧ d.ns = w.world.eds.ns)) :
    ((stepRV w (.reconcileEdsStale k nn m)).world.own).Sublist w.world.own := by
  have he : (stepRV w (.reconcileEdsStale k nn m)).world.eds = w.world.eds := by
    rw [stepRV_stale_eq, hk]; rfl
  unfold World.own
  rw [stale_erss_eq w k nn m d hk, he]
  unfold applyErsList
  rw [ownErs_append, ownErs_filter]
  cases hc : (edsWrites (seenWith w.world d) m).created with
  | none =>
    simp only []
    have : ownErs w.world.eds [] = [] := rfl
    rw [this, List.append_nil]
    exact List.filter_sublist
  | some n =>
    simp only []
    have hn : n = newReplicaSetFromInstance d := (reconcileEds_created_iff _ _ _ _ _ _ n hc).2.1
    subst hn
    have hl : SMap.get? (SMap.set d.labels K.edsNameLabel d.name) K.edsNameLabel = some d.name :=
      SMap.get?_set_self _ _ _
    have hcr : ownErs w.world.eds [ersOfNewAt d (newReplicaSetFromInstance d) nn w.world.now] = [] := by
      simp only [ownErs, ersOfNewAt, newReplicaSetFromInstance, hl, List.filter_cons, List.filter_nil]
      split
      · next hcond =>
        simp only [Bool.and_eq_true, beq_iff_eq, Option.some.injEq] at hcond
        exact absurd ⟨hcond.2, hcond.1⟩ hne
      · rfl
    rw [hcr, List.append_nil]
    exact List.filter_sublist

/-- a sublist-closed property `Q` of the own replica sets that every faulty L3 daemonset-reconcile step
keeps is kept by every stale reconcile (whatever the history holds). -/
theorem stale_own_lift (Q : List ERS → Prop) (w : WorldRV) (k : Nat) (nn m : String)
    (hsub : ∀ l l' : List ERS, l'.Sublist l → Q l → Q l')
    (hstep : ∀ w' : World, w'.own = w.world.own → Q w'.own → Q (stepF ersOnly w' (.reconcileEds nn m)).own)
    (h : Q w.world.own) : Q (stepRV w (.reconcileEdsStale k nn m)).world.own := by
  cases hk : w.hist[k]? with
  | none => rw [stepRV_stale_eq, hk]; exact h
  | some d =>
    by_cases hid : d.name = w.world.eds.name ∧ d.ns = w.world.eds.ns
    · obtain ⟨hn, hns⟩ := hid
      rw [stale_own_eq w k nn m d hk hn hns]
      have ho := own_seenWith w.world d hn hns
      exact hstep _ ho (by rw [ho]; exact h)
    · exact hsub _ _ (stale_own_foreign w k nn m d hk hid) h

/-! ## 7. a fresh reconcile of a defaulted, valid daemonset leaves a replica set for spec.template -/

theorem step_reconcileEds_own (w : World) (nn m : String) :
    (step w (.reconcileEds nn m)).own =
      w.own.filter (fun e => !(e.ns == w.eds.ns && (edsWrites w m).deletedErs.contains e.name)) ++
      (match (edsWrites w m).created with
       | some _ => [ersOfNewAt w.eds (newReplicaSetFromInstance w.eds) nn w.now]
       | none => []) := by
  have h := own_congr_step {} w (.reconcileEds nn m) (step w (.reconcileEds nn m)).erss
  rw [stepF_ok] at h
  unfold World.own
  rw [h, step_reconcileEds, applyEds_erss]
  exact ownErs_applyErsList w.eds w.erss _ nn w.now
    (fun n hn => (reconcileEds_created_iff _ _ _ _ _ _ n hn).2.1)

theorem mem_own_step_of_not_deleted (w : World) (nn m : String) (e : ERS) (he : e ∈ w.own)
    (hk : e.name ∉ (edsWrites w m).deletedErs) : e ∈ (step w (.reconcileEds nn m)).own := by
  rw [step_reconcileEds_own]
  exact List.mem_append_left _ (List.mem_filter.2 ⟨he, by simp [hk]⟩)

/-- after a fresh reconcile of a defaulted daemonset with a valid spec, some own replica set carries
the hash of the template now in spec (the created one, the one found up to date, or after a rollback
the current one). -/
theorem step_reconcile_has_uptodate (w : World) (nn m : String)
    (hd : isDefaulted w.eds.strategy w.eds.templateName = true) (hv : validateSpec w.eds.strategy = .ok)
    (hg : ∀ e ∈ w.own, SMap.get? e.annotations K.templateHashAnnot = some e.templateGeneration) :
    ∃ e ∈ (step w (.reconcileEds nn m)).own,
      SMap.get? e.annotations K.templateHashAnnot = some (step w (.reconcileEds nn m)).eds.templateHash := by
  cases hu : upToDateOf w.eds (ownErs w.eds w.erss) with
  | none =>
    obtain ⟨heds, hown⟩ := step_creates w hd hv ((upToDateOf_eq_none_iff _ _).1 hu) nn m
    exact ⟨_, by rw [hown]; exact List.mem_append_right _ (List.mem_singleton.2 rfl),
      by rw [heds]; exact ersOfNewAt_hash _ _ _⟩
  | some u =>
    have hr := edsWrites_main w hd hv hu m
    have hum := C13_reuse_selects w.eds w.erss u hu
    have hcm := currentOf_mem w.eds w.own u w.now hum.1
    rcases step_main_templateHash w nn m u hr with hc | hc
    · rw [hc]
      exact ⟨u, mem_own_step_of_not_deleted w nn m u hum.1
        (C13_uptodate_never_deleted w.eds w.erss w.pods w.nodes w.now m u hu), hum.2⟩
    · rw [hc]
      exact ⟨_, mem_own_step_of_not_deleted w nn m _ hcm
        (C13_current_never_deleted w.eds w.erss w.pods w.nodes w.now m u hu), hg _ hcm⟩

end Eds
