import EdsModel
import EdsSpec.C16
/-
  Helper lemmas about `EdsModel.Defaults` (defaulting / validation), one per sub-structure
  (rolling update, auto-pause, auto-fail, canary); composed in `EdsProps/C16.lean`.
-/
namespace Eds
open Spec.C16

/-- a field the user set survives defaulting by `getD` … -/
theorem isNone_or_beq_getD {α} [DecidableEq α] (o : Option α) (d : α) :
    (o.isNone || o == some (o.getD d)) = true := by
  cases o <;> simp

/-- … and defaulting that only fills an empty field. -/
theorem isNone_or_beq_ite {α} [DecidableEq α] (o : Option α) (b : Bool) (x : α) :
    (o.isNone || o == if o.isNone && b then some x else o) = true := by
  cases o <;> simp

theorem defaultRolling_idem (r : RollingUpdate) : defaultRolling (defaultRolling r) = defaultRolling r := by
  simp [defaultRolling]

theorem defaultRolling_defaulted (r : RollingUpdate) : isDefaultedRolling (defaultRolling r) = true := by
  simp [defaultRolling, isDefaultedRolling]

theorem defaultRolling_preserves (r : RollingUpdate) : preservesRolling r (defaultRolling r) = true := by
  simp [defaultRolling, preservesRolling, isNone_or_beq_getD]

theorem defaultRolling_noop (r : RollingUpdate) (h : isDefaultedRolling r = true) : defaultRolling r = r := by
  rcases r with ⟨a, b, c, d, e⟩
  simp only [isDefaultedRolling, Bool.and_eq_true, Option.isSome_iff_exists] at h
  obtain ⟨⟨⟨⟨⟨a, rfl⟩, ⟨c, rfl⟩⟩, ⟨b, rfl⟩⟩, ⟨d, rfl⟩⟩, ⟨e, rfl⟩⟩ := h
  rfl

theorem defaultAutoPause_idem (a : Option AutoPause) :
    defaultAutoPause (some (defaultAutoPause a)) = defaultAutoPause a := by
  simp [defaultAutoPause]

theorem defaultAutoPause_defaulted (a : Option AutoPause) :
    isDefaultedAutoPause (some (defaultAutoPause a)) = true := by
  simp [defaultAutoPause, isDefaultedAutoPause]

theorem defaultAutoPause_preserves (a : Option AutoPause) :
    preservesAutoPause a (some (defaultAutoPause a)) = true := by
  cases a <;> simp [defaultAutoPause, preservesAutoPause, isNone_or_beq_getD]

theorem defaultAutoPause_noop (a : Option AutoPause) (h : isDefaultedAutoPause a = true) :
    some (defaultAutoPause a) = a := by
  cases a with
  | none => cases h
  | some x =>
    rcases x with ⟨e, m, d⟩
    simp only [isDefaultedAutoPause, Bool.and_eq_true, Option.isSome_iff_exists] at h
    obtain ⟨⟨e, rfl⟩, ⟨m, rfl⟩⟩ := h
    rfl

theorem defaultAutoFail_idem (a : Option AutoFail) :
    defaultAutoFail (some (defaultAutoFail a)) = defaultAutoFail a := by
  simp [defaultAutoFail]

theorem defaultAutoFail_defaulted (a : Option AutoFail) :
    isDefaultedAutoFail (some (defaultAutoFail a)) = true := by
  simp [defaultAutoFail, isDefaultedAutoFail]

theorem defaultAutoFail_preserves (a : Option AutoFail) :
    preservesAutoFail a (some (defaultAutoFail a)) = true := by
  cases a <;> simp [defaultAutoFail, preservesAutoFail, isNone_or_beq_getD]

theorem defaultAutoFail_noop (a : Option AutoFail) (h : isDefaultedAutoFail a = true) :
    some (defaultAutoFail a) = a := by
  cases a with
  | none => cases h
  | some x =>
    rcases x with ⟨e, m, d, t⟩
    simp only [isDefaultedAutoFail, Bool.and_eq_true, Option.isSome_iff_exists] at h
    obtain ⟨⟨e, rfl⟩, ⟨m, rfl⟩⟩ := h
    rfl

/-- the validation mode chosen by `defaultCanary`. -/
def defaultedMode (c : Canary) (m : String) : String :=
  if c.validationMode == "" then m else c.validationMode

theorem defaultCanary_mode (c : Canary) (m : String) :
    (defaultCanary c m).validationMode = defaultedMode c m := rfl

theorem defaultedMode_idem (c : Canary) (m : String) :
    defaultedMode (defaultCanary c m) m = defaultedMode c m := by
  simp only [defaultedMode, defaultCanary_mode]
  by_cases h : c.validationMode = "" <;> by_cases h' : m = "" <;> simp [h, h']

/-- the mode of a defaulted canary is empty only if both the user's mode and the default mode are. -/
theorem defaultedMode_ne_empty (c : Canary) (m : String) :
    defaultedMode c m ≠ "" ↔ c.validationMode ≠ "" ∨ m ≠ "" := by
  unfold defaultedMode
  by_cases h : c.validationMode = "" <;> simp [h]

theorem defaultCanary_idem (c : Canary) (m : String) :
    defaultCanary (defaultCanary c m) m = defaultCanary c m := by
  have hm := defaultedMode_idem c m
  rcases c with ⟨rep, dur, ns, aak, ap, af, nrd, vm⟩
  simp only [defaultedMode, defaultCanary] at hm ⊢
  simp only [hm, defaultAutoPause_idem, defaultAutoFail_idem, Option.getD_some]
  generalize (if (vm == "") = true then m else vm) = mode
  congr 1
  · cases dur <;> by_cases h : mode = "auto" <;> simp [h]
  · cases nrd <;> by_cases h : mode = "auto" <;> simp [h]

theorem defaultCanary_preserves (c : Canary) (m : String) :
    preservesCanary (some c) (some (defaultCanary c m)) = true := by
  simp only [preservesCanary, defaultCanary, isNone_or_beq_getD, isNone_or_beq_ite,
    defaultAutoPause_preserves, defaultAutoFail_preserves, beq_self_eq_true, Bool.true_and, Bool.and_true]
  by_cases h : c.validationMode = "" <;> simp [h]

/-- a canary is recognised as defaulted when its mode is non-empty and it has what `Spec.C16.fills` asks of a
canary. -/
theorem isDefaultedCanary_eq (c : Canary) :
    isDefaultedCanary c =
      (c.validationMode != "" &&
        (c.replicas.isSome && c.nodeSelector.isSome && isDefaultedAutoPause c.autoPause &&
          isDefaultedAutoFail c.autoFail && (c.validationMode != "auto" || c.duration.isSome))) := by
  unfold isDefaultedCanary
  rw [Bool.not_and, Option.not_isNone, Bool.or_comm]
  simp only [bne]
  ac_rfl

/-- the canary part of `Spec.C16.fills`. -/
theorem defaultCanary_fills (c : Canary) (m : String) :
    ((defaultCanary c m).replicas.isSome && (defaultCanary c m).nodeSelector.isSome &&
      isDefaultedAutoPause (defaultCanary c m).autoPause &&
      isDefaultedAutoFail (defaultCanary c m).autoFail &&
      ((defaultCanary c m).validationMode != "auto" || (defaultCanary c m).duration.isSome)) = true := by
  rcases c with ⟨rep, dur, ns, aak, ap, af, nrd, vm⟩
  simp only [defaultCanary, defaultAutoPause_defaulted, defaultAutoFail_defaulted,
    Option.isSome_some, Bool.and_true, Bool.true_and]
  generalize (if (vm == "") = true then m else vm) = mode
  cases dur <;> by_cases h' : mode = "auto" <;> simp [h']

/-- defaulting an already-defaulted canary changes nothing, provided an "auto" canary already has
its `noRestartsDuration` (which `isDefaultedCanary` does not check). -/
theorem defaultCanary_noop (c : Canary) (m : String) (h : isDefaultedCanary c = true)
    (hn : c.validationMode = "auto" → c.noRestartsDuration.isSome = true) :
    defaultCanary c m = c := by
  rcases c with ⟨rep, dur, ns, aak, ap, af, nrd, vm⟩
  simp only [isDefaultedCanary, Bool.and_eq_true, bne_iff_ne, ne_eq, Bool.not_eq_true',
    Bool.and_eq_false_iff] at h
  obtain ⟨⟨⟨⟨⟨hrep, hvm⟩, hdur⟩, hns⟩, hap⟩, haf⟩ := h
  simp only [defaultCanary, defaultAutoPause_noop ap hap, defaultAutoFail_noop af haf]
  have hvm' : (vm == "") = false := by simpa using hvm
  simp only [hvm', Bool.false_eq_true, if_false]
  cases rep <;> cases ns <;> simp at hrep hns
  by_cases ha : vm = "auto"
  · have := hn ha
    cases nrd <;> cases dur <;> simp_all
  · simp [ha]

/-- with every pointer of the first clause set, the clause evaluates without a nil dereference. -/
theorem validateClause1_eq {c : Canary} {af : AutoFail} {ap : AutoPause} {afe ape : Bool} {a b : Int}
    (haf : c.autoFail = some af) (hap : c.autoPause = some ap)
    (hafe : af.enabled = some afe) (hape : ap.enabled = some ape)
    (ha : af.maxRestarts = some a) (hb : ap.maxRestarts = some b) :
    validateClause1 c = some (afe && ape && decide (a < b)) := by
  unfold validateClause1
  simp only [haf, hap, hafe, hape, ha, hb, Option.bind_eq_bind, Option.bind_some, Option.pure_def]
  cases afe <;> cases ape <;> simp

/-- a canary recognised as defaulted has every pointer the first clause dereferences. -/
theorem validateClause1_of_defaulted (c : Canary) (hd : isDefaultedCanary c = true) :
    ∃ b, validateClause1 c = some b := by
  simp only [isDefaultedCanary, isDefaultedAutoPause, isDefaultedAutoFail, Bool.and_eq_true] at hd
  obtain ⟨⟨_, hap⟩, haf⟩ := hd
  cases hap' : c.autoPause with
  | none => simp [hap'] at hap
  | some ap =>
    cases haf' : c.autoFail with
    | none => simp [haf'] at haf
    | some af =>
      simp only [hap', haf', Bool.and_eq_true, Option.isSome_iff_exists] at hap haf
      obtain ⟨⟨ape, hape⟩, ⟨apm, hapm⟩⟩ := hap
      obtain ⟨⟨afe, hafe⟩, ⟨afm, hafm⟩⟩ := haf
      exact ⟨_, validateClause1_eq haf' hap' hafe hape hafm hapm⟩

theorem ite_ne {α} {c : Prop} [Decidable c] {a b x : α} (ha : a ≠ x) (hb : b ≠ x) :
    (if c then a else b) ≠ x := by
  split <;> assumption

/-- once the first clause has evaluated the verdict is not a nil dereference: no leaf of the remaining
decision tree is `.panic`. -/
theorem validateSpec_ne_panic {s : Strategy} {c : Canary} {b : Bool} (hc : s.canary = some c)
    (h1 : validateClause1 c = some b) : validateSpec s ≠ .panic := by
  unfold validateSpec
  simp only [hc, h1]
  cases b
  · exact ite_ne (by decide) (ite_ne (ite_ne (by decide) (ite_ne (by decide) (by decide))) (by decide))
  · nofun

end Eds
