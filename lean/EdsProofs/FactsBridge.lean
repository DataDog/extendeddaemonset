import EdsModel
/-
  FactsBridge — the constants and tables the hand-written model uses are the ones extracted from the
  Go sources on this run (`EdsModel/Generated/Facts.lean`).  Changing a constant in /repo breaks the
  corresponding obligation here (and every property file that imports it).
-/
namespace Eds
open Generated

theorem facts_keys :
    K.edsNameLabel = Facts.const_ExtendedDaemonSetNameLabelKey ∧
    K.ersNameLabel = Facts.const_ExtendedDaemonSetReplicaSetNameLabelKey ∧
    K.settingNameLabel = Facts.const_ExtendedDaemonSetSettingNameLabelKey ∧
    K.settingNsLabel = Facts.const_ExtendedDaemonSetSettingNamespaceLabelKey ∧
    K.canaryLabel = Facts.const_ExtendedDaemonSetReplicaSetCanaryLabelKey ∧
    "true" = Facts.const_ExtendedDaemonSetReplicaSetCanaryLabelValue ∧
    K.templateHashAnnot = Facts.const_MD5ExtendedDaemonSetAnnotationKey ∧
    K.canaryValidAnnot = Facts.const_ExtendedDaemonSetCanaryValidAnnotationKey ∧
    K.canaryPausedAnnot = Facts.const_ExtendedDaemonSetCanaryPausedAnnotationKey ∧
    K.canaryPausedReasonAnnot = Facts.const_ExtendedDaemonSetCanaryPausedReasonAnnotationKey ∧
    K.canaryUnpausedAnnot = Facts.const_ExtendedDaemonSetCanaryUnpausedAnnotationKey ∧
    K.oldDaemonsetAnnot = Facts.const_ExtendedDaemonSetOldDaemonsetAnnotationKey ∧
    K.nodeHashAnnot = Facts.const_MD5NodeExtendedDaemonSetAnnotationKey ∧
    K.rollingUpdatePausedAnnot = Facts.const_ExtendedDaemonSetRollingUpdatePausedAnnotationKey ∧
    K.rolloutFrozenAnnot = Facts.const_ExtendedDaemonSetRolloutFrozenAnnotationKey ∧
    "true" = Facts.const_ValueStringTrue ∧ "false" = Facts.const_ValueStringFalse := by and_intros <;> rfl

theorem facts_defaults :
    Dflt.canaryReplica = Facts.default_defaultCanaryReplica ∧
    Dflt.canaryDuration = Facts.default_duration_Duration ∧
    Dflt.canaryNoRestartsDuration = Facts.default_duration_NoRestartsDuration ∧
    Dflt.autoPauseEnabled = Facts.default_defaultCanaryAutoPauseEnabled ∧
    Dflt.autoPauseMaxRestarts = Facts.default_defaultCanaryAutoPauseMaxRestarts ∧
    Dflt.autoFailEnabled = Facts.default_defaultCanaryAutoFailEnabled ∧
    Dflt.autoFailMaxRestarts = Facts.default_defaultCanaryAutoFailMaxRestarts ∧
    Dflt.slowStartInterval = Facts.default_duration_SlowStartIntervalDuration ∧
    Dflt.maxParallelPodCreation = Facts.default_defaultMaxParallelPodCreation ∧
    Dflt.reconcileFrequency = Facts.default_defaultReconcileFrequency ∧
    Dflt.maxUnavailable = Facts.default_rolling_MaxUnavailable ∧
    Dflt.maxPodSchedulerFailure = Facts.default_rolling_MaxPodSchedulerFailure ∧
    Dflt.slowStartAdditiveIncrease = Facts.default_rolling_SlowStartAdditiveIncrease := by and_intros <;> rfl

theorem facts_reason_tables :
    cannotStartReasons.isPerm Facts.cannotStartReasons = true ∧
    knownStatusReasons.isPerm Facts.knownStatusReasons = true := by decide +kernel

theorem facts_tolerations :
    standardTolerations.map (fun t => (t.key, t.op, t.value, t.effect)) = Facts.standardTolerations := rfl

theorem facts_times :
    Facts.failedErsRetention = 2 * minute ∧ Facts.cleanCanaryLabelsThreshold = 5 * minute ∧
    Facts.schedulerIssueAge = 600 * sec ∧ Facts.backoffInitial = 10 * sec ∧ Facts.backoffMax = 15 * minute := by and_intros <;> rfl

theorem facts_states :
    Facts.types_ExtendedDaemonSetStatusStateRunning = "Running" ∧
    Facts.types_ExtendedDaemonSetStatusStateRollingUpdatePaused = "RollingUpdate Paused" ∧
    Facts.types_ExtendedDaemonSetStatusStateRolloutFrozen = "Rollout frozen" ∧
    Facts.types_ExtendedDaemonSetStatusStateCanary = "Canary" ∧
    Facts.types_ExtendedDaemonSetStatusStateCanaryPaused = "Canary Paused" ∧
    Facts.types_ExtendedDaemonSetStatusStateCanaryFailed = "Canary Failed" ∧
    Facts.types_ConditionTypeEDSCanaryPaused = "Canary-Paused" ∧
    Facts.types_ConditionTypeEDSCanaryFailed = "Canary-Failed" ∧
    Facts.ers_ConditionTypeCanaryPaused = "Canary-Paused" ∧
    Facts.ers_ConditionTypeCanaryFailed = "Canary-Failed" ∧
    Facts.ers_ConditionTypeActive = "Active" ∧ Facts.ers_ConditionTypeCanary = "Canary" ∧
    Facts.ers_ConditionTypePodRestarting = "PodRestarting" ∧
    Facts.ers_ConditionTypePodCannotStart = "PodCannotStart" ∧
    Facts.ers_ConditionTypeLastFullSync = "LastFullSync" ∧
    Facts.ers_ConditionTypePodsCleanupDone = "PodsCleanupDone" ∧
    Facts.ers_ConditionTypeReconcileError = "ReconcileError" ∧
    Facts.ers_ConditionTypePodCreation = "PodCreation" ∧ Facts.ers_ConditionTypePodDeletion = "PodDeletion" ∧
    Facts.ers_ConditionTypeRollingUpdatePaused = "RollingUpdatePaused" ∧
    Facts.ers_ConditionTypeRolloutFrozen = "RolloutFrozen" ∧ Facts.ers_ConditionTypeUnschedule = "Unschedule" ∧
    Facts.setting_ExtendedDaemonsetSettingStatusValid = "valid" ∧
    Facts.setting_ExtendedDaemonsetSettingStatusError = "error" ∧
    Facts.types_ExtendedDaemonSetSpecStrategyCanaryValidationModeAuto = "auto" ∧
    Facts.types_ExtendedDaemonSetSpecStrategyCanaryValidationModeManual = "manual" := by and_intros <;> rfl

theorem facts_clear_canary_annotations :
    Facts.clearCanaryAnnotationKeys = [K.canaryPausedAnnot, K.canaryPausedReasonAnnot, K.canaryUnpausedAnnot] := rfl

end Eds

namespace Eds
open Generated

/-- which annotation keys each kubectl-eds `run()` body assigns and which client write verbs it
calls, as extracted from pkg/plugin: merge patches limited to the documented annotations, a status
update for `fail`, nothing else. -/
theorem facts_plugin_writes :
    Facts.pluginWrites = [
      ("pkg/plugin/canary/pause.go", [K.canaryPausedAnnot, K.canaryUnpausedAnnot], ["Patch"]),
      ("pkg/plugin/canary/validate.go", [K.canaryValidAnnot], ["Patch"]),
      ("pkg/plugin/canary/fail.go", [], ["Status.Update"]),
      ("pkg/plugin/pause/rollingupdate.go", [K.rollingUpdatePausedAnnot], ["Patch"]),
      ("pkg/plugin/freeze/rollout.go", [K.rolloutFrozenAnnot], ["Patch"])] := rfl

end Eds
