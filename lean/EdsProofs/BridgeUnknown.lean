import EdsModel.Generated.DecUnknown
import EdsProofs.BridgeDropCanary
/-
  EdsProofs.BridgeUnknown — `ManageUnknown` (strategy/unknown.go), translated as a whole on every run
  (EdsModel/Generated/DecUnknown.lean), is *equal* to the model's `manageUnknown` (EdsModel/Rolling.lean).

  The function deletes the canary nodes from the Go map `PodByNodeName` (`delete` inside the loop over
  `params.CanaryNodes`: BridgeDropCanary), iterates the map (any order: the theorem holds for every association list),
  and writes the status and the requeue request.  It assigns through `params`: the translation returns, next to the Go
  results `(*Result, error)`, what the caller sees through `params` afterwards.  Its API client parameter is unused (and
  dropped by the translator).

  Clock: `time.Now()` once (`wallNow1`, only passed on to `IsPodAvailable(pod, 0, ·)`, which does not read it when
  `minReadySeconds = 0`) and twice per iteration in `HasPodSchedulerIssue` (functions of the iteration index); the model
  evaluates the loop at one instant `wall`.
-/
namespace Eds.Bridge
open Eds

/-- one step of the counting fold of the model's `manageUnknown` (there a local `let`): (current, available, ready,
ignored). -/
def unkStep (tg : String) (wall : Time) (acc : Int × Int × Int × Int) (e : NodeItem × Option Pod) : Int × Int × Int × Int :=
  match e.2 with
  | none => acc
  | some pod =>
    if comparePod tg pod e.1 then
      if pod.schedulerIssue wall then (acc.1, acc.2.1, acc.2.2.1, acc.2.2.2 + 1)
      else (acc.1 + 1, acc.2.1 + (if pod.available then 1 else 0),
            acc.2.2.1 + (if pod.ready then 1 else 0), acc.2.2.2)
    else acc

/-- the model's `manageUnknown`, its local step function named. -/
theorem manageUnknown_fold (p : StratParams) (wall : Time) :
    Eds.manageUnknown p wall =
      { newStatus := some { p.newStatus with
          status := "unknown", desired := 0,
          ready := ((targeted p).foldl (unkStep p.ers.templateGeneration wall) (0, 0, 0, 0)).2.2.1,
          current := ((targeted p).foldl (unkStep p.ers.templateGeneration wall) (0, 0, 0, 0)).1,
          available := ((targeted p).foldl (unkStep p.ers.templateGeneration wall) (0, 0, 0, 0)).2.1,
          ignored := ((targeted p).foldl (unkStep p.ers.templateGeneration wall) (0, 0, 0, 0)).2.2.2 },
        requeue := (0 : Int) != ((targeted p).foldl (unkStep p.ers.templateGeneration wall) (0, 0, 0, 0)).2.2.1,
        requeueAfter := sec } := rfl

/-- the loop over `params.CanaryNodes`: the deletions, in order (`dropCanaryPB`). -/
theorem unknown_dropLoop (k : GParams → Option (Option GResult × Option String × Option GParams)) (names : List String)
    (i : Int) (P : GParams) :
    Generated.Decisions.manageUnknown.loop1 k names i P =
      k { P with podByNodeName := dropCanaryPB P.nodeByName names P.podByNodeName } := by
  induction names generalizing i P with
  | nil => rfl
  | cons n ns ih =>
    simp only [Generated.Decisions.manageUnknown.loop1]
    rw [ih]
    rfl

/-- one iteration of the translated loop over the map is the model's step; no iteration panics. -/
theorem unknown_cons (metaNow : Int) (P : GParams) (rs : ERS) (hrs : P.replicaset = some rs) (nilSlice : Bool)
    (w2 w3 : Int → Int) (wall : Time) (hw2 : ∀ i, w2 i = wall) (hw3 : ∀ i, w3 i = wall)
    (k : Int → Int → Int → Int → Int → Option (Option GResult × Option String × Option GParams))
    (ni : NodeItem) (go : Option GPod) (mo : Option Pod) (hv : OptPodRel go mo)
    (rest : List (Option NodeItem × Option GPod)) (i : Int) (a : Int × Int × Int × Int) (desired : Int) :
    Generated.Decisions.manageUnknown.loop2 metaNow P nilSlice w2 w3 k ((some ni, go) :: rest) i
        a.2.1 a.1 desired a.2.2.2 a.2.2.1 =
      Generated.Decisions.manageUnknown.loop2 metaNow P nilSlice w2 w3 k rest (i + 1)
        (unkStep rs.templateGeneration wall a (ni, mo)).2.1 (unkStep rs.templateGeneration wall a (ni, mo)).1 (desired + 1)
        (unkStep rs.templateGeneration wall a (ni, mo)).2.2.2 (unkStep rs.templateGeneration wall a (ni, mo)).2.2.1 := by
  simp only [Generated.Decisions.manageUnknown.loop2]
  cases hv with
  | none => simp [unkStep]
  | @some g m hr =>
    simp only [Option.isSome_some, if_true, hw2, hw3,
      src_hasPodSchedulerIssue g m wall hr.rel.nodeName hr.rel.creation hr.deletion hr.gracePeriod, Option.bind_some,
      src_compareCurrentPodWithNewPod P rs hrs g m ni hr, src_isPodAvailable g m hr.rel.conds,
      src_isPodReady g m hr.rel.conds]
    cases hsi : m.schedulerIssue wall <;> cases hcmp : comparePod rs.templateGeneration m ni <;>
      cases hav : m.available <;> cases hrd : m.ready <;>
      simp [unkStep, hsi, hcmp, hav, hrd]

theorem unknownLoop (metaNow : Int) (P : GParams) (rs : ERS) (hrs : P.replicaset = some rs) (nilSlice : Bool)
    (w2 w3 : Int → Int) (wall : Time) (hw2 : ∀ i, w2 i = wall) (hw3 : ∀ i, w3 i = wall)
    (k : Int → Int → Int → Int → Int → Option (Option GResult × Option String × Option GParams))
    (PB : List (Option NodeItem × Option GPod)) (es : List (NodeItem × Option Pod)) (hrel : EntriesRel PB es)
    (i : Int) (a : Int × Int × Int × Int) (desired : Int) :
    Generated.Decisions.manageUnknown.loop2 metaNow P nilSlice w2 w3 k PB i a.2.1 a.1 desired a.2.2.2 a.2.2.1 =
      k (es.foldl (unkStep rs.templateGeneration wall) a).2.1 (es.foldl (unkStep rs.templateGeneration wall) a).1
        (desired + es.length) (es.foldl (unkStep rs.templateGeneration wall) a).2.2.2
        (es.foldl (unkStep rs.templateGeneration wall) a).2.2.1 := by
  induction hrel generalizing i a desired with
  | nil => simp [Generated.Decisions.manageUnknown.loop2]
  | @cons ni go mo PB es hv _ ih =>
    rw [unknown_cons metaNow P rs hrs nilSlice w2 w3 wall hw2 hw3 k ni go mo hv PB i a desired, ih]
    simp only [List.foldl_cons, List.length_cons]
    have : desired + 1 + (es.length : Int) = desired + ((es.length + 1 : Nat) : Int) := by omega
    rw [this]

/-- what `ManageUnknown` leaves in `params`: the canary nodes are deleted from `PodByNodeName`. -/
def paramsAfterDrop (P : GParams) : GParams :=
  { P with podByNodeName := dropCanaryPB P.nodeByName P.canaryNodes P.podByNodeName }

/-- **`ManageUnknown`** (the role of a replica set that is neither active nor canary).  For `params = &P` with non-nil
`NewStatus` and `Replicaset`, the canary node names and the two maps of the model (`MapsRel`: any content, any order):
the translated function never panics, returns no error, returns the model's `manageUnknown` as `*Result`, and leaves the
canary nodes deleted from `params.PodByNodeName`. -/
theorem src_manageUnknown (P : GParams) (p : StratParams) (hN : P.newStatus = some p.newStatus)
    (hR : P.replicaset = some p.ers) (hC : P.canaryNodes = p.canaryNodes)
    (hm : MapsRel P.nodeByName P.podByNodeName p.byNode)
    (nilSlice : Bool) (w1 : Int) (w2 w3 : Int → Int) (wall : Time) (hw2 : ∀ i, w2 i = wall) (hw3 : ∀ i, w3 i = wall) :
    Generated.Decisions.manageUnknown (some P) nilSlice w1 w2 w3 =
      some (some (stratResultOf (Eds.manageUnknown p wall)), none, some (paramsAfterDrop P)) := by
  unfold Generated.Decisions.manageUnknown
  simp only [Option.bind_some]
  rw [unknown_dropLoop]
  simp only []
  have hrel := dropCanary_of_maps hm P.canaryNodes
  rw [hC] at hrel
  have hl := unknownLoop w1 (paramsAfterDrop P) p.ers hR nilSlice w2 w3 wall hw2 hw3
  unfold paramsAfterDrop at hl
  rw [hC] at hl ⊢
  rw [hl _ _ _ hrel 0 (0, 0, 0, 0) 0]
  simp only [hN, Option.bind_some, manageUnknown_fold, stratResultOf, targeted, paramsAfterDrop, hC]
  cases hb : ((0 : Int) != (List.foldl (unkStep p.ers.templateGeneration wall) (0, 0, 0, 0)
      (dropCanaryNodes p.byNode p.canaryNodes)).2.2.1) <;> simp

/-- a nil `params` is dereferenced by the first range expression. -/
theorem src_manageUnknown_nil (nilSlice : Bool) (w1 : Int) (w2 w3 : Int → Int) :
    Generated.Decisions.manageUnknown none nilSlice w1 w2 w3 = none := rfl

end Eds.Bridge
