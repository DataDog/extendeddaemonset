import EdsModel.Generated.DecCanaryStatus
import EdsProofs.BridgePodCompare
import EdsModel.CanaryS
/-
  EdsProofs.BridgeCanaryStatus — `manageCanaryStatus` (strategy/canary.go), as regenerated by the translator on every
  run (EdsModel/Generated/DecCanaryStatus.lean), is *equal* to the hand-written model function the property theorems
  C06 / C04 / C08 are stated about (EdsModel/CanaryS.lean).  The pod comparison it calls is bridged in BridgePodCompare.

  The two Go maps of `strategy.Parameters` are association lists (`Go.mapFind`, EdsModel/GoPrelude.lean):
  `NodeByName : map[string]*NodeItem` and `PodByNodeName : map[*NodeItem]*corev1.Pod`, the latter looked up by pointer
  identity — here by the explicit identity `Go.nodeItemKey` (the node's name).  The bridge holds for every content and
  every order of the two lists under `MapsRel`, which states what `FilterAndMapPodsByNode` constructs: every
  `NodeByName` entry is filed under the name of its node, and every key of `PodByNodeName` is the `NodeByName` entry of
  its name.

  `none` on the generated side is a Go panic; the theorems therefore also say when the function does not panic.
-/
namespace Eds.Bridge
open Eds

/-! ### `requeuePromptly` -/

theorem src_requeueIn (d : Dur) :
    Generated.Decisions.requeueIn d = some { requeue := true, requeueAfter := d } := rfl

theorem src_requeuePromptly :
    Generated.Decisions.requeuePromptly = some { requeue := true, requeueAfter := sec } := rfl

/-! ### the two maps of `strategy.Parameters` and the model's `byNode` -/

/-! `MapsRel` (what `FilterAndMapPodsByNode` constructs) is stated in BridgePodCompare, next to `EntriesRel`: the bridges of
`ManageDeployment` and `ManageUnknown` use it too. -/

theorem nodeItemKey_some (x y : NodeItem) : Go.nodeItemKey (some x) (some y) = (x.node.name == y.node.name) := rfl

theorem nodeItemKey_some_nil (x : NodeItem) : Go.nodeItemKey (some x) none = false := rfl

theorem mapFind_nil_key {PB : List (Option NodeItem × Option GPod)} {bn : List (NodeItem × Option Pod)}
    (h : EntriesRel PB bn) : Go.mapFind Go.nodeItemKey PB none = none := by
  induction h with
  | nil => rfl
  | cons _ _ ih =>
    unfold Go.mapFind at ih ⊢
    simpa only [List.find?_cons, nodeItemKey_some_nil] using ih

theorem lookupNode_mem {bn : List (NodeItem × Option Pod)} {n : String} {e : NodeItem × Option Pod}
    (h : lookupNode bn n = some e) : e ∈ bn ∧ e.1.node.name = n := by
  unfold lookupNode at h
  exact ⟨List.mem_of_find?_eq_some h, by simpa using List.find?_some h⟩

/-- the lookup of a node item in `PodByNodeName` (by `Go.nodeItemKey`) is the model's lookup of its name in `byNode`. -/
theorem lookup_rel_none {PB : List (Option NodeItem × Option GPod)} {bn : List (NodeItem × Option Pod)}
    (h : EntriesRel PB bn) (ni : NodeItem) (hl : lookupNode bn ni.node.name = none) :
    Go.mapFind Go.nodeItemKey PB (some ni) = none := by
  induction h with
  | nil => rfl
  | @cons x go mo PB bn hv _ ih =>
    unfold lookupNode at ih hl
    unfold Go.mapFind at ih ⊢
    simp only [List.find?_cons, nodeItemKey_some] at hl ⊢
    cases hx : (x.node.name == ni.node.name) with
    | true => simp [hx] at hl
    | false => simp only [hx] at hl ⊢; exact ih hl

theorem lookup_rel_some {PB : List (Option NodeItem × Option GPod)} {bn : List (NodeItem × Option Pod)}
    (h : EntriesRel PB bn) (ni x : NodeItem) (mo : Option Pod) (hl : lookupNode bn ni.node.name = some (x, mo)) :
    ∃ go, Go.mapFind Go.nodeItemKey PB (some ni) = some go ∧ OptPodRel go mo ∧ ∃ k, (k, go) ∈ PB := by
  induction h with
  | nil => simp [lookupNode] at hl
  | @cons y go mo' PB bn hv _ ih =>
    unfold lookupNode at ih hl
    unfold Go.mapFind at ih ⊢
    simp only [List.find?_cons, nodeItemKey_some] at hl ⊢
    cases hy : (y.node.name == ni.node.name) with
    | true =>
      simp only [hy, Option.some.injEq, Prod.mk.injEq] at hl
      obtain ⟨_, rfl⟩ := hl
      exact ⟨go, rfl, hv, some y, List.mem_cons_self⟩
    | false =>
      simp only [hy] at hl ⊢
      obtain ⟨go', h1, h2, k, h3⟩ := ih hl
      exact ⟨go', h1, h2, k, List.mem_cons_of_mem _ h3⟩

/-- under `MapsRel` the explicit identity is faithful: two keys of `PodByNodeName` compare equal by `Go.nodeItemKey`
(same node name) exactly when they are the same node item — the names of distinct keys are distinct. -/
theorem nodeItemKey_faithful {NB : List (String × Option NodeItem)} {PB : List (Option NodeItem × Option GPod)}
    {bn : List (NodeItem × Option Pod)} (hm : MapsRel NB PB bn) (a b : NodeItem × Option Pod) (ha : a ∈ bn) (hb : b ∈ bn) :
    Go.nodeItemKey (some a.1) (some b.1) = true ↔ a.1 = b.1 := by
  rw [nodeItemKey_some]
  constructor
  · intro h
    have h' : a.1.node.name = b.1.node.name := by simpa using h
    have e1 := hm.keys a ha
    have e2 := hm.keys b hb
    rw [h', e2] at e1
    exact (Option.some.inj e1).symm
  · intro h; rw [h]; simp

/-! ### the scan of the canary node list -/

theorem podsRel_append {gs : List GPod} {ms : List Pod} (h : PodsRel gs ms) {g : GPod} {m : Pod} (hr : PodRel g m) :
    PodsRel (gs ++ [g]) (ms ++ [m]) := by
  induction h with
  | nil => exact .cons hr .nil
  | cons h1 _ ih => exact .cons h1 ih

/-- one iteration of the translated loop over `params.CanaryNodes` is the model's `canaryScanStep`: the counters are
equal, the node lists are the model's (as non-nil pointers), the pods to check are Go pods whose canonical forms are the
model's; no iteration panics. -/
theorem scan_cons (now : Int) (P : GParams) (rs : ERS) (hrs : P.replicaset = some rs) (nilSlice : Bool)
    (bn : List (NodeItem × Option Pod)) (hm : MapsRel P.nodeByName P.podByNodeName bn)
    (hwfm : MapPodsWF P.podByNodeName)
    (n : String) (rest : List String) (i : Int) (c : CanaryScan) (gs : List GPod) (hrel : PodsRel gs c.toCheck)
    (hwf : ∀ g ∈ gs, podLastStatesWF g) :
    ∃ gs', PodsRel gs' (canaryScanStep rs.templateGeneration bn c n).toCheck ∧ (∀ g ∈ gs', podLastStatesWF g) ∧
      ∀ (k : Int → Int → Int → Bool → List (Option GPod) → List (Option NodeItem) → List (Option NodeItem) → Int →
        Option (Option GResult)),
      Generated.Decisions.manageCanaryStatus.loop1 now P nilSlice k (n :: rest) i c.available c.current c.desired
          c.needRequeue (gs.map some) (c.toCreate.map some) (c.toDelete.map fun e => some e.1) c.ready =
        Generated.Decisions.manageCanaryStatus.loop1 now P nilSlice k rest (i + 1)
          (canaryScanStep rs.templateGeneration bn c n).available (canaryScanStep rs.templateGeneration bn c n).current
          (canaryScanStep rs.templateGeneration bn c n).desired (canaryScanStep rs.templateGeneration bn c n).needRequeue
          (gs'.map some) ((canaryScanStep rs.templateGeneration bn c n).toCreate.map some)
          ((canaryScanStep rs.templateGeneration bn c n).toDelete.map fun e => some e.1)
          (canaryScanStep rs.templateGeneration bn c n).ready := by
  simp only [Generated.Decisions.manageCanaryStatus.loop1, Go.mapHas]
  cases hnode : Go.mapGetD Go.strKey P.nodeByName n none with
  | none =>
    -- no node item under this name: nothing but the desired count
    have hl : lookupNode bn n = none := by
      cases hl : lookupNode bn n with
      | none => rfl
      | some e =>
        obtain ⟨hmem, hname⟩ := lookupNode_mem hl
        have := hm.keys e hmem
        rw [hname, hnode] at this
        cases this
    refine ⟨gs, ?_, hwf, ?_⟩
    · simpa [canaryScanStep, hl] using hrel
    · intro k; simp [mapFind_nil_key hm.entries, canaryScanStep, hl]
  | some ni =>
    have hname : ni.node.name = n := hm.filed n ni hnode
    cases hl : lookupNode bn n with
    | none =>
      have hlk := lookup_rel_none hm.entries ni (hname ▸ hl)
      refine ⟨gs, ?_, hwf, ?_⟩
      · simpa [canaryScanStep, hl] using hrel
      · intro k; simp [hlk, canaryScanStep, hl]
    | some e =>
      obtain ⟨ni', mo⟩ := e
      obtain ⟨hmem, hname'⟩ := lookupNode_mem hl
      have hni : ni' = ni := by
        have := hm.keys _ hmem
        simp only at hname' this
        rw [hname', hnode] at this
        exact (Option.some.inj this).symm
      subst hni
      obtain ⟨go, hfind, hv, key, hkey⟩ := lookup_rel_some hm.entries ni' ni' mo (hname ▸ hl)
      cases hv with
      | none =>
        refine ⟨gs, ?_, hwf, ?_⟩
        · simpa [canaryScanStep, hl] using hrel
        · intro k; simp [Go.mapGetD, hfind, canaryScanStep, hl]
      | @some g m hr =>
        have hwg : podLastStatesWF g := hwfm _ hkey g rfl
        by_cases hdel : g.deletionTimestamp.isSome = true
        · refine ⟨gs, ?_, hwf, ?_⟩
          · simpa [canaryScanStep, hl, hr.deletion, hdel] using hrel
          · intro k; simp [Go.mapGetD, hfind, canaryScanStep, hl, hr.deletion, hdel]
        · by_cases hcmp : comparePod rs.templateGeneration m ni' = true
          · refine ⟨gs ++ [g], ?_, ?_, ?_⟩
            · simpa [canaryScanStep, hl, hr.deletion, hdel, hcmp] using podsRel_append hrel hr.rel
            · intro x hx
              rcases List.mem_append.mp hx with hx | hx
              · exact hwf x hx
              · simp only [List.mem_singleton] at hx; subst hx; exact hwg
            · intro k
              simp only [Go.mapGetD, hfind, Option.getD_some, Option.isSome_some, if_true, Option.isNone_some,
                Bool.false_eq_true, if_false, Option.bind_some, hdel, src_compareCurrentPodWithNewPod P rs hrs g m ni' hr, hcmp,
                Bool.not_true, src_isPodAvailable g m hr.rel.conds, src_isPodReady g m hr.rel.conds]
              simp only [canaryScanStep, hl, hr.deletion, hdel, hcmp, Bool.not_true, Bool.false_eq_true, if_false,
                List.map_append, List.map_cons, List.map_nil]
              cases m.available <;> cases m.ready <;> simp
          · refine ⟨gs, ?_, hwf, ?_⟩
            · simpa [canaryScanStep, hl, hr.deletion, hdel, hcmp] using hrel
            · intro k
              simp [Go.mapGetD, hfind, canaryScanStep, hl, hr.deletion, hdel, hcmp,
                src_compareCurrentPodWithNewPod P rs hrs g m ni' hr]

/-- the translated loop over `params.CanaryNodes` is the fold of the model's `canaryScanStep`. -/
theorem scanLoop (now : Int) (P : GParams) (rs : ERS) (hrs : P.replicaset = some rs) (nilSlice : Bool)
    (bn : List (NodeItem × Option Pod)) (hm : MapsRel P.nodeByName P.podByNodeName bn)
    (hwfm : MapPodsWF P.podByNodeName)
    (names : List String) (i : Int) (c : CanaryScan) (gs : List GPod) (hrel : PodsRel gs c.toCheck)
    (hwf : ∀ g ∈ gs, podLastStatesWF g) :
    ∃ gs', PodsRel gs' (names.foldl (canaryScanStep rs.templateGeneration bn) c).toCheck ∧
      (∀ g ∈ gs', podLastStatesWF g) ∧
      ∀ (k : Int → Int → Int → Bool → List (Option GPod) → List (Option NodeItem) → List (Option NodeItem) → Int →
        Option (Option GResult)),
      Generated.Decisions.manageCanaryStatus.loop1 now P nilSlice k names i c.available c.current c.desired
          c.needRequeue (gs.map some) (c.toCreate.map some) (c.toDelete.map fun e => some e.1) c.ready =
        k (names.foldl (canaryScanStep rs.templateGeneration bn) c).available
          (names.foldl (canaryScanStep rs.templateGeneration bn) c).current
          (names.foldl (canaryScanStep rs.templateGeneration bn) c).desired
          (names.foldl (canaryScanStep rs.templateGeneration bn) c).needRequeue
          (gs'.map some) ((names.foldl (canaryScanStep rs.templateGeneration bn) c).toCreate.map some)
          ((names.foldl (canaryScanStep rs.templateGeneration bn) c).toDelete.map fun e => some e.1)
          (names.foldl (canaryScanStep rs.templateGeneration bn) c).ready := by
  induction names generalizing i c gs with
  | nil => exact ⟨gs, hrel, hwf, fun k => by simp [Generated.Decisions.manageCanaryStatus.loop1]⟩
  | cons n rest ih =>
    obtain ⟨gs1, hrel1, hwf1, h1⟩ := scan_cons now P rs hrs nilSlice bn hm hwfm n rest i c gs hrel hwf
    obtain ⟨gs2, hrel2, hwf2, h2⟩ := ih (i + 1) _ gs1 hrel1 hwf1
    exact ⟨gs2, by simpa using hrel2, hwf2, fun k => by rw [h1 k, h2 k]; simp⟩

/-! ### `manageCanaryStatus` -/

/-- the Go `Result` that stands for a model `StratResult` of the canary strategy. -/
def canaryResultOf (r : StratResult) : GResult :=
  { isFrozen := false, isPaused := r.isPaused, pausedReason := r.pausedReason, isUnpaused := r.isUnpaused,
    isFailed := r.isFailed, failedReason := r.failedReason, newStatus := r.newStatus,
    podsToCreate := r.createE.map some, podsToDelete := r.deleteE.map fun e => some e.1,
    result := { requeue := r.requeue, requeueAfter := r.requeueAfter } }

/-- **`manageCanaryStatus`** (C06, C04, C08).  For a non-nil `params` with non-nil `Strategy`, `NewStatus` and
`Replicaset`, and the two maps related to the model's `byNode` by `MapsRel` (any content, any order), the translated
function is the model's `manageCanaryStatus`: it panics exactly when the model returns `none` (the nil dereferences of
`manageCanaryPodFailures`), and otherwise returns the model's flags, reasons, status (counters and conditions), node
lists and requeue request. -/
theorem src_manageCanaryStatus (ann : SMap) (P : GParams) (p : StratParams) (now : Time) (nilSlice : Bool)
    (hstrat : P.strategy = some p.strategy) (hns : P.newStatus = some p.newStatus) (hrs : P.replicaset = some p.ers)
    (hcn : P.canaryNodes = p.canaryNodes) (hann : p.edsAnnotations = ann)
    (hm : MapsRel P.nodeByName P.podByNodeName p.byNode) (hwfm : MapPodsWF P.podByNodeName) :
    Generated.Decisions.manageCanaryStatus ann (some P) now nilSlice =
      match Eds.manageCanaryStatus p now with
      | none => none
      | some r => some (some (canaryResultOf r)) := by
  subst hann
  unfold Generated.Decisions.manageCanaryStatus Eds.manageCanaryStatus
  simp only [Option.bind_some, hns, hrs, hcn, src_isCanaryFailed, src_isCanaryPaused, src_isCanaryUnpaused]
  obtain ⟨gs, hrel, hwf, hloop⟩ := scanLoop now P p.ers hrs nilSlice p.byNode hm hwfm p.canaryNodes 0 {} [] .nil (by simp)
  simp only [List.map_nil] at hloop
  rw [hloop]
  generalize hc : List.foldl (canaryScanStep p.ers.templateGeneration p.byNode) {} p.canaryNodes = c at hrel ⊢
  rw [src_manageCanaryPodFailures_gen gs c.toCheck hrel hwf P p.strategy p.newStatus
    { p.newStatus with status := "canary" } _ hstrat hns rfl rfl now]
  simp only []
  cases hmf : Eds.manageCanaryPodFailures c.toCheck p.strategy.canary p.newStatus
      { p.newStatus with status := "canary" } (isCanaryFailed (some p.ers)) (isCanaryPaused p.edsAnnotations (some p.ers)).1
      (isCanaryPaused p.edsAnnotations (some p.ers)).2 (isCanaryUnpaused p.edsAnnotations) now with
  | none => simp
  | some v =>
    obtain ⟨s, st⟩ := v
    have hlen : (Int.ofNat (List.map (some : NodeItem → Option NodeItem) c.toCreate).length != 0) = !c.toCreate.isEmpty := by
      cases c.toCreate with
      | nil => rfl
      | cons x l =>
        simp only [List.map_cons, List.length_cons, List.isEmpty_cons, Bool.not_false]
        have : ∀ n : Nat, ((Int.ofNat (n + 1)) != 0) = true := by intro n; simp; omega
        exact this _
    simp only [Option.bind_some, hlen, canaryResultOf, src_requeuePromptly, apply_ite Prod.fst, apply_ite Prod.snd,
      apply_ite GResult.isFailed, apply_ite GResult.isPaused, apply_ite GResult.newStatus, ite_self, ite_some_and,
      ite_some_or]
    -- pods are created, and a requeue is then certain; or not, and the requeue is one Boolean on both sides
    generalize (!c.toCreate.isEmpty && !s.isPaused && !s.isFailed) = create
    cases create
    · simp only [Bool.or_false, Bool.false_eq_true, if_false]
      cases (c.needRequeue || !s.isFailed && !s.isPaused && c.desired != c.ready) <;> rfl
    · simp only [Bool.or_true, Bool.true_or, if_true]
      rfl

/-- nil dereferences: a nil `params`, a nil `params.NewStatus` (`result.NewStatus.Status = …` right after the deep
copy). -/
theorem src_manageCanaryStatus_nil_params (ann : SMap) (now : Time) (nilSlice : Bool) :
    Generated.Decisions.manageCanaryStatus ann none now nilSlice = none := rfl

theorem src_manageCanaryStatus_nil_newStatus (ann : SMap) (P : GParams) (now : Time) (nilSlice : Bool)
    (h : P.newStatus = none) : Generated.Decisions.manageCanaryStatus ann (some P) now nilSlice = none := by
  cases P
  cases h
  rfl

/-- the translated function panics exactly when the model's does (the nil dereferences of `manageCanaryPodFailures`:
`Strategy.Canary`, `AutoPause`, `AutoFail`, their `Enabled` / `MaxRestarts`, a pod's `StartTime` under the slow-start
gate). -/
theorem src_manageCanaryStatus_panics_iff (ann : SMap) (P : GParams) (p : StratParams) (now : Time) (nilSlice : Bool)
    (hstrat : P.strategy = some p.strategy) (hns : P.newStatus = some p.newStatus) (hrs : P.replicaset = some p.ers)
    (hcn : P.canaryNodes = p.canaryNodes) (hann : p.edsAnnotations = ann)
    (hm : MapsRel P.nodeByName P.podByNodeName p.byNode) (hwfm : MapPodsWF P.podByNodeName) :
    Generated.Decisions.manageCanaryStatus ann (some P) now nilSlice = none ↔ Eds.manageCanaryStatus p now = none := by
  rw [src_manageCanaryStatus ann P p now nilSlice hstrat hns hrs hcn hann hm hwfm]
  cases Eds.manageCanaryStatus p now <;> simp

/-! ### Non-vacuity: a concrete instance of the hypotheses, evaluated on both sides.

Three canary node names: `n1` runs an up-to-date, ready pod, `n2` has no pod, `n3` is unknown to both maps.  The
association list is given in the order `n2, n1` (any order would do). -/

def exNode (n : String) : NodeItem := { node := { (default : Node) with name := n }, setting := none }

def exGoPod : GPod :=
  { (default : GPod) with
    name := "p1", spec := { nodeName := "n1", affinity := none },
    status := { phase := "Running", reason := "", startTime := none, initContainerStatuses := [],
                containerStatuses := [], ephemeralContainerStatuses := [],
                conditions := [{ type := "Ready", status := "True", lastProbeTime := 0, lastTransitionTime := 0,
                                 reason := "", message := "" }] },
    annotations := [⟨"extendeddaemonset.datadoghq.com/templatehash", "h1"⟩] }

def exModelPod : Pod :=
  { (default : Pod) with
    name := "p1", nodeName := "n1", conds := Go.canonPodConds exGoPod,
    annotations := [⟨"extendeddaemonset.datadoghq.com/templatehash", "h1"⟩] }

def exErs : ERS := { (default : ERS) with name := "rs", templateGeneration := "h1" }

def exStatus : ERSStatus := { status := "", desired := 0, current := 0, ready := 0, available := 0, ignored := 0, conds := [] }

def exGoParams : GParams :=
  { strategy := some findingStrategy, newStatus := some exStatus, edsName := "eds", replicaset := some exErs,
    canaryNodes := ["n1", "n2", "n3"],
    nodeByName := [("n1", some (exNode "n1")), ("n2", some (exNode "n2"))],
    podByNodeName := [(some (exNode "n2"), none), (some (exNode "n1"), some exGoPod)] }

def exModelParams : StratParams :=
  { edsName := "eds", edsAnnotations := [], strategy := findingStrategy, ers := exErs, newStatus := exStatus,
    canaryNodes := ["n1", "n2", "n3"], byNode := [(exNode "n2", none), (exNode "n1", some exModelPod)],
    toCleanUp := [], unscheduled := [] }

theorem exPodRel : PodRelC exGoPod exModelPod :=
  { rel := { name := rfl, nodeName := rfl, creation := rfl, startTime := rfl, conds := rfl, cstats := rfl,
             affRequired := rfl, annotations := rfl },
    deletion := rfl, gracePeriod := rfl, containers := rfl }

theorem exMapsRel : MapsRel exGoParams.nodeByName exGoParams.podByNodeName exModelParams.byNode where
  filed := filed_of_all _ (by decide +kernel)
  keys := by decide +kernel
  entries := .cons .none (.cons (.some exPodRel) .nil)

theorem exMapPodsWF : MapPodsWF exGoParams.podByNodeName := by
  intro e he g hg s hs
  simp only [exGoParams, List.mem_cons, List.mem_nil_iff, or_false] at he
  rcases he with rfl | rfl
  · cases hg
  · cases hg; simp [exGoPod] at hs

/-- both sides evaluated: one pod to create (on `n2`), none to delete, counters 3 / 1 / 1 / 1, a prompt requeue. -/
theorem ex_manageCanaryStatus_eval :
    ((Generated.Decisions.manageCanaryStatus [] (some exGoParams) 100 false).bind id).map
        (fun r => (r.podsToCreate, r.podsToDelete)) = some ([some (exNode "n2")], []) ∧
    (((Generated.Decisions.manageCanaryStatus [] (some exGoParams) 100 false).bind id).bind (·.newStatus)).map
        (fun s => (s.status, s.desired, s.current, s.ready, s.available)) = some ("canary", 3, 1, 1, 1) ∧
    ((Generated.Decisions.manageCanaryStatus [] (some exGoParams) 100 false).bind id).map (·.result) =
      some { requeue := true, requeueAfter := sec } ∧
    (Eds.manageCanaryStatus exModelParams 100).map (fun r => (r.podsToCreate, r.podsToDelete, r.requeue)) =
      some (["n2"], [], true) := by
  decide +kernel

theorem ex_manageCanaryStatus_bridge :
    Generated.Decisions.manageCanaryStatus [] (some exGoParams) 100 false =
      (Eds.manageCanaryStatus exModelParams 100).map fun r => some (canaryResultOf r) := by
  rw [src_manageCanaryStatus [] exGoParams exModelParams 100 false rfl rfl rfl rfl rfl exMapsRel exMapPodsWF]
  cases Eds.manageCanaryStatus exModelParams 100 <;> rfl

/-! **`MapsRel.filed` is necessary** (a property of the representation, not a defect of the code: `FilterAndMapPodsByNode`
files every node item under `Node.Name`).  With a node item filed under another name, the code follows the pointer (it
finds the entry of the item and creates a pod there) while the model, which merges the two maps into one list looked up by
node name, finds nothing. -/

def misfiledGo : GParams :=
  { exGoParams with canaryNodes := ["a"], nodeByName := [("a", some (exNode "b"))], podByNodeName := [(some (exNode "b"), none)] }

def misfiledModel : StratParams := { exModelParams with canaryNodes := ["a"], byNode := [(exNode "b", none)] }

theorem maps_filed_needed :
    ((Generated.Decisions.manageCanaryStatus [] (some misfiledGo) 100 false).bind id).map (·.podsToCreate) =
      some [some (exNode "b")] ∧
    (Eds.manageCanaryStatus misfiledModel 100).map (·.createE) = some [] := by
  decide +kernel

end Eds.Bridge
