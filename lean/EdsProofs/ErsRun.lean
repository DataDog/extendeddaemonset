import EdsProofs.ReconcileErs
/-
  EdsProofs.ErsRun — histories of ONE replica set: a list of syncs of the replica-set controller,
  the status written by sync k being the status read by sync k+1.

  * `Sync`            — what one `Reconcile` of the replica set reads besides the replica set itself:
                        the store (EDSs with their status, nodes, pods, settings, daemonsets), the
                        failed-pod back-off oracle, the affinity mode and the clock.  Every field is
                        free per sync: between two syncs the rest of the world (the EDS controller,
                        the kubelet, the syncs of other replica sets, users) may rewrite the store
                        arbitrarily.  The replica set's own `status` is NOT part of the store: the
                        only writer of an ERS status is the sync of that ERS (`ErsWrites.statusUpdate`),
                        so no other sync can touch it;
  * `stepErs`, `runErs` — apply the status write of a sync / of a list of syncs;
  * `stepErs_cases`   — the three shapes of a step: status untouched (no owner, gated, early error,
                        or nothing to write), the not-defaulted write (ReconcileError only), a full run;
  * `ersFinish_read`  — the status a full run leaves is the strategy's with conditions of six types
                        updated; `preConds_updated`, `rollingConds_updated`, `deploymentConds_updated`:
                        the types `applyStrategy` and `ManageDeployment` update.
-/
namespace Eds

/-- the inputs of one sync of a replica set, apart from the replica set itself. -/
structure Sync where
  st : ErsStore
  released : String → Bool := fun _ => true
  aff : Bool := true
  now : Time

/-- the writes the sync issues when it reads the replica set `rs`. -/
def Sync.run (s : Sync) (rs : ERS) : ErsWrites := reconcileErs rs s.st s.released s.aff s.now

/-- the replica set after the sync's status write has been applied (`statusUpdate = none`: the sync
found the status current and wrote nothing). -/
def stepErs (rs : ERS) (s : Sync) : ERS := { rs with status := (s.run rs).statusUpdate.getD rs.status }

/-- the replica set after a list of syncs, each reading the status the previous one left. -/
def runErs (rs : ERS) : List Sync → ERS
  | [] => rs
  | s :: ss => runErs (stepErs rs s) ss

@[simp] theorem runErs_nil (rs : ERS) : runErs rs [] = rs := rfl
@[simp] theorem runErs_cons (rs : ERS) (s : Sync) (ss : List Sync) :
    runErs rs (s :: ss) = runErs (stepErs rs s) ss := rfl

theorem runErs_append (rs : ERS) (ss ts : List Sync) :
    runErs rs (ss ++ ts) = runErs (runErs rs ss) ts := by
  induction ss generalizing rs with
  | nil => rfl
  | cons s ss ih => simp only [List.cons_append, runErs_cons, ih]

theorem runErs_snoc (rs : ERS) (ss : List Sync) (s : Sync) :
    runErs rs (ss ++ [s]) = stepErs (runErs rs ss) s := by
  rw [runErs_append]; rfl

/-- the state read by sync number `j` extends the one read by sync number `i ≤ j` by the syncs in between. -/
theorem runErs_take_le (rs : ERS) (ss : List Sync) (i j : Nat) (h : i ≤ j) :
    runErs rs (ss.take j) = runErs (runErs rs (ss.take i)) ((ss.drop i).take (j - i)) := by
  rw [← runErs_append]
  congr 1
  have : j = i + (j - i) := by omega
  conv => lhs; rw [this, List.take_add]

theorem take_succ_eq_snoc {α} (l : List α) (k : Nat) (h : k < l.length) :
    l.take (k + 1) = l.take k ++ [l[k]] :=
  List.take_succ_eq_append_getElem h

theorem stepErs_name (rs : ERS) (s : Sync) : (stepErs rs s).name = rs.name := rfl
theorem stepErs_ns (rs : ERS) (s : Sync) : (stepErs rs s).ns = rs.ns := rfl
theorem stepErs_ownerEds (rs : ERS) (s : Sync) : (stepErs rs s).ownerEds = rs.ownerEds := rfl

theorem ersOwner_stepErs (rs : ERS) (s : Sync) (st : ErsStore) : ersOwner (stepErs rs s) st = ersOwner rs st := rfl

theorem runErs_name (rs : ERS) (ss : List Sync) : (runErs rs ss).name = rs.name := by
  induction ss generalizing rs with
  | nil => rfl
  | cons s ss ih => rw [runErs_cons, ih, stepErs_name]

theorem ersOwner_runErs (rs : ERS) (ss : List Sync) (st : ErsStore) : ersOwner (runErs rs ss) st = ersOwner rs st := by
  induction ss generalizing rs with
  | nil => rfl
  | cons s ss ih => rw [runErs_cons, ih, ersOwner_stepErs]

theorem getD_ite_bne {α} [BEq α] [LawfulBEq α] (a b : α) :
    (if (a != b) = true then some a else none).getD b = a := by
  by_cases h : a = b
  · subst h; simp
  · have : (a != b) = true := by simpa using h
    rw [if_pos this]; rfl

/-- **The status a full run leaves** for the next sync to read — written, or found current — is the
strategy's status `st0` with conditions of the five types `Reconcile` manages itself updated, and
then the LastFullSync stamp. -/
theorem ersFinish_read (rs : ERS) (role : String) (freq : Dur) (sp : StratParams) (r : StratResult)
    (adds removes : List String) (se : Bool) (st0 : ERSStatus) (aff : Bool) (now : Time) :
    ∃ cs, CondsUpdated [now] ["PodsCleanupDone", "Unschedule", "PodDeletion", "PodCreation", "ReconcileError"]
        st0.conds cs ∧
      (ersFinish rs role freq sp r adds removes se st0 aff now).statusUpdate.getD rs.status =
        { st0 with conds := updateCond cs now "LastFullSync" "True" "" "full sync" true true } := by
  unfold ersFinish
  refine ⟨_, ?_, getD_ite_bne _ _⟩
  exact .upd (.updIf (.updIf (.upd (.updIf (.refl _)))))

/-- **A full run keeps what the strategy returned** for every condition type `Reconcile` does not
manage itself. -/
theorem ersFinish_findCond (rs : ERS) (role : String) (freq : Dur) (sp : StratParams) (r : StratResult)
    (adds removes : List String) (se : Bool) (st0 : ERSStatus) (aff : Bool) (now : Time) (t : String)
    (ht : t ∉ ["LastFullSync", "PodsCleanupDone", "Unschedule", "PodDeletion", "PodCreation", "ReconcileError"]) :
    findCond ((ersFinish rs role freq sp r adds removes se st0 aff now).statusUpdate.getD rs.status).conds t
      = findCond st0.conds t := by
  obtain ⟨cs, hcs, he⟩ := ersFinish_read rs role freq sp r adds removes se st0 aff now
  rw [he]
  exact (findCond_updateCond_other _ _ _ _ _ _ _ _ _ (List.ne_of_not_mem_cons ht).symm).trans
    (hcs.findCond_eq (List.not_mem_of_not_mem_cons ht))

theorem ersNotDefaulted_findCond (rs : ERS) (now : Time) (t : String) (h : "ReconcileError" ≠ t) :
    findCond ((ersNotDefaulted rs now).statusUpdate.getD rs.status).conds t = findCond rs.status.conds t := by
  unfold ersNotDefaulted
  simp only []
  rw [getD_ite_bne]
  exact findCond_updateCond_other _ _ _ _ _ _ _ _ _ h

theorem stepErs_cases (rs : ERS) (s : Sync) :
    (stepErs rs s).status = rs.status ∨
    (∃ d, ersOwner rs s.st = some d ∧ isDefaulted d.strategy d.templateName = false ∧
      (stepErs rs s).status = (ersNotDefaulted rs s.now).statusUpdate.getD rs.status) ∨
    (∃ d items r adds removes se st0, ersOwner rs s.st = some d ∧
      FullRun d rs s.st s.released s.aff s.now (s.run rs) items r adds removes se st0) := by
  rw [show (stepErs rs s).status = (s.run rs).statusUpdate.getD rs.status from rfl,
    show s.run rs = reconcileErs rs s.st s.released s.aff s.now from rfl]
  cases ho : ersOwner rs s.st with
  | none => rw [reconcileErs_no_owner rs s.st s.released s.aff s.now ho]; exact Or.inl rfl
  | some d =>
    rw [reconcileErs_eq rs s.st s.released s.aff s.now d ho]
    rcases ersBody_cases d rs s.st s.released s.aff s.now with
      h | ⟨hd, h⟩ | ⟨_, _, h⟩ | ⟨items, r, adds, removes, se, st0, F⟩
    · rw [h]; exact Or.inl rfl
    · exact Or.inr (Or.inl ⟨d, rfl, hd, by rw [h]⟩)
    · rw [h]; exact Or.inl rfl
    · exact Or.inr (Or.inr ⟨d, items, r, adds, removes, se, st0, rfl, F⟩)

theorem preConds_updated (role : String) (cs : List Cond) (now : Time) :
    CondsUpdated [now] ["Canary", "Canary-Paused", "Canary-Failed", "Active"] cs (preConds role cs now) := by
  unfold preConds
  exact .ite (.upd (.upd (.upd (.refl _)))) (.ite (.upd (.upd (.refl _))) (.upd (.upd (.refl _))))

/-- outside the active role `applyStrategy` leaves Canary-Failed and Canary-Paused alone. -/
theorem preConds_updated_nonactive (role : String) (cs : List Cond) (now : Time) (hr : role ≠ "active") :
    CondsUpdated [now] ["Canary", "Active"] cs (preConds role cs now) := by
  unfold preConds
  rw [if_neg (by simpa using hr)]
  exact .ite (.upd (.upd (.refl _))) (.upd (.upd (.refl _)))

theorem preConds_findCond (role : String) (conds : List Cond) (now : Time) (t : String)
    (h1 : "Canary" ≠ t) (h2 : "Canary-Paused" ≠ t) (h3 : "Canary-Failed" ≠ t) (h4 : "Active" ≠ t) :
    findCond (preConds role conds now) t = findCond conds t :=
  (preConds_updated role conds now).findCond_eq (by simp [h1.symm, h2.symm, h3.symm, h4.symm])

theorem rollingConds_updated (p : StratParams) (now : Time) :
    CondsUpdated [now] ["RollingUpdatePaused", "RolloutFrozen", "Active"] p.newStatus.conds (rollingConds p now) := by
  unfold rollingConds
  exact .upd (.upd (.upd (.refl _)))

theorem deploymentConds_updated (p : StratParams) (now wall : Time) (cf : Bool) :
    CondsUpdated [now, wall] ["RollingUpdatePaused", "RolloutFrozen", "Active", "PodsCleanupDone"]
      p.newStatus.conds (deploymentConds p now wall cf) := by
  unfold deploymentConds rollingConds
  exact .ite (.upd (.upd (.upd (.refl _)))) (.upd (.upd (.upd (.upd (.refl _)))))

theorem manageDeployment_findCond (p : StratParams) (now wall : Time) (cf : Bool) (r : StratResult)
    (st0 : ERSStatus) (h : manageDeployment p now wall cf = .ok r) (hs : r.newStatus = some st0) (t : String)
    (h1 : "RollingUpdatePaused" ≠ t) (h2 : "RolloutFrozen" ≠ t) (h3 : "Active" ≠ t) (h4 : "PodsCleanupDone" ≠ t) :
    findCond st0.conds t = findCond p.newStatus.conds t := by
  rw [manageDeployment_conds p now wall cf r st0 h hs]
  exact (deploymentConds_updated p now wall cf).findCond_eq (by simp [h1.symm, h2.symm, h3.symm, h4.symm])

end Eds
