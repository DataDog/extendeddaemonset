import EdsModel
import EdsSpec.C10
import EdsProofs.Lists
/-
  EdsProofs.PodBuild — helper lemmas for C10 (pod construction and the up-to-date comparison):
  association-list maps (`SMap`), the affinity rewriting (`pinTerm` / `pinAffinity`), the resource
  resolution (`applySettingContainers` / `applyOverrides`) and `overlayIsNoop`.
-/
namespace Eds

/-! ### `SMap` -/

theorem SMap.get?_nil (k : String) : SMap.get? [] k = none := rfl

theorem SMap.get?_cons (e : KV) (m : SMap) (k : String) :
    SMap.get? (e :: m) k = if e.k = k then some e.v else SMap.get? m k := by
  unfold SMap.get?
  by_cases h : e.k = k
  · simp [h]
  · have hb : (e.k == k) = false := by simp [h]
    simp only [List.find?_cons, hb, if_neg h]

theorem SMap.get?_map_upd (m : SMap) (k v k' : String) :
    SMap.get? (m.map (fun e => if e.k == k then { e with v := v } else e)) k' =
      if k' = k then (SMap.get? m k).map (fun _ => v) else SMap.get? m k' := by
  induction m with
  | nil => simp [SMap.get?_nil]
  | cons a m ih =>
    simp only [List.map_cons, SMap.get?_cons, ih]
    by_cases hk : k' = k
    · subst hk
      by_cases ha : a.k = k' <;> simp [ha]
    · by_cases ha : a.k = k
      · have : ¬ a.k = k' := fun h => hk (h ▸ ha)
        simp [ha, hk, Ne.symm hk]
      · simp [ha, hk]

theorem SMap.get?_append_single (m : SMap) (k v k' : String) :
    SMap.get? (m ++ [{ k := k, v := v }]) k' =
      (SMap.get? m k').or (if k = k' then some v else none) := by
  induction m with
  | nil => simp [SMap.get?_cons, SMap.get?_nil]
  | cons a m ih =>
    simp only [List.cons_append, SMap.get?_cons, ih]
    by_cases ha : a.k = k' <;> simp [ha]

theorem SMap.get?_set (m : SMap) (k v k' : String) :
    SMap.get? (SMap.set m k v) k' = if k' = k then some v else SMap.get? m k' := by
  unfold SMap.set SMap.contains
  split
  · next h =>
    rw [SMap.get?_map_upd]
    split
    · cases hg : SMap.get? m k <;> simp [hg] at h ⊢
    · rfl
  · next h =>
    rw [SMap.get?_append_single]
    by_cases hk : k' = k
    · cases hg : SMap.get? m k <;> simp [hg, hk] at h ⊢
    · simp [hk, Ne.symm hk]

theorem SMap.get?_set_self (m : SMap) (k v : String) : SMap.get? (SMap.set m k v) k = some v := by
  rw [SMap.get?_set, if_pos rfl]

theorem SMap.get?_set_other (m : SMap) (k v k' : String) (h : k' ≠ k) :
    SMap.get? (SMap.set m k v) k' = SMap.get? m k' := by
  rw [SMap.get?_set, if_neg h]

theorem SMap.get?_filter_key (m : SMap) (q : String → Bool) (k : String) (hk : q k = true) :
    SMap.get? (m.filter (fun e => q e.k)) k = SMap.get? m k := by
  induction m with
  | nil => rfl
  | cons e m ih =>
    rw [List.filter_cons]
    by_cases hq : q e.k = true
    · rw [if_pos hq, SMap.get?_cons, SMap.get?_cons, ih]
    · rw [if_neg hq, ih, SMap.get?_cons, if_neg (fun hek : e.k = k => hq (hek ▸ hk))]

theorem SMap.get?_erase_other (m : SMap) (k k' : String) (h : k' ≠ k) :
    SMap.get? (SMap.erase m k) k' = SMap.get? m k' :=
  SMap.get?_filter_key m (· != k) k' (by simpa using h)

theorem SMap.get?_erase_self (m : SMap) (k : String) : SMap.get? (SMap.erase m k) k = none := by
  unfold SMap.get? SMap.erase
  rw [List.find?_filter, List.find?_eq_none.mpr]
  intro e _
  simp

theorem SMap.get?_of_mem_nodup {m : SMap} (hm : (m.map (·.k)).Nodup) {e : KV} (he : e ∈ m) :
    SMap.get? m e.k = some e.v := by
  induction m with
  | nil => cases he
  | cons a m ih =>
    rw [List.map_cons, List.nodup_cons] at hm
    rw [SMap.get?_cons]
    rcases List.mem_cons.1 he with rfl | he'
    · simp
    · have : a.k ≠ e.k := fun h => hm.1 (h ▸ List.mem_map.2 ⟨e, he', rfl⟩)
      simp [this, ih hm.2 he']

theorem overlayIsNoop_self {m : SMap} (hm : (m.map (·.k)).Nodup) : overlayIsNoop m m = true := by
  unfold overlayIsNoop
  rw [List.all_eq_true]
  intro e he
  simp [SMap.get?_of_mem_nodup hm he]


/-! ### affinity pinning -/

/-- what `Spec.C10.pinned` asks of one required term: the node-name requirement is present and it is
the only `metadata.name` match field. -/
def termPinned (nm : String) (t : Term) : Bool :=
  t.fields.contains (nameReq nm) &&
    (t.fields.filter (fun f => f.key == "metadata.name")).all (· == nameReq nm)

theorem nameReq_key (nm : String) : (nameReq nm).key = "metadata.name" := rfl

theorem pinTerm_pinned (nm : String) (t : Term) : termPinned nm (pinTerm nm t) = true := by
  unfold pinTerm termPinned
  split
  · simp [nameReq_key]
  · split
    · next hany =>
      rw [List.any_eq_true] at hany
      obtain ⟨f, hf, hfk⟩ := hany
      rw [Bool.and_eq_true]
      refine ⟨?_, ?_⟩
      · rw [List.contains_iff_mem]
        exact List.mem_map.2 ⟨f, hf, by simp [hfk]⟩
      · rw [List.all_eq_true]
        intro g hg
        rw [List.mem_filter] at hg
        obtain ⟨hg, hgk⟩ := hg
        obtain ⟨f', _, rfl⟩ := List.mem_map.1 hg
        by_cases h : (f'.key == "metadata.name") = true
        · simp [h]
        · simp [h] at hgk
    · next hany =>
      rw [Bool.and_eq_true]
      refine ⟨by simp, ?_⟩
      rw [List.all_eq_true]
      intro g hg
      rw [List.mem_filter, List.mem_append] at hg
      obtain ⟨hg | hg, hgk⟩ := hg
      · exact absurd (List.any_eq_true.2 ⟨g, hg, hgk⟩) hany
      · simp at hg; simp [hg]

theorem pinTerm_exprs (nm : String) (t : Term) : (pinTerm nm t).exprs = t.exprs := by
  unfold pinTerm
  split
  · rfl
  · split <;> rfl

theorem filter_other_map_replace (nm : String) (l : List Req) :
    (l.map (fun f => if f.key == "metadata.name" then nameReq nm else f)).filter
        (fun f => f.key != "metadata.name") = l.filter (fun f => f.key != "metadata.name") := by
  induction l with
  | nil => rfl
  | cons a l ih =>
    rw [List.map_cons, List.filter_cons, List.filter_cons, ih]
    by_cases h : a.key = "metadata.name" <;> simp [h, nameReq_key]

theorem pinTerm_other_fields (nm : String) (t : Term) :
    (pinTerm nm t).fields.filter (fun f => f.key != "metadata.name") =
      t.fields.filter (fun f => f.key != "metadata.name") := by
  unfold pinTerm
  split
  · next h => simp [List.isEmpty_iff.1 h, nameReq_key]
  · split
    · exact filter_other_map_replace nm t.fields
    · simp [List.filter_append, nameReq_key]

theorem nodeNameFromTerms_of_pinned {nm : String} {t : Term} (rest : List Term)
    (h : termPinned nm t = true) : nodeNameFromTerms (t :: rest) = nm := by
  unfold termPinned at h
  rw [Bool.and_eq_true, List.contains_iff_mem, List.all_eq_true] at h
  obtain ⟨hmem, hall⟩ := h
  unfold nodeNameFromTerms
  cases hf : t.fields.find? (fun f => f.key == "metadata.name" && !f.values.isEmpty) with
  | none =>
    rw [List.find?_eq_none] at hf
    exact absurd (hf _ hmem) (by simp [nameReq])
  | some f =>
    have hfm := List.mem_of_find?_eq_some hf
    have hfp := List.find?_some hf
    rw [Bool.and_eq_true] at hfp
    have := hall f (List.mem_filter.2 ⟨hfm, hfp.1⟩)
    have hfe : f = nameReq nm := by simpa using this
    subst hfe
    rfl

theorem nodeNameFromAffinity_of_pinned {p : Pod} {nm : String}
    (h : Spec.C10.pinned p nm true = true) : nodeNameFromAffinity p.affRequired = nm := by
  unfold Spec.C10.pinned at h
  simp only [if_true, Bool.and_eq_true] at h
  obtain ⟨_, h⟩ := h
  cases ha : p.affRequired with
  | none => simp [ha] at h
  | some terms =>
    rw [ha] at h
    cases terms with
    | nil => simp at h
    | cons t rest =>
      simp only [Bool.and_eq_true, List.all_cons] at h
      exact nodeNameFromTerms_of_pinned rest (by unfold termPinned; exact Bool.and_eq_true _ _ ▸ h.2.1)

theorem pinAffinity_ne_nil (req : Option (List Term)) (nm : String) (h : req ≠ some []) :
    pinAffinity req nm ≠ [] := by
  unfold pinAffinity
  cases req with
  | none => simp
  | some terms =>
    cases terms with
    | nil => exact absurd rfl h
    | cons t rest => simp

theorem pinAffinity_all_pinned (req : Option (List Term)) (nm : String) :
    (pinAffinity req nm).all (termPinned nm) = true := by
  unfold pinAffinity
  cases req with
  | none => simp [termPinned, nameReq_key]
  | some terms =>
    rw [List.all_map, List.all_eq_true]
    intro t _
    exact pinTerm_pinned nm t

/-! ### resource resolution -/

/-- resources a container gets from the setting: those of the LAST setting container of that name -/
def resolveSetting (extra : List Container) (c : Container) : Container :=
  match (extra.filter (fun x => x.name == c.name)).getLast? with
  | some x => { c with res := x.res }
  | none => c

/-- resources a container gets from the node's override annotations -/
def resolveOverride (ovs : List Override) (c : Container) : Container :=
  match ovs.find? (fun o => o.container == c.name) with
  | some o => if o.ok then { c with res := o.res } else c
  | none => c

theorem resolveSetting_name (extra : List Container) (c : Container) :
    (resolveSetting extra c).name = c.name := by
  unfold resolveSetting; split <;> rfl

theorem resolveOverride_name (ovs : List Override) (c : Container) :
    (resolveOverride ovs c).name = c.name := by
  unfold resolveOverride; split
  · split <;> rfl
  · rfl

theorem applyOverrides_eq_map (cs : List Container) (ovs : List Override) :
    applyOverrides cs ovs = cs.map (resolveOverride ovs) := rfl

theorem applySetting_go_nil (e : Container) : applySettingContainers.go e [] = [] := rfl

theorem applySetting_go_cons (e c : Container) (rest : List Container) :
    applySettingContainers.go e (c :: rest) =
      if c.name == e.name then { c with res := e.res } :: rest
      else c :: applySettingContainers.go e rest := rfl

theorem applySetting_go_names (e : Container) (cs : List Container) :
    (applySettingContainers.go e cs).map (·.name) = cs.map (·.name) := by
  induction cs with
  | nil => rfl
  | cons c rest ih =>
    rw [applySetting_go_cons]
    split
    · rfl
    · simp only [List.map_cons, ih]

theorem applySetting_go_eq_map (e : Container) (cs : List Container) (h : (cs.map (·.name)).Nodup) :
    applySettingContainers.go e cs =
      cs.map (fun c => if c.name == e.name then { c with res := e.res } else c) := by
  induction cs with
  | nil => rfl
  | cons c rest ih =>
    rw [List.map_cons, List.nodup_cons] at h
    rw [applySetting_go_cons, List.map_cons]
    by_cases hc : (c.name == e.name) = true
    · simp only [hc, if_true]
      congr 1
      have : ∀ x ∈ rest, (if x.name == e.name then { x with res := e.res } else x) = x := by
        intro x hx
        have hne : ¬ x.name = e.name := by
          intro hxe
          apply h.1
          have : c.name = x.name := by rw [hxe]; simpa using hc
          rw [this]
          exact List.mem_map.2 ⟨x, hx, rfl⟩
        simp [hne]
      rw [List.map_congr_left this, List.map_id']
    · simp only [hc, ih h.2]
      rfl

theorem applySetting_cons (cs : List Container) (e : Container) (rest : List Container) :
    applySettingContainers cs (e :: rest) =
      applySettingContainers (applySettingContainers.go e cs) rest := rfl

/-- **`overwriteResourcesFromEdsNode`, closed form**: with distinct template container names every
container gets the resources of the last setting container carrying its name (or keeps its own). -/
theorem applySettingContainers_eq_map (cs extra : List Container) (h : (cs.map (·.name)).Nodup) :
    applySettingContainers cs extra = cs.map (resolveSetting extra) := by
  induction extra generalizing cs with
  | nil =>
    show cs = _
    have : ∀ c ∈ cs, resolveSetting [] c = c := fun _ _ => rfl
    rw [List.map_congr_left this, List.map_id']
  | cons e rest ih =>
    rw [applySetting_cons, ih _ (by rw [applySetting_go_names]; exact h),
      applySetting_go_eq_map e cs h, List.map_map]
    apply List.map_congr_left
    intro c _
    simp only [Function.comp]
    unfold resolveSetting
    by_cases hc : c.name = e.name
    · have he : (e.name == c.name) = true := by simp [hc]
      simp only [hc, beq_self_eq_true, if_true, List.filter_cons, List.getLast?_cons]
      rw [← hc]
      cases (rest.filter (fun x => x.name == c.name)).getLast? <;> simp [hc]
    · have he : (e.name == c.name) = false := by simp [Ne.symm hc]
      have hc' : (c.name == e.name) = false := by simp [hc]
      simp [hc', he]

theorem applySettingContainers_names (cs extra : List Container) :
    (applySettingContainers cs extra).map (·.name) = cs.map (·.name) := by
  induction extra generalizing cs with
  | nil => rfl
  | cons e rest ih => rw [applySetting_cons, ih, applySetting_go_names]

/-- the setting part of the up-to-date check accepts the containers creation produces -/
theorem settingCheck_created (tcs : List Container) (s : Setting) (ovs : List Override)
    (ht : (tcs.map (·.name)).Nodup) (hs : (s.containers.map (·.name)).Nodup)
    (hk : ∀ x ∈ s.containers, (x.res.limits.map (·.k)).Nodup ∧ (x.res.requests.map (·.k)).Nodup) :
    (applyOverrides (applySettingContainers tcs s.containers) ovs).all (fun c =>
      if ovs.any (fun o => o.container == c.name && o.ok) then true else
      match s.containers.find? (fun c2 => c2.name == c.name) with
      | some c2 => overlayIsNoop c.res.limits c2.res.limits && overlayIsNoop c.res.requests c2.res.requests
      | none => true) = true := by
  rw [applySettingContainers_eq_map tcs _ ht, applyOverrides_eq_map, List.all_map, List.all_eq_true]
  intro c1 hc1
  obtain ⟨c, _, rfl⟩ := List.mem_map.1 hc1
  simp only [Function.comp, resolveOverride_name, resolveSetting_name]
  split
  · rfl
  · next hany =>
    have hro : resolveOverride ovs (resolveSetting s.containers c) = resolveSetting s.containers c := by
      unfold resolveOverride
      rw [resolveSetting_name]
      cases hfo : ovs.find? (fun o => o.container == c.name) with
      | none => rfl
      | some o =>
        have hom := List.mem_of_find?_eq_some hfo
        have hop := List.find?_some hfo
        have : o.ok = false := by
          cases hok : o.ok with
          | false => rfl
          | true => exact absurd (List.any_eq_true.2 ⟨o, hom, by simp [hop, hok]⟩) hany
        simp [this]
    rw [hro]
    cases hfs : s.containers.find? (fun c2 => c2.name == c.name) with
    | none => rfl
    | some x =>
      have hx := List.mem_of_find?_eq_some hfs
      have : (resolveSetting s.containers c).res = x.res := by
        unfold resolveSetting
        rw [filter_eq_singleton_of_find? hs hfs]
        rfl
      simp only [this, overlayIsNoop_self (hk x hx).1, overlayIsNoop_self (hk x hx).2, Bool.and_self]

theorem resolved_res_eq_expected (c : Container) (n : Node) (setting : Option Setting) :
    (resolveOverride n.overrides
        (match setting with
         | some s => resolveSetting s.containers c
         | none => c)).res = Spec.C10.expectedRes c n setting := by
  have hn : (match setting with
             | some s => resolveSetting s.containers c
             | none => c).name = c.name := by
    cases setting <;> simp [resolveSetting_name]
  have hs : (match setting with
             | some s => resolveSetting s.containers c
             | none => c).res =
            (match setting.bind (fun s => (s.containers.filter (fun x => x.name == c.name)).getLast?) with
             | some x => x.res
             | none => c.res) := by
    cases setting with
    | none => rfl
    | some s =>
      simp only [Option.bind_some, resolveSetting]
      split <;> rfl
  unfold resolveOverride Spec.C10.expectedRes
  rw [hn]
  cases n.overrides.find? (fun o => o.container == c.name) with
  | none => exact hs
  | some o =>
    by_cases hok : o.ok = true
    · simp only [hok, if_true]
    · simp only [hok]
      exact hs

/-! ### key constants are pairwise distinct where it matters -/

theorem K.ers_ne_eds : K.ersNameLabel ≠ K.edsNameLabel := by simp [K.ersNameLabel, K.edsNameLabel]
theorem K.ers_ne_settingName : K.ersNameLabel ≠ K.settingNameLabel := by
  simp [K.ersNameLabel, K.settingNameLabel]
theorem K.ers_ne_settingNs : K.ersNameLabel ≠ K.settingNsLabel := by simp [K.ersNameLabel, K.settingNsLabel]
theorem K.eds_ne_settingName : K.edsNameLabel ≠ K.settingNameLabel := by
  simp [K.edsNameLabel, K.settingNameLabel]
theorem K.eds_ne_settingNs : K.edsNameLabel ≠ K.settingNsLabel := by simp [K.edsNameLabel, K.settingNsLabel]
theorem K.settingName_ne_settingNs : K.settingNameLabel ≠ K.settingNsLabel := by
  simp [K.settingNameLabel, K.settingNsLabel]
theorem K.hash_ne_autoscaler : K.templateHashAnnot ≠ K.autoscalerAnnot := by
  simp [K.templateHashAnnot, K.autoscalerAnnot]
theorem K.hash_ne_nodeHash : K.templateHashAnnot ≠ K.nodeHashAnnot := by
  simp [K.templateHashAnnot, K.nodeHashAnnot]
theorem K.nodeHash_ne_autoscaler : K.nodeHashAnnot ≠ K.autoscalerAnnot := by
  simp [K.nodeHashAnnot, K.autoscalerAnnot]

end Eds
