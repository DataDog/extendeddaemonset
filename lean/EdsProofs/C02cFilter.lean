import EdsProofs.Filter
/-
  Helper lemmas for EdsProps/C02c.lean: `filterAndMap` on a *settled* pod list — every pod bound to a
  candidate node (`spec.nodeName` set), in phase Running, at most one per node.  Then the per-node map
  is "candidate ↦ the pod on it" (`podOn`) and nothing is handed to the clean-up.
-/
namespace Eds

/-- the (first) pod of `E` bound to node `n`. -/
def podOn (E : List Pod) (n : String) : Option Pod := E.find? (fun p => p.nodeName == n)

/-- at most one pod of `E` per node. -/
def OnePerNode (E : List Pod) : Prop := ∀ n, (E.filter (fun p => p.nodeName == n)).length ≤ 1

theorem filter_le_one_unique {α} (q : α → Bool) (l : List α) (h : (l.filter q).length ≤ 1) {a b : α}
    (ha : a ∈ l) (hqa : q a = true) (hb : b ∈ l) (hqb : q b = true) : a = b := by
  have h1 : a ∈ l.filter q := List.mem_filter.mpr ⟨ha, hqa⟩
  have h2 : b ∈ l.filter q := List.mem_filter.mpr ⟨hb, hqb⟩
  match hl : l.filter q, h1, h2, h with
  | [], h1, _, _ => cases h1
  | [x], h1, h2, _ => rw [List.mem_singleton.mp h1, List.mem_singleton.mp h2]
  | _ :: _ :: _, _, _, h => simp only [List.length_cons] at h; omega

theorem OnePerNode.unique {E : List Pod} (h : OnePerNode E) {p q : Pod} (hp : p ∈ E) (hq : q ∈ E)
    (hn : p.nodeName = q.nodeName) : p = q :=
  filter_le_one_unique (fun x => x.nodeName == q.nodeName) E (h q.nodeName) hp (beq_iff_eq.mpr hn) hq
    (beq_self_eq_true _)

theorem podOn_some {E : List Pod} {n : String} {p : Pod} (h : podOn E n = some p) : p ∈ E ∧ p.nodeName = n := by
  unfold podOn at h
  exact ⟨List.mem_of_find?_eq_some h, by simpa using List.find?_some h⟩

theorem podOn_none_iff {E : List Pod} {n : String} : podOn E n = none ↔ ∀ p ∈ E, p.nodeName ≠ n := by
  unfold podOn
  rw [List.find?_eq_none]
  simp

theorem podOn_eq_some {E : List Pod} (hone : OnePerNode E) {n : String} {p : Pod} (hp : p ∈ E)
    (hn : p.nodeName = n) : podOn E n = some p := by
  cases h : podOn E n with
  | none => exact absurd hn (podOn_none_iff.mp h p hp)
  | some q =>
    obtain ⟨hq, hqn⟩ := podOn_some h
    rw [hone.unique hq hp (by rw [hqn, hn])]

theorem nodeOf_of_bound {p : Pod} (h : p.nodeName ≠ "") : p.nodeOf = some p.nodeName := by
  unfold Pod.nodeOf
  simp [h]

theorem sortPods_length (l : List Pod) : (sortPods l).length = l.length := (sortPods_perm l).length_eq

theorem filterAndMap_settled (released : String → Bool) (t : Template) (items : List NodeItem) (E : List Pod)
    (hs : ∀ p ∈ E, p.nodeName ≠ "" ∧ p.phase = "Running" ∧ p.nodeName ∈ candNames t items [])
    (hone : OnePerNode E) :
    (filterAndMap released t items E []).byNode =
      (candidates t items []).map (fun ni => (ni, podOn E ni.node.name)) ∧
    (filterAndMap released t items E []).toDelete = [] := by
  have inv := scanFinal_inv released t items E []
  -- every attached list holds at most one pod
  have hatt : ∀ e ∈ (scanFinal released t items E []).attached, e.2.length ≤ 1 := by
    intro e he
    have hall : e.2.filter (fun p => p.nodeName == e.1) = e.2 := by
      rw [List.filter_eq_self]
      intro p hp
      obtain ⟨hpE, hpn, _⟩ := inv.attSound e he p hp
      rw [nodeOf_of_bound (hs p hpE).1] at hpn
      simpa using Option.some.inj hpn
    have := ((inv.attSub e he).filter (fun p => p.nodeName == e.1)).length_le
    rw [hall] at this
    exact Nat.le_trans this (hone e.1)
  constructor
  · rw [filterAndMap_byNode]
    apply List.map_congr_left
    intro ni hni
    have hfst := keptOf_fst (scanFinal released t items E []).attached ni
    cases hk : (keptOf (scanFinal released t items E []).attached ni).2 with
    | some k =>
      obtain ⟨e, he, tl, hen, hsort⟩ := keptOf_some hk
      have hke : k ∈ e.2 := by
        rw [← mem_sortPods, hsort]; exact List.mem_cons_self
      obtain ⟨hkE, hkn, _⟩ := inv.attSound e he k hke
      rw [nodeOf_of_bound (hs k hkE).1, hen] at hkn
      rw [podOn_eq_some hone hkE (Option.some.inj hkn)]
      exact Prod.ext hfst hk
    | none =>
      have hkey : ni.node.name ∈ (scanFinal released t items E []).attached.map (·.1) := by
        rw [inv.keys]; exact List.mem_map.mpr ⟨ni, hni, rfl⟩
      obtain ⟨e, he, hen, hemp⟩ := keptOf_none hkey hk
      have : podOn E ni.node.name = none := by
        rw [podOn_none_iff]
        intro p hp hpn
        have h1 : p.nodeOf = some e.1 := by rw [nodeOf_of_bound (hs p hp).1, hpn, hen]
        have h2 : p.phase ≠ "Unknown" := by rw [(hs p hp).2.1]; decide
        rcases inv.attComplete e he p hp h1 h2 with h | ⟨h, _⟩
        · rw [hemp] at h; cases h
        · rw [(hs p hp).2.1] at h; exact absurd h (by decide)
      rw [this]
      exact Prod.ext hfst hk
  · rw [List.eq_nil_iff_forall_not_mem]
    intro p hp
    rcases mem_filter_toDelete.mp hp with h | ⟨e, he, h⟩
    · obtain ⟨hpE, _, n, hn, hc⟩ := inv.delSound p h
      rw [nodeOf_of_bound (hs p hpE).1] at hn
      have hn : p.nodeName = n := Option.some.inj hn
      rcases hc with ⟨_, hf, _⟩ | ⟨hnk, _⟩
      · rw [(hs p hpE).2.1] at hf; exact absurd hf (by decide)
      · exact hnk (hn ▸ (hs p hpE).2.2)
    · have h1 := hatt e he
      have h2 : ((sortPods e.2).drop 1).length = 0 := by
        rw [List.length_drop, sortPods_length]; omega
      rw [List.eq_nil_of_length_eq_zero h2] at h
      cases h

end Eds
