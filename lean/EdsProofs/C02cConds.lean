import EdsProofs.ErsRun
import EdsProps.C09
/-
  Helper lemmas for EdsProps/C02c.lean (store-level convergence) that speak about the model only:

  * `CondsLe now cs`            — every condition of `cs` was last updated / last switched at or before `now`;
    `updateCond_condsLe`        — `updateCond` at an instant `≤ now` keeps it (`CondsUpdated.condsLe`);
  * `calculateMaxCreation_ok`   — with a parsed additive increase ≥ 1, a cap ≥ 1 and a start time that is
                                  not in the future the slow-start ramp yields a cap `1 ≤ mc ≤ maxParallel`,
                                  for EVERY clock value; `calculateMaxCreation_mono`: the ramp only grows;
  * `ersFinish_gates`           — the deletions / creations of the sync are the strategy's, unless the
                                  PodDeletion / PodCreation condition of the strategy's status gates them
                                  (`condGate`); `ersFinish_ungated`: when neither gate fires;
  * `ersFinish_status_condsLe`  — the status the sync stores is stamped at or before `now`.
-/
namespace Eds

/-- every condition was last updated and last switched at or before `t`. -/
def CondsLe (t : Time) (cs : List Cond) : Prop := ∀ c ∈ cs, c.lastUpdate ≤ t ∧ c.lastTransition ≤ t

theorem CondsLe.mono {t t' : Time} {cs : List Cond} (h : CondsLe t cs) (ht : t ≤ t') : CondsLe t' cs :=
  fun c hc => ⟨Int.le_trans (h c hc).1 ht, Int.le_trans (h c hc).2 ht⟩

theorem updateFirst_condsLe (now : Time) (cs : List Cond) (t : String) (f : Cond → Cond)
    (hf : ∀ c, c.lastUpdate ≤ now ∧ c.lastTransition ≤ now → (f c).lastUpdate ≤ now ∧ (f c).lastTransition ≤ now)
    (h : CondsLe now cs) : CondsLe now (updateFirst cs t f) := by
  induction cs with
  | nil => intro c hc; cases hc
  | cons a rest ih =>
    have hr : CondsLe now rest := fun c hc => h c (List.mem_cons_of_mem _ hc)
    cases ha : (a.type == t) with
    | true =>
      rw [updateFirst_cons_pos a rest t f ha]
      intro c hc
      rcases List.mem_cons.mp hc with hc | hc
      · rw [hc]; exact hf a (h a List.mem_cons_self)
      · exact hr c hc
    | false =>
      rw [updateFirst_cons_neg a rest t f ha]
      intro c hc
      rcases List.mem_cons.mp hc with hc | hc
      · rw [hc]; exact h a List.mem_cons_self
      · exact ih hr c hc

/-- `updateCond` stamps with its instant or keeps the stamps. -/
theorem updateCond_condsLe (cs : List Cond) (now a : Time) (t status reason desc : String) (w sl : Bool)
    (ha : a ≤ now) (h : CondsLe now cs) : CondsLe now (updateCond cs a t status reason desc w sl) := by
  unfold updateCond
  split
  · apply updateFirst_condsLe now cs t _ _ h
    intro c hc
    dsimp only
    cases (c.status != status) <;> cases sl <;> cases (status == "True") <;>
      first | exact hc | exact ⟨ha, ha⟩ | exact ⟨ha, hc.2⟩
  · split
    · intro c hc
      rcases List.mem_append.mp hc with hc | hc
      · exact h c hc
      · rw [List.mem_singleton.mp hc]; exact ⟨ha, ha⟩
    · exact h

theorem CondsUpdated.condsLe {ats : List Time} {ts : List String} {cs cs' : List Cond} {now : Time}
    (h : CondsUpdated ats ts cs cs') (hat : ∀ a ∈ ats, a ≤ now) (h0 : CondsLe now cs) : CondsLe now cs' := by
  induction h with
  | refl => exact h0
  | step _ ha _ ih => exact updateCond_condsLe _ _ _ _ _ _ _ _ _ (hat _ ha) ih

/-- **The creation cap is positive at every instant.**  With an additive increase that resolves to
`inc ≥ 1`, an interval, a parallel-creation cap `mp ≥ 1` and a rolling-update start that is not in the
future, `calculateMaxCreation` returns a cap `mc` with `1 ≤ mc ≤ mp`. -/
theorem calculateMaxCreation_ok (x : Option IntOrStr) (iv mp N start now inc : Int)
    (hx : resolveIntOrPercent x N = some inc) (hinc : 1 ≤ inc) (hmp : 1 ≤ mp) (hs : start ≤ now) :
    ∃ mc, calculateMaxCreation x (some iv) (some mp) N start now = .ok mc ∧ 1 ≤ mc ∧ mc ≤ mp := by
  refine ⟨_, calculateMaxCreation_eq x iv mp N start now inc hx, ?_⟩
  split
  · exact ⟨hmp, Int.le_refl _⟩
  · have hslots : 0 ≤ Int.tdiv (now - start) iv := Int.tdiv_nonneg (by omega) (by omega)
    have hpos : 0 < (1 + Int.tdiv (now - start) iv) * inc := Int.mul_pos (by omega) (by omega)
    omega

/-- **The ramp only grows** with the clock (for a start time that is not in the future). -/
theorem calculateMaxCreation_mono (x : Option IntOrStr) (iv mp N start now now' inc mc mc' : Int)
    (hx : resolveIntOrPercent x N = some inc) (hinc : 0 ≤ inc) (hs : start ≤ now) (hn : now ≤ now')
    (h : calculateMaxCreation x (some iv) (some mp) N start now = .ok mc)
    (h' : calculateMaxCreation x (some iv) (some mp) N start now' = .ok mc') : mc ≤ mc' := by
  rw [calculateMaxCreation_eq x iv mp N start _ inc hx] at h h'
  injection h with h; injection h' with h'
  subst h h'
  split
  · exact Int.le_refl _
  · have hle : Int.tdiv (now - start) iv ≤ Int.tdiv (now' - start) iv := by
      rw [Int.tdiv_eq_ediv_of_nonneg (by omega), Int.tdiv_eq_ediv_of_nonneg (by omega)]
      exact Int.ediv_le_ediv (by omega) (by omega)
    have hm : (1 + Int.tdiv (now - start) iv) * inc ≤ (1 + Int.tdiv (now' - start) iv) * inc :=
      Int.mul_le_mul_of_nonneg_right (by omega) hinc
    omega

theorem rollingUpdateStartTime_le (st : ERSStatus) (now : Time) (h : CondsLe now st.conds) :
    rollingUpdateStartTime st now ≤ now := by
  unfold rollingUpdateStartTime
  split
  · rename_i c hc
    split
    · exact (h c (List.mem_of_find?_eq_some hc)).2
    · exact Int.le_refl _
  · exact Int.le_refl _

theorem findCond_ite (b : Bool) (cs ds : List Cond) (t : String) :
    findCond (if b then cs else ds) t = if b then findCond cs t else findCond ds t := by
  cases b <;> rfl

section Finish
variable (rs : ERS) (role : String) (freq : Dur) (sp : StratParams) (r : StratResult)
  (adds removes : List String) (se : Bool) (st0 : ERSStatus) (aff : Bool) (now : Time)

theorem findCond_finish1 (b : Bool) (cs : List Cond) (now : Time) (s desc t : String)
    (h1 : "PodsCleanupDone" ≠ t) (h2 : "Unschedule" ≠ t) :
    findCond (updateCond (if b = true then updateCond cs now "PodsCleanupDone" "True" "" "" false false else cs)
      now "Unschedule" s "" desc false false) t = findCond cs t := by
  rw [findCond_updateCond_other _ _ _ _ _ _ _ _ _ h2]
  cases b
  · rfl
  · exact findCond_updateCond_other _ _ _ _ _ _ _ _ _ h1

theorem findCond_finish2 (b : Bool) (cs : List Cond) (now : Time) :
    findCond (if b = true then updateCond cs now "PodDeletion" "True" "" "pods deleted" false true else cs)
      "PodCreation" = findCond cs "PodCreation" := by
  cases b
  · rfl
  · exact findCond_updateCond_other _ _ _ _ _ _ _ _ _ (by simp)

/-- the gate `Reconcile` puts before its deletions and its creations: a condition of type `t` was
stamped less than `freq` ago. -/
def condGate (cs : List Cond) (t : String) (freq : Dur) (now : Time) : Bool :=
  match findCond cs t with
  | some c => decide (now - c.lastUpdate < freq)
  | none => false

/-- the deletions and creations of `ersFinish`: all of the strategy's, unless the PodDeletion /
PodCreation condition of the strategy's own status gates them. -/
theorem ersFinish_gates :
    (ersFinish rs role freq sp r adds removes se st0 aff now).deletes =
      (if condGate st0.conds "PodDeletion" freq now then [] else r.deleteE.map (·.2.name)) ∧
    (ersFinish rs role freq sp r adds removes se st0 aff now).creates =
      (if condGate st0.conds "PodCreation" freq now then [] else
        r.createE.map (fun ni => (ni.node.name, (createPod rs (some ni.node) ni.setting aff).pod))) := by
  unfold ersFinish condGate
  dsimp only
  rw [findCond_finish2, findCond_finish1 _ _ _ _ _ _ (by simp) (by simp),
    findCond_finish1 _ _ _ _ _ _ (by simp) (by simp)]
  exact ⟨rfl, rfl⟩

theorem condGate_false {cs : List Cond} {t : String} {freq : Dur} {now : Time}
    (h : ∀ c, findCond cs t = some c → c.lastUpdate + freq ≤ now) : condGate cs t freq now = false := by
  unfold condGate
  cases hf : findCond cs t with
  | none => rfl
  | some c =>
    have := h c hf
    simp only [decide_eq_false_iff_not]
    omega

/-- **No gate fires**: when the PodDeletion and PodCreation conditions of the strategy's status (if
present) were last updated at least `freq` ago, the sync issues exactly the strategy's deletions and
creations. -/
theorem ersFinish_ungated
    (hd : ∀ c, findCond st0.conds "PodDeletion" = some c → c.lastUpdate + freq ≤ now)
    (hc : ∀ c, findCond st0.conds "PodCreation" = some c → c.lastUpdate + freq ≤ now) :
    (ersFinish rs role freq sp r adds removes se st0 aff now).deletes = r.deleteE.map (·.2.name) ∧
    (ersFinish rs role freq sp r adds removes se st0 aff now).creates =
      r.createE.map (fun ni => (ni.node.name, (createPod rs (some ni.node) ni.setting aff).pod)) := by
  obtain ⟨h1, h2⟩ := ersFinish_gates rs role freq sp r adds removes se st0 aff now
  rw [h1, h2, condGate_false hd, condGate_false hc]
  exact ⟨rfl, rfl⟩

theorem ersFinish_status_condsLe (h : CondsLe now st0.conds) :
    CondsLe now (((ersFinish rs role freq sp r adds removes se st0 aff now).statusUpdate).getD rs.status).conds := by
  obtain ⟨cs, hcs, he⟩ := ersFinish_read rs role freq sp r adds removes se st0 aff now
  rw [he]
  exact updateCond_condsLe _ _ _ _ _ _ _ _ _ (Int.le_refl _) (hcs.condsLe (by simp) h)

end Finish

end Eds
