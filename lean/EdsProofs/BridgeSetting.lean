import EdsModel.Generated.DecSetting
import EdsProofs.SettingCtl
import EdsProofs.BridgeStatus
import EdsProofs.PodBuild
/-
  EdsProofs.BridgeSetting — the translated `searchPossibleConflict` (controllers/extendeddaemonsetsetting/controller.go,
  `Generated/DecSetting.lean`, regenerated from the Go source on every run) is the model's `searchConflict`
  (`EdsModel/SettingCtl.lean`, the function C18 is stated about).

  Library code mapped to model functions (tied by correspondence only): `sort.Sort` -> `Go.stableSortBy` with the TRANSLATED
  `edsNodeByCreationTimestampAndPhase.Less` (group Status) applied to the two-element slice of the elements compared;
  `metav1.LabelSelectorAsSelector` / `selector.Matches` -> `Go.labelSelectorAsSelector` / `Go.selectorMatches`
  (`EdsModel/GoPreludeSetting.lean`: together the model's `settingMatches`, `Go.settingMatches_eq`).

  Hypotheses of the bridge, both guarantees of the API server (the second is shown to be needed: `nodeNames_needed`):
  * `NoTies all`: two different settings of the list do not have the same creation time AND the same name (one namespace
    is listed, names are unique there).  `sort.Sort` is not stable and the model's insertion sort is anti-stable: on a tie
    the three orders (Go's pdqsort, merge sort, the model) may differ and the scan depends on the order.
  * the node names are pairwise distinct.  The code keeps ONE map `nodesAlreadySelected` across the nodes and leaves the
    entry `node.Name -> ""` behind after each node; the model scans every node from an empty state.
-/
namespace Eds.Bridge
open Eds
open Generated.Decisions

/-! ### the copy loop: `edsNodes = append(edsNodes, &edsNodeList.Items[id])` -/

theorem setting_loop1 (items : List Setting) (k : List (Option Setting) → Option (String × Option String)) :
    ∀ (suf pre : List Setting) (acc : List (Option Setting)), items = pre ++ suf →
      searchPossibleConflict.loop1 ⟨items⟩ k suf (pre.length : Int) acc = k (acc ++ suf.map some) := by
  intro suf
  induction suf with
  | nil => intro pre acc _; simp [searchPossibleConflict.loop1]
  | cons x suf ih =>
    intro pre acc h
    have hidx : Go.index items (pre.length : Int) = some x := by
      subst h
      simp [Go.index]
    have := ih (pre ++ [x]) (acc ++ [some x]) (by simp [h])
    simp only [List.length_append, List.length_singleton, Int.natCast_add, Int.cast_ofNat_Int] at this
    simp only [searchPossibleConflict.loop1, hidx, Option.bind_some]
    simpa using this

/-! ### the sort -/

/-- no ties of `Less` between different settings of the list -/
def NoTies (all : List Setting) : Prop :=
  ∀ a ∈ all, ∀ b ∈ all, a.creation = b.creation → a.name = b.name → a = b

theorem noTies_of_names_nodup {all : List Setting} (h : (all.map (·.name)).Nodup) : NoTies all :=
  fun _ ha _ hb _ hn => eq_of_nodup_map _ h ha hb hn

/-- the comparator `sort.Sort` is given: `Less` on the two-element slice `[a, b]` at `(0, 1)` is the model's `settingLess`. -/
theorem src_settingLess_pair (a b : Setting) :
    edsNodeByCreationTimestampAndPhaseLess [some a, some b] 0 1 = some (settingLess a b) :=
  Bridge.src_edsNodeByCreationTimestampAndPhaseLess _ 0 1 a b (by simp [Go.index]) (by simp [Go.index])

def settingLEb (a b : Setting) : Bool := !settingLess b a

theorem settingLEb_iff (a b : Setting) : settingLEb a b = true ↔ settingLE a b := by
  unfold settingLEb settingLE; cases settingLess b a <;> simp

theorem settingLEb_trans (a b c : Setting) : settingLEb a b = true → settingLEb b c = true → settingLEb a c = true := by
  simp only [settingLEb_iff]; exact settingLE_trans

theorem settingLEb_total (a b : Setting) : (settingLEb a b || settingLEb b a) = true := by
  cases h : settingLess b a with
  | false => simp [settingLEb, h]
  | true =>
    have := settingLess_asymm h
    unfold settingLE at this
    simp [settingLEb, h, this]

/-- with no ties, merge sort and the model's insertion sort return the same list (as every sorting algorithm does). -/
theorem mergeSort_eq_sortSettings {all : List Setting} (h : NoTies all) :
    all.mergeSort settingLEb = sortSettings all := by
  apply List.Perm.eq_of_pairwise (le := settingLE)
  · intro a b ha hb hab hba
    have ha' : a ∈ all := (List.mergeSort_perm all settingLEb).mem_iff.mp ha
    have hb' : b ∈ all := mem_sortSettings.mp hb
    have := settingLE_antisymm hab hba
    exact h a ha' b hb' this.1 this.2
  · have := List.pairwise_mergeSort (le := settingLEb) settingLEb_trans settingLEb_total all
    exact this.imp (fun h => (settingLEb_iff _ _).mp h)
  · exact sortSettings_sorted all
  · exact (List.mergeSort_perm all settingLEb).trans (sortSettings_perm all).symm

/-- **`sort.Sort(edsNodes)`** (mapped to `Go.stableSortBy` with the translated `Less`): never panics and, with no ties,
is the model's `sortSettings`. -/
theorem src_sortSettings {all : List Setting} (h : NoTies all) :
    Go.stableSortBy (fun a b => edsNodeByCreationTimestampAndPhaseLess [a, b] 0 1) (all.map some) =
      some ((sortSettings all).map some) := by
  unfold Go.stableSortBy
  have hall : ((all.map some).all fun a => (all.map some).all fun b =>
      (edsNodeByCreationTimestampAndPhaseLess [a, b] 0 1).isSome) = true := by
    simp [List.all_map, Function.comp_def, src_settingLess_pair]
  rw [if_pos hall]
  have := List.map_mergeSort (f := some) (r := settingLEb)
    (s := fun a b => !((edsNodeByCreationTimestampAndPhaseLess [b, a] 0 1).getD false)) (l := all)
    (by intro a _ b _; simp [src_settingLess_pair, settingLEb])
  rw [← this, mergeSort_eq_sortSettings h]

/-! ### the scan of one node -/

/-- the settings the model keeps (`usableFor`): the code sorts all of them and skips the others inside the loop -/
def usableP (inst : Setting) (s : Setting) : Bool := !(s.badSelector && s.name != inst.name)

theorem usableFor_eq_filter (inst : Setting) (all : List Setting) : usableFor inst all = all.filter (usableP inst) := rfl

/-- filtering commutes with the sort when there are no ties -/
theorem sortSettings_filter {all : List Setting} (h : NoTies all) (p : Setting → Bool) :
    sortSettings (all.filter p) = (sortSettings all).filter p := by
  apply List.Perm.eq_of_pairwise (le := settingLE)
  · intro a b ha hb hab hba
    have ha' : a ∈ all := (List.mem_filter.mp (mem_sortSettings.mp ha)).1
    have hb' : b ∈ all := mem_sortSettings.mp (List.mem_filter.mp hb).1
    have := settingLE_antisymm hab hba
    exact h a ha' b hb' this.1 this.2
  · exact sortSettings_sorted _
  · exact (sortSettings_sorted all).sublist List.filter_sublist
  · exact (sortSettings_perm _).trans ((sortSettings_perm all).filter p).symm

/-- the error text of a conflict names the node -/
def conflictText (n : Node) : String := "extendedDaemonsetSetting already assigned to the node " ++ n.name

theorem conflictText_eq (n : Node) : "extendedDaemonsetSetting already assigned to the node " ++ n.name = conflictText n := rfl

/-- the inner loop over the sorted settings for one node, against the model's `conflictScanNode` over the usable ones:
`prev` is what the map holds for the node's name; when the scan finds nothing the loop continues with a map that differs
from the initial one at most at this node's name. -/
theorem setting_scan (inst : Setting) (node : Node) (k : SMap → Option (String × Option String)) :
    ∀ (L : List Setting) (m : SMap) (prev : Option String) (i : Int), SMap.get? m node.name = prev →
      match conflictScanNode inst.name node.labels (L.filter (usableP inst)) prev with
      | .none => ∃ m', (∀ key, key ≠ node.name → SMap.get? m' key = SMap.get? m key) ∧
          searchPossibleConflict.loop3 (some inst) node k (L.map some) i m = k m'
      | .conflict o => searchPossibleConflict.loop3 (some inst) node k (L.map some) i m = some (o, some (conflictText node))
      | .selectorError => searchPossibleConflict.loop3 (some inst) node k (L.map some) i m = some ("", some Go.selectorErrText) := by
  intro L
  induction L with
  | nil =>
    intro m prev i _
    simp only [List.filter_nil, conflictScanNode, List.map_nil, searchPossibleConflict.loop3]
    exact ⟨m, fun _ _ => rfl, rfl⟩
  | cons s L ih =>
    intro m prev i hm
    simp only [List.map_cons, searchPossibleConflict.loop3, Option.bind_some, Go.labelSelectorAsSelector]
    cases hb : s.badSelector with
    | true =>
      by_cases hn : s.name = inst.name
      · have hu : usableP inst s = true := by simp [usableP, hn]
        simp [hu, conflictScanNode, Go.settingMatches_eq, hb, hn]
      · have hu : usableP inst s = false := by simp [usableP, hb, hn]
        have := ih m prev (i + 1) hm
        simpa [List.filter_cons, hu, hn] using this
    | false =>
      have hu : usableP inst s = true := by simp [usableP, hb]
      cases hmt : Go.selectorMatches ⟨s⟩ node.labels with
      | false =>
        have := ih m prev (i + 1) hm
        simpa [List.filter_cons, hu, conflictScanNode, Go.settingMatches_eq, hb, hmt] using this
      | true =>
        have hset : SMap.get? (SMap.set m node.name s.name) node.name = some s.name := SMap.get?_set_self _ _ _
        have ih' := ih (SMap.set m node.name s.name) (some s.name) (i + 1) hset
        have hcont : match conflictScanNode inst.name node.labels (L.filter (usableP inst)) (some s.name) with
            | .none => ∃ m', (∀ key, key ≠ node.name → SMap.get? m' key = SMap.get? m key) ∧
                searchPossibleConflict.loop3 (some inst) node k (L.map some) (i + 1) (SMap.set m node.name s.name) = k m'
            | .conflict o => searchPossibleConflict.loop3 (some inst) node k (L.map some) (i + 1) (SMap.set m node.name s.name) =
                some (o, some (conflictText node))
            | .selectorError => searchPossibleConflict.loop3 (some inst) node k (L.map some) (i + 1) (SMap.set m node.name s.name) =
                some ("", some Go.selectorErrText) := by
          revert ih'
          cases conflictScanNode inst.name node.labels (L.filter (usableP inst)) (some s.name) with
          | none =>
            rintro ⟨m', h1, h2⟩
            exact ⟨m', fun key hk => (h1 key hk).trans (SMap.get?_set_other _ _ _ _ hk), h2⟩
          | conflict o => exact id
          | selectorError => exact id
        by_cases hn : s.name = inst.name
        · cases prev with
          | some o =>
            simp only [List.filter_cons, hu, hn, SMap.contains, SMap.getD, hm]
            simp [conflictScanNode, Go.settingMatches_eq, hb, hmt, conflictText_eq, hn]
          | none =>
            simpa [List.filter_cons, hu, conflictScanNode, Go.settingMatches_eq, hb, hmt, hn, SMap.contains, SMap.getD, hm]
              using hcont
        · simpa [List.filter_cons, hu, conflictScanNode, Go.settingMatches_eq, hb, hmt, hn] using hcont

/-! ### the loop over the nodes -/

/-- what the translated function returns for a result of the model: the name of the other setting and the error (the
model's `conflict` does not carry the node named in the error text; `Reconcile` only tests the error against nil). -/
def ConflictOut (nodes : List Node) (r : ConflictResult) (out : Option (String × Option String)) : Prop :=
  match r with
  | .none => out = some ("", none)
  | .conflict o => ∃ n ∈ nodes, out = some (o, some (conflictText n))
  | .selectorError => out = some ("", some Go.selectorErrText)

theorem setting_nodes (inst : Setting) (sorted : List Setting) :
    ∀ (nodes : List Node) (m : SMap) (i : Int), (∀ n ∈ nodes, SMap.get? m n.name = none) → (nodes.map (·.name)).Nodup →
      ConflictOut nodes (searchConflict.go inst (sorted.filter (usableP inst)) nodes)
        (searchPossibleConflict.loop2 (sorted.map some) (some inst) (fun _ => some ("", none)) nodes i m) := by
  intro nodes
  induction nodes with
  | nil => intro m i _ _; simp [searchConflict.go, searchPossibleConflict.loop2, ConflictOut]
  | cons node rest ih =>
    intro m i hm hnd
    have hnd' : node.name ∉ rest.map (·.name) ∧ (rest.map (·.name)).Nodup := by
      rw [List.map_cons] at hnd; exact List.nodup_cons.mp hnd
    have hs := setting_scan inst node
      (fun nodesAlreadySelected => searchPossibleConflict.loop2 (sorted.map some) (some inst) (fun _ => some ("", none)) rest (i + 1)
        (SMap.set nodesAlreadySelected node.name "")) sorted m none 0 (hm node List.mem_cons_self)
    simp only [searchConflict.go, searchPossibleConflict.loop2]
    revert hs
    cases conflictScanNode inst.name node.labels (sorted.filter (usableP inst)) none with
    | none =>
      rintro ⟨m', h1, h2⟩
      rw [h2]
      have hm' : ∀ n ∈ rest, SMap.get? (SMap.set m' node.name "") n.name = none := by
        intro n hn
        have hne : n.name ≠ node.name := by
          intro he
          exact hnd'.1 (he ▸ List.mem_map_of_mem hn)
        rw [SMap.get?_set_other _ _ _ _ hne, h1 _ hne]
        exact hm n (List.mem_cons_of_mem _ hn)
      have := ih (SMap.set m' node.name "") (i + 1) hm' hnd'.2
      revert this
      unfold ConflictOut
      cases searchConflict.go inst (sorted.filter (usableP inst)) rest with
      | none => exact id
      | conflict o => rintro ⟨n, hn, h⟩; exact ⟨n, List.mem_cons_of_mem _ hn, h⟩
      | selectorError => exact id
    | conflict o => intro h; exact ⟨node, List.mem_cons_self, h⟩
    | selectorError => intro h; exact h

/-! ### the function -/

/-- the function up to the loop over the nodes: the copy loop and the sort are the model's `sortSettings`. -/
theorem searchPossibleConflict_eq_nodes (inst : Setting) (nodes : List Node) (all : List Setting) (hties : NoTies all) :
    searchPossibleConflict (some inst) (some ⟨nodes⟩) (some ⟨all⟩) =
      searchPossibleConflict.loop2 ((sortSettings all).map some) (some inst) (fun _ => some ("", none)) nodes 0 [] := by
  have h1 := setting_loop1 all
    (fun edsNodes => Option.bind (Go.stableSortBy (fun a5 b6 => edsNodeByCreationTimestampAndPhaseLess [a5, b6] 0 1) edsNodes) fun l7 =>
      searchPossibleConflict.loop2 l7 (some inst) (fun _ => some ("", none)) nodes 0 []) all [] [] (by simp)
  unfold searchPossibleConflict
  simp only [Option.bind_some]
  simp only [List.length_nil, Int.cast_ofNat_Int, List.nil_append] at h1
  rw [h1, src_sortSettings hties]
  rfl

/-- **`searchPossibleConflict` is the model's `searchConflict`**: for a non-nil instance and lists, settings without ties
of the sort order and nodes with distinct names, the translated function never panics and returns the model's result
(`ConflictOut`: no conflict — `("", nil)`; a conflict — the other setting's name and an error naming a node of the list;
the instance's own unusable selector — `("", err)`). -/
theorem src_searchPossibleConflict (inst : Setting) (nodes : List Node) (all : List Setting)
    (hties : NoTies all) (hnodes : (nodes.map (·.name)).Nodup) :
    ConflictOut nodes (searchConflict inst nodes all)
      (searchPossibleConflict (some inst) (some ⟨nodes⟩) (some ⟨all⟩)) := by
  rw [searchPossibleConflict_eq_nodes inst nodes all hties, searchConflict_eq, usableFor_eq_filter, sortSettings_filter hties]
  exact setting_nodes inst (sortSettings all) nodes [] 0 (fun _ _ => rfl) hnodes

/-! ### the hypothesis on the node names is needed -/

def exConflictSetting : Setting :=
  { name := "a", ns := "ns", creation := 1, reference := some "eds", nodeSelector := { matchLabels := [], exprs := [] },
    containers := [], status := "", error := "" }
def exConflictNode : Node := { name := "n", labels := [], annotations := [], taints := [] }

/-- Two listed nodes with the same name (the API server never lists that): the code keeps one map across the nodes and
leaves `nodesAlreadySelected["n"] = ""` behind, so the instance's own match on the second node is reported as a conflict
with the setting `""`; the model scans every node from an empty state and finds nothing.  Not a defect of the code under
the API server's guarantee; the bridge carries the hypothesis. -/
theorem nodeNames_needed :
    searchPossibleConflict (some exConflictSetting) (some ⟨[exConflictNode, exConflictNode]⟩) (some ⟨[exConflictSetting]⟩) = some ("", some (conflictText exConflictNode)) ∧
      searchConflict exConflictSetting [exConflictNode, exConflictNode] [exConflictSetting] = .none := by
  constructor
  · rw [searchPossibleConflict_eq_nodes _ _ _ (by intro a ha b hb _ _; simp at ha hb; rw [ha, hb])]
    decide +kernel
  · decide +kernel

/-- non-vacuity: a second setting that selects the same node is reported, through the bridge. -/
theorem ex_searchPossibleConflict :
    ∃ err, searchPossibleConflict (some exConflictSetting) (some ⟨[exConflictNode]⟩) (some ⟨[exConflictSetting, { exConflictSetting with name := "b", creation := 2 }]⟩) =
      some ("b", some err) := by
  have h := src_searchPossibleConflict exConflictSetting [exConflictNode] [exConflictSetting, { exConflictSetting with name := "b", creation := 2 }]
    (by intro a ha b hb _ hn; simp at ha hb; rcases ha with rfl | rfl <;> rcases hb with rfl | rfl <;> simp_all [exConflictSetting])
    (by simp)
  have hm : searchConflict exConflictSetting [exConflictNode] [exConflictSetting, { exConflictSetting with name := "b", creation := 2 }] = .conflict "b" := by decide +kernel
  rw [hm] at h
  obtain ⟨n, _, h⟩ := h
  exact ⟨_, h⟩

/-- what `Reconcile` computes from the result (`if err != nil { status = error; error = "conflict …: " + other }`, else
`valid` when no error was recorded before) is the model's `settingReconcile` for a setting with a reference. -/
theorem src_searchPossibleConflict_reconcile (inst : Setting) (nodes : List Node) (all : List Setting) (ref : String)
    (href : inst.reference = some ref) (hne : ref ≠ "")
    (hties : NoTies all) (hnodes : (nodes.map (·.name)).Nodup) :
    ∃ other err, searchPossibleConflict (some inst) (some ⟨nodes⟩) (some ⟨all⟩) = some (other, err) ∧
      settingReconcile inst nodes all =
        (if err.isSome then ("error", "conflict with another ExtendedDaemonsetSetting: " ++ other) else ("valid", "")) := by
  have h := src_searchPossibleConflict inst nodes all hties hnodes
  unfold settingReconcile
  rw [href]
  revert h
  unfold ConflictOut
  cases searchConflict inst nodes all with
  | none => intro h; exact ⟨"", none, h, by cases ref <;> simp_all⟩
  | conflict o => rintro ⟨n, _, h⟩; exact ⟨o, _, h, by cases ref <;> simp_all⟩
  | selectorError => intro h; exact ⟨"", _, h, by cases ref <;> simp_all⟩

/-- a nil settings list is dereferenced first (`edsNodeList.Items` of the copy loop), whatever the other arguments. -/
theorem src_searchPossibleConflict_nil_lists (inst : Option Setting) (nodes : Option GNodeList) :
    searchPossibleConflict inst nodes none = none := rfl

end Eds.Bridge
