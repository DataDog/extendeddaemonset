import EdsProofs.BridgePodCompare
import EdsModel.Rolling
/-
  EdsProofs.BridgeDropCanary — what `ManageDeployment` and `ManageUnknown` do to the Go map `PodByNodeName` before they
  iterate it,

      for _, nodeName := range params.CanaryNodes { delete(params.PodByNodeName, params.NodeByName[nodeName]) }

  on association lists (`Go.mapErase`, `Go.mapGetD`: EdsModel/GoPrelude.lean), is the model's `dropCanaryNodes`
  (EdsModel/Rolling.lean) under `MapsRel` — and the lookups of the remaining keys (`params.PodByNodeName[node]`, the
  comparator of the stable sort of `ManageDeployment`) when the keys of the map are distinct (a Go map has one entry per
  key; an association list need not, hence the hypothesis `KeysNodup`).  Shared by BridgeUnknown and BridgeDeployment.
-/
namespace Eds.Bridge
open Eds

/-- how a strategy result of the model reads as the Go `*Result`: the flags and reasons, the status, the node items to
create pods on and to delete the pods of (non-nil pointers, in the model's order), the unscheduled nodes, the requeue
request. -/
def stratResultOf (r : StratResult) : GResult :=
  { isFrozen := r.isFrozen, isPaused := r.isPaused, pausedReason := r.pausedReason, isUnpaused := r.isUnpaused,
    isFailed := r.isFailed, failedReason := r.failedReason, newStatus := r.newStatus,
    podsToCreate := r.createE.map some, podsToDelete := r.deleteE.map (fun e => some e.1),
    result := { requeue := r.requeue, requeueAfter := r.requeueAfter }, unscheduledNodes := r.unscheduledNodes }

/-- the Go side of `dropCanaryNodes`: the deletions of the loop over `params.CanaryNodes`, in order. -/
def dropCanaryPB (NB : List (String × Option NodeItem)) (names : List String)
    (PB : List (Option NodeItem × Option GPod)) : List (Option NodeItem × Option GPod) :=
  names.foldl (fun pb n => Go.mapErase Go.nodeItemKey pb (Go.mapGetD Go.strKey NB n none)) PB

/-- a Go map has one entry per key: the node names of the model's list are distinct. -/
def KeysNodup (es : List (NodeItem × Option Pod)) : Prop := (es.map (·.1.node.name)).Nodup

theorem nik_some (x y : NodeItem) : Go.nodeItemKey (some x) (some y) = (x.node.name == y.node.name) := rfl

theorem nik_some_nil (x : NodeItem) : Go.nodeItemKey (some x) none = false := rfl

theorem erase_nil_key {PB : List (Option NodeItem × Option GPod)} {es : List (NodeItem × Option Pod)}
    (h : EntriesRel PB es) : Go.mapErase Go.nodeItemKey PB none = PB := by
  induction h with
  | nil => rfl
  | cons _ _ ih =>
    unfold Go.mapErase at ih ⊢
    simp only [List.filter_cons, nik_some_nil, Bool.not_false, if_true, ih]

theorem erase_some_key {PB : List (Option NodeItem × Option GPod)} {es : List (NodeItem × Option Pod)}
    (h : EntriesRel PB es) (ni : NodeItem) :
    EntriesRel (Go.mapErase Go.nodeItemKey PB (some ni)) (es.filter (fun e => !(e.1.node.name == ni.node.name))) := by
  induction h with
  | nil => exact .nil
  | @cons x go mo PB es hv _ ih =>
    unfold Go.mapErase at ih ⊢
    simp only [List.filter_cons, nik_some]
    by_cases hx : x.node.name = ni.node.name
    · simpa [hx] using ih
    · simpa [hx] using EntriesRel.cons hv ih

/-- one deletion: `delete(PodByNodeName, NodeByName[n])` drops the entries of the node named `n`. -/
theorem erase_step {NB : List (String × Option NodeItem)} {PB : List (Option NodeItem × Option GPod)}
    {es : List (NodeItem × Option Pod)}
    (hfiled : ∀ n ni, Go.mapGetD Go.strKey NB n none = some ni → ni.node.name = n)
    (hkeys : ∀ e ∈ es, Go.mapGetD Go.strKey NB e.1.node.name none = some e.1)
    (h : EntriesRel PB es) (n : String) :
    EntriesRel (Go.mapErase Go.nodeItemKey PB (Go.mapGetD Go.strKey NB n none))
      (es.filter (fun e => !(e.1.node.name == n))) := by
  cases hn : Go.mapGetD Go.strKey NB n none with
  | none =>
    rw [erase_nil_key h]
    have : es.filter (fun e => !(e.1.node.name == n)) = es := by
      apply List.filter_eq_self.mpr
      intro e he
      cases hb : (e.1.node.name == n) with
      | false => rfl
      | true =>
        have : e.1.node.name = n := by simpa using hb
        have hk := hkeys e he
        rw [this, hn] at hk
        cases hk
    rw [this]
    exact h
  | some ni =>
    have := erase_some_key h ni
    rw [hfiled n ni hn] at this
    exact this

theorem dropCanaryNodes_fold (names : List String) (es : List (NodeItem × Option Pod)) :
    dropCanaryNodes es names = names.foldl (fun es n => es.filter (fun e => !(e.1.node.name == n))) es := by
  induction names generalizing es with
  | nil => simp [dropCanaryNodes]
  | cons n ns ih =>
    simp only [List.foldl_cons]
    rw [← ih]
    unfold dropCanaryNodes
    rw [List.filter_filter]
    congr 1
    funext e
    simp only [List.contains_cons, Bool.not_or, Bool.and_comm]

/-- **the loop over the canary nodes**: under `MapsRel` (every `NodeByName` entry filed under the name of its node, every
key of `PodByNodeName` the `NodeByName` entry of its name) the deletions leave the model's `dropCanaryNodes`. -/
theorem dropCanary_rel {NB : List (String × Option NodeItem)} (names : List String)
    (hfiled : ∀ n ni, Go.mapGetD Go.strKey NB n none = some ni → ni.node.name = n) :
    ∀ {PB : List (Option NodeItem × Option GPod)} {es : List (NodeItem × Option Pod)},
    (∀ e ∈ es, Go.mapGetD Go.strKey NB e.1.node.name none = some e.1) → EntriesRel PB es →
    EntriesRel (dropCanaryPB NB names PB) (dropCanaryNodes es names) := by
  intro PB es hkeys h
  rw [dropCanaryNodes_fold]
  unfold dropCanaryPB
  induction names generalizing PB es with
  | nil => exact h
  | cons n ns ih =>
    simp only [List.foldl_cons]
    apply ih
    · intro e he
      exact hkeys e (List.mem_filter.mp he).1
    · exact erase_step hfiled hkeys h n

theorem dropCanary_of_maps {NB : List (String × Option NodeItem)} {PB : List (Option NodeItem × Option GPod)}
    {es : List (NodeItem × Option Pod)} (hm : MapsRel NB PB es) (names : List String) :
    EntriesRel (dropCanaryPB NB names PB) (dropCanaryNodes es names) :=
  dropCanary_rel names hm.filed hm.keys hm.entries

theorem dropCanary_nodup {es : List (NodeItem × Option Pod)} (h : KeysNodup es) (names : List String) :
    KeysNodup (dropCanaryNodes es names) := by
  unfold KeysNodup dropCanaryNodes at *
  exact List.Pairwise.sublist (List.Sublist.map _ List.filter_sublist) h

/-- the lookup of a key of the map: with distinct keys, the entry of a node item is the one `PodByNodeName[node]` finds
(by `Go.nodeItemKey`), a Go pod whose canonical form is the model's. -/
theorem lookup_entry {PB : List (Option NodeItem × Option GPod)} {es : List (NodeItem × Option Pod)}
    (h : EntriesRel PB es) (hnd : KeysNodup es) (ni : NodeItem) (m : Pod) (hmem : (ni, some m) ∈ es) :
    ∃ g, Go.mapGetD Go.nodeItemKey PB (some ni) none = some g ∧ PodRelC g m := by
  unfold Go.mapGetD Go.mapFind
  induction h with
  | nil => cases hmem
  | @cons x go mo PB es hv _ ih =>
    unfold KeysNodup at hnd
    simp only [List.map_cons, List.nodup_cons] at hnd
    simp only [List.find?_cons, nik_some]
    rcases List.mem_cons.mp hmem with heq | hmem'
    · simp only [Prod.mk.injEq] at heq
      obtain ⟨rfl, rfl⟩ := heq
      cases hv with
      | some hr => exact ⟨_, by simp, hr⟩
    · have hne : (x.node.name == ni.node.name) = false := by
        cases hb : (x.node.name == ni.node.name) with
        | false => rfl
        | true =>
          exfalso
          apply hnd.1
          have : x.node.name = ni.node.name := by simpa using hb
          rw [this]
          exact List.mem_map.mpr ⟨(ni, some m), hmem', rfl⟩
      simp only [hne]
      exact ih hnd.2 hmem'

end Eds.Bridge
