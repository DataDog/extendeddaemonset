import EdsModel.Generated.DecPodCompare
import EdsProofs.BridgeStatus
/-
  EdsProofs.BridgePodCompare — `compareCurrentPodWithNewPod` and `compareNodeResourcesOverwriteMD5Hash`
  (strategy/utils.go), as regenerated by the translator on every run (EdsModel/Generated/DecPodCompare.lean), are
  *equal* to the model's `comparePod` / `compareNodeHash` (EdsModel/PodUtil.lean) on the canonical form of the pod; and
  the relation between the Go map `PodByNodeName` (an association list keyed by `*NodeItem`) and the model's `byNode`
  that the bridges of the strategy functions (BridgeCanaryStatus, BridgeRolling) are stated with.

  Two pieces of `compareCurrentPodWithNewPod` are library code and mapped to model functions (tied by correspondence
  only): `compareWithExtendedDaemonsetSettingOverwrite(pod, withoutContainersOverwrittenByNode(…))`
  (`Go.compareWithSettingOverwrite`) and `comparison.GenerateHashFromEDSResourceNodeAnnotation` (`Node.resHash`).
-/
namespace Eds.Bridge
open Eds

/-! ### the pod comparison -/

/-- `m` is `harness/canon.CPod` of `g` as far as the strategy functions (`manageCanaryStatus`, the loop of
`ManageDeployment`) read a pod: `PodRel` (name, node name, creation, conditions, container statuses, annotations …), the
deletion timestamp and grace period, and the containers. -/
structure PodRelC (g : GPod) (m : Pod) : Prop where
  rel : PodRel g m
  deletion : m.deletion = g.deletionTimestamp
  gracePeriod : m.gracePeriod = g.deletionGracePeriodSeconds
  containers : m.containers = g.containers

/-- `compareNodeResourcesOverwriteMD5Hash` on non-nil arguments never panics and is the model's `compareNodeHash`
(`comparison.GenerateHashFromEDSResourceNodeAnnotation` of the node's annotations is the model's `Node.resHash`). -/
theorem src_compareNodeResourcesOverwriteMD5Hash (edsName : String) (rs : ERS) (g : GPod) (m : Pod) (ni : NodeItem)
    (h : m.annotations = g.annotations) :
    Generated.Decisions.compareNodeResourcesOverwriteMD5Hash edsName (some rs) (some g) (some ni) =
      some (compareNodeHash m ni) := by
  unfold Generated.Decisions.compareNodeResourcesOverwriteMD5Hash compareNodeHash SMap.getD SMap.contains
  simp only [Option.bind_some, h, K.nodeHashAnnot]
  cases SMap.get? g.annotations "extendeddaemonset.datadoghq.com/nodehash" with
  | none => by_cases hv : ni.node.resHash = "" <;> simp [hv]
  | some v => by_cases hv : v = ni.node.resHash <;> simp [hv]

/-- the library comparison (`Go.compareWithSettingOverwrite`, GoPrelude) on non-nil arguments is the model's
`compareSettingOverwrite` of the canonical form. -/
theorem src_compareWithSettingOverwrite (g : GPod) (m : Pod) (ni : NodeItem) (h : m.containers = g.containers) :
    Go.compareWithSettingOverwrite (some g) (some ni) = some (compareSettingOverwrite m ni) := by
  unfold Go.compareWithSettingOverwrite compareSettingOverwrite
  cases hs : ni.setting <;> simp [h, hs]

/-- **`compareCurrentPodWithNewPod`** on a non-nil pod and node item, with a non-nil `params.Replicaset`, never panics
and is the model's `comparePod` of the canonical form of the pod. -/
theorem src_compareCurrentPodWithNewPod (P : GParams) (rs : ERS) (hrs : P.replicaset = some rs) (g : GPod) (m : Pod)
    (ni : NodeItem) (hr : PodRelC g m) :
    Generated.Decisions.compareCurrentPodWithNewPod (some P) (some g) (some ni) =
      some (comparePod rs.templateGeneration m ni) := by
  unfold Generated.Decisions.compareCurrentPodWithNewPod comparePod
  simp only [Option.bind_some, hrs, src_compareSpecTemplateMD5Hash _ g m hr.rel.annotations,
    src_compareWithSettingOverwrite g m ni hr.containers,
    src_compareNodeResourcesOverwriteMD5Hash _ rs g m ni hr.rel.annotations]
  cases compareSpecTemplateHash rs.templateGeneration m <;> cases compareSettingOverwrite m ni <;>
    cases compareNodeHash m ni <;> rfl

/-- nil dereferences of `compareCurrentPodWithNewPod`: `params`, `params.Replicaset`, the pod, the node item. -/
theorem src_compareCurrentPodWithNewPod_nil_params (g : Option GPod) (ni : Option NodeItem) :
    Generated.Decisions.compareCurrentPodWithNewPod none g ni = none := rfl

theorem src_compareCurrentPodWithNewPod_nil_pod (P : GParams) (ni : Option NodeItem) :
    Generated.Decisions.compareCurrentPodWithNewPod (some P) none ni = none := by
  unfold Generated.Decisions.compareCurrentPodWithNewPod Generated.Decisions.compareSpecTemplateMD5Hash
  cases P.replicaset <;> simp

/-! ### the map `PodByNodeName` and the model's `byNode` -/

/-- the value of a `PodByNodeName` entry and the model's: both absent (`nil`), or a Go pod and its canonical form. -/
inductive OptPodRel : Option GPod → Option Pod → Prop
  | none : OptPodRel none none
  | some {g : GPod} {m : Pod} : PodRelC g m → OptPodRel (some g) (some m)

/-- the container statuses of every pod of the map satisfy `Go.lastStateWF` (see BridgeConds: without it
`HighestRestartCount` / `MostRecentRestart`, hence `manageCanaryPodFailures`, dereference nil). -/
def MapPodsWF (PB : List (Option NodeItem × Option GPod)) : Prop :=
  ∀ e ∈ PB, ∀ g, e.2 = some g → podLastStatesWF g

/-- `PodByNodeName` as an association list, entry by entry the model's `byNode` (same order: the model's list stands
for the same iteration / lookup order); every key is a non-nil node item. -/
inductive EntriesRel : List (Option NodeItem × Option GPod) → List (NodeItem × Option Pod) → Prop
  | nil : EntriesRel [] []
  | cons {ni : NodeItem} {go : Option GPod} {mo : Option Pod} {PB : List (Option NodeItem × Option GPod)}
      {bn : List (NodeItem × Option Pod)} :
      OptPodRel go mo → EntriesRel PB bn → EntriesRel ((some ni, go) :: PB) ((ni, mo) :: bn)

theorem entries_keys {PB : List (Option NodeItem × Option GPod)} {bn : List (NodeItem × Option Pod)}
    (h : EntriesRel PB bn) : PB.map (·.1) = bn.map (fun e => some e.1) := by
  induction h with
  | nil => rfl
  | cons _ _ ih => simp [ih]


theorem entries_mem_none {PB : List (Option NodeItem × Option GPod)} {bn : List (NodeItem × Option Pod)}
    (h : EntriesRel PB bn) {ni : NodeItem} (hmem : (ni, none) ∈ bn) : (some ni, none) ∈ PB := by
  induction h with
  | nil => cases hmem
  | @cons x go mo PB bn hv _ ih =>
    rcases List.mem_cons.mp hmem with heq | hmem
    · simp only [Prod.mk.injEq] at heq
      obtain ⟨rfl, rfl⟩ := heq
      cases hv
      exact List.mem_cons_self
    · exact List.mem_cons_of_mem _ (ih hmem)

/-- what `FilterAndMapPodsByNode` constructs (`nodesByName[nodeItem.Node.Name] = nodeItem`,
`podByNodeName[nodesMap[node]] = …`): every `NodeByName` entry is filed under the name of its node, and every key of
`PodByNodeName` is the `NodeByName` entry of its name — so that two keys are the same pointer exactly when their nodes
have the same name, which is how `Go.nodeItemKey` compares them. -/
structure MapsRel (NB : List (String × Option NodeItem)) (PB : List (Option NodeItem × Option GPod))
    (byNode : List (NodeItem × Option Pod)) : Prop where
  filed : ∀ n ni, Go.mapGetD Go.strKey NB n none = some ni → ni.node.name = n
  keys : ∀ e ∈ byNode, Go.mapGetD Go.strKey NB e.1.node.name none = some e.1
  entries : EntriesRel PB byNode

/-- `MapsRel.filed` for a given list: checked entry by entry. -/
theorem filed_of_all (NB : List (String × Option NodeItem))
    (h : (NB.all fun e => match e.2 with | some ni => ni.node.name == e.1 | none => true) = true) :
    ∀ n ni, Go.mapGetD Go.strKey NB n none = some ni → ni.node.name = n := by
  intro n ni hg
  unfold Go.mapGetD Go.mapFind at hg
  cases hf : NB.find? (fun e => Go.strKey e.1 n) with
  | none => simp [hf] at hg
  | some e =>
    have hk : e.1 = n := by simpa [Go.strKey] using List.find?_some hf
    have he := List.all_eq_true.mp h e (List.mem_of_find?_eq_some hf)
    simp only [hf, Option.map_some, Option.getD_some] at hg
    simpa [hg, hk] using he

end Eds.Bridge
