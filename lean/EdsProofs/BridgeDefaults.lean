import EdsModel.Generated.DecDefaults
import EdsModel.Defaults
/-
  EdsProofs.BridgeDefaults — the hand-written model functions the property theorems are stated about are
  *equal* to the Lean definitions the translator (tools/extract/gotolean.go) regenerates from the Go
  source on every run (EdsModel/Generated/DecDefaults.lean).  A change to one of these Go functions
  changes the generated definition and breaks the corresponding `src_*` theorem.

  `none` on the generated side is a Go panic; every theorem therefore also says that the function
  does not panic on the stated arguments (non-nil where the callers pass non-nil).
-/
namespace Eds.Bridge
open Eds

/-! ### defaulting recognisers -/

/-- one step of a cascade of early `return false`s. -/
theorem ite_some_false (c b : Bool) : (if c = true then some false else some b) = some (!c && b) := by
  cases c <;> rfl

theorem src_isDefaultedRolling (r : RollingUpdate) :
    Generated.Decisions.isDefaultedRollingUpdate (some r) = some (isDefaultedRolling r) := by
  unfold Generated.Decisions.isDefaultedRollingUpdate isDefaultedRolling
  simp only [Option.bind_some, ite_some_false, Option.not_isNone, Bool.and_true, Bool.and_assoc]

/-- `a == nil || a.Enabled == nil || a.MaxRestarts == nil`, as the translator renders the short-circuit evaluation. -/
theorem autoPause_gate {β : Type} (ap : Option AutoPause) (K : Bool → Option β) :
    (Option.bind (if ap.isNone = true then some true else ap.bind fun p => some p.enabled.isNone) fun c3 =>
      Option.bind (if c3 = true then some true else ap.bind fun p => some p.maxRestarts.isNone) K) =
      K (!isDefaultedAutoPause ap) := by
  rcases ap with _ | ⟨_ | e, _ | m, s⟩ <;> rfl

theorem autoFail_gate {β : Type} (af : Option AutoFail) (K : Bool → Option β) :
    (Option.bind (if af.isNone = true then some true else af.bind fun p => some p.enabled.isNone) fun c3 =>
      Option.bind (if c3 = true then some true else af.bind fun p => some p.maxRestarts.isNone) K) =
      K (!isDefaultedAutoFail af) := by
  rcases af with _ | ⟨_ | e, _ | m, d, t⟩ <;> rfl

theorem src_isDefaultedCanary (c : Canary) :
    Generated.Decisions.isDefaultedCanary (some c) = some (Eds.isDefaultedCanary c) := by
  unfold Generated.Decisions.isDefaultedCanary Eds.isDefaultedCanary
  simp only [Option.bind_some, autoPause_gate, autoFail_gate, ite_some_false, Option.not_isNone, Bool.and_true,
    Bool.and_assoc, Bool.not_not]
  rfl

theorem src_isDefaulted (s : Strategy) (tn : String) (ann : SMap) :
    Generated.Decisions.isDefaultedExtendedDaemonSet (some { spec := { strategy := s, template := { name := tn } }, annotations := ann }) =
      some (isDefaulted s tn) := by
  unfold Generated.Decisions.isDefaultedExtendedDaemonSet isDefaulted
  simp only [Option.bind_some]
  rcases s.canary with _ | c <;>
    simp only [Option.bind_some, src_isDefaultedRolling, src_isDefaultedCanary, Option.isSome_some, Option.isSome_none,
      if_true, Bool.false_eq_true, if_false, ite_some_false, bne, Bool.not_not, Option.not_isNone, Bool.and_true,
      Bool.and_assoc]

/-! ### defaulting -/

theorem src_defaultAutoPause (a : AutoPause) :
    Generated.Decisions.defaultAutoPause (some a) = some (some (Eds.defaultAutoPause (some a))) := by
  rcases a with ⟨_ | e, _ | m, s⟩ <;> rfl

theorem src_defaultAutoFail (a : AutoFail) :
    Generated.Decisions.defaultAutoFail (some a) = some (some (Eds.defaultAutoFail (some a))) := by
  rcases a with ⟨_ | e, _ | m, d, t⟩ <;> rfl

theorem src_defaultRolling (r : RollingUpdate) :
    Generated.Decisions.defaultRollingUpdate (some r) = some (some (Eds.defaultRolling r)) := by
  rcases r with ⟨a, b, _ | c, _ | d, e⟩ <;> rfl

theorem defaultAutoPause_none :
    Eds.defaultAutoPause none = Eds.defaultAutoPause (some { enabled := none, maxRestarts := none, maxSlowStartDuration := none }) := rfl

theorem defaultAutoFail_none :
    Eds.defaultAutoFail none = Eds.defaultAutoFail (some { enabled := none, maxRestarts := none, maxRestartsDuration := none, canaryTimeout := none }) := rfl

/-- `if x == nil { x = &v }`. -/
theorem ite_isNone_some {α : Type} (x : Option α) (v : α) : (if x.isNone = true then some v else x) = some (x.getD v) := by
  cases x <;> rfl

theorem src_defaultCanary (c : Canary) (mode : String) :
    Generated.Decisions.defaultCanary (some c) mode = some (some (Eds.defaultCanary c mode)) := by
  rcases c with ⟨rep, dur, sel, keys, ap, af, nr, vm⟩
  unfold Generated.Decisions.defaultCanary Eds.defaultCanary
  -- every step assigns one field under a test of the record so far: read field by field, the tests are those of the model
  simp only [Option.bind_some, apply_ite Canary.replicas, apply_ite Canary.duration, apply_ite Canary.nodeSelector,
    apply_ite Canary.antiAffinityKeys, apply_ite Canary.autoPause, apply_ite Canary.autoFail,
    apply_ite Canary.noRestartsDuration, apply_ite Canary.validationMode, ite_self, ite_isNone_some,
    src_defaultAutoPause, src_defaultAutoFail]
  -- the validation mode, then the last step, which still tests the whole record
  split <;> split <;> rfl

theorem src_defaultSpec (st : Strategy) (tn : String) (mode : String) :
    Generated.Decisions.defaultSpec (some { strategy := st, template := { name := tn } }) mode =
      some (some { strategy := (Eds.defaultSpec st mode).1, template := { name := (Eds.defaultSpec st mode).2 } }) := by
  unfold Generated.Decisions.defaultSpec Eds.defaultSpec
  rcases st with ⟨ru, _ | ca, _ | rf⟩ <;>
    simp only [Option.bind_some, src_defaultRolling, src_defaultCanary, Option.isSome_some, Option.isSome_none, if_true,
      Bool.false_eq_true, if_false] <;> rfl

theorem src_defaultEds (st : Strategy) (tn : String) (ann : SMap) (mode : String) :
    Generated.Decisions.defaultExtendedDaemonSet (some { spec := { strategy := st, template := { name := tn } }, annotations := ann }) mode =
      some (some { spec := { strategy := (Eds.defaultSpec st mode).1, template := { name := (Eds.defaultSpec st mode).2 } },
                   annotations := ann }) := by
  unfold Generated.Decisions.defaultExtendedDaemonSet
  simp only [Option.bind_some, src_defaultSpec]

/-! ### validation -/

/-- how the model's `ValidateResult` reads on the Go side: `none` = panic, `some none` = nil error. -/
def validateOut : ValidateResult → Option (Option String)
  | .ok => some none
  | .errAutoFailRestarts => some (some "ErrInvalidAutoFailRestarts")
  | .errCanaryTimeout => some (some "ErrInvalidCanaryTimeout")
  | .errDurationManual => some (some "ErrDurationWithManualValidationMode")
  | .errNoRestartsManual => some (some "ErrNoRestartsDurationWithManualValidationMode")
  | .panic => none

/-- the first clause (`autoFail.maxRestarts < autoPause.maxRestarts`, both enabled) with Go's short-circuit evaluation. -/
theorem validate_clause1 {β : Type} (c : Canary) (K : Bool → Option β) :
    (Option.bind c.autoFail fun p4 => Option.bind p4.enabled fun p5 =>
      Option.bind (if p5 = true then (Option.bind c.autoPause fun p6 => Option.bind p6.enabled fun p7 => some p7) else some false) fun c8 =>
      Option.bind (if c8 = true then (Option.bind c.autoFail fun p9 => Option.bind p9.maxRestarts fun p10 =>
        Option.bind c.autoPause fun p11 => Option.bind p11.maxRestarts fun p12 => some (decide (p10 < p12))) else some false) K) =
      (validateClause1 c).bind K := by
  unfold validateClause1
  rcases c.autoFail with _ | ⟨_ | _ | _, _ | afm, afd, aft⟩ <;> try rfl
  all_goals rcases c.autoPause with _ | ⟨_ | _ | _, _ | apm, s⟩ <;> rfl

/-- the second clause (`autoFail.canaryTimeout ≤ duration`, when both are set), once `autoFail.enabled` is known. -/
theorem validate_clause2 {β : Type} (afe : Bool) (aft dur : Option Dur) (e X : Option β) :
    (Option.bind (if afe = true then some aft.isSome else some false) fun c17 =>
      Option.bind (if (c17 && dur.isSome) = true then (Option.bind aft fun p19 => Option.bind dur fun p20 => some (decide (p19 ≤ p20)))
        else some false) fun c21 => if c21 = true then e else X) =
      if (afe && match aft, dur with | some t, some d => decide (t ≤ d) | _, _ => false) = true then e else X := by
  cases afe <;> cases aft <;> cases dur <;> rfl

/-- a first clause that returned has dereferenced `AutoFail` and `AutoFail.Enabled`. -/
theorem validateClause1_some {c : Canary} {b : Bool} (h : validateClause1 c = some b) :
    ∃ af afe, c.autoFail = some af ∧ af.enabled = some afe := by
  unfold validateClause1 at h
  rcases hc : c.autoFail with _ | af
  · rw [hc] at h; cases h
  · rcases he : af.enabled with _ | afe
    · rw [hc] at h; simp only [Option.bind_eq_bind, Option.bind_some, he, Option.bind_none] at h; cases h
    · exact ⟨af, afe, rfl, he⟩

theorem src_validateSpec (st : Strategy) (t : GTemplate) :
    Generated.Decisions.validateSpec (some { strategy := st, template := t }) = validateOut (Eds.validateSpec st) := by
  unfold Generated.Decisions.validateSpec Eds.validateSpec
  simp only [Option.bind_some]
  rcases st.canary with _ | c
  · rfl
  · simp only [Option.bind_some, Option.isSome_some, if_true]
    rw [validate_clause1]
    rcases h1 : validateClause1 c with _ | _ | _
    · rfl
    · -- the first clause is false: the second reads `autoFail.enabled` again, then the validation mode is checked
      obtain ⟨af, afe, haf, hafe⟩ := validateClause1_some h1
      simp only [haf, hafe, Option.bind_some, validate_clause2, Option.getD_some, apply_ite validateOut]
      rfl
    · rfl

end Eds.Bridge
