import EdsModel.Objects
/-
  EdsProofs.Conds — condition lists (`findCond`, `isCondTrue`, `updateFirst`, `updateCond` of
  EdsModel/Objects.lean): the lookup of a type after an update of the same or of another type, what an
  update keeps, and `CondsUpdated` (a list obtained from another by updates of given types).
-/
namespace Eds

theorem findCond_append (cs ds : List Cond) (t : String) :
    findCond (cs ++ ds) t = (findCond cs t).or (findCond ds t) := by
  unfold findCond; exact List.find?_append

theorem updateFirst_cons_pos (c : Cond) (rest : List Cond) (t : String) (f : Cond → Cond)
    (h : (c.type == t) = true) : updateFirst (c :: rest) t f = f c :: rest := by
  simp only [updateFirst, h, if_true]

theorem updateFirst_cons_neg (c : Cond) (rest : List Cond) (t : String) (f : Cond → Cond)
    (h : (c.type == t) = false) : updateFirst (c :: rest) t f = c :: updateFirst rest t f := by
  simp only [updateFirst, h, Bool.false_eq_true, if_false]

theorem findCond_cons_pos (c : Cond) (rest : List Cond) (t : String) (h : (c.type == t) = true) :
    findCond (c :: rest) t = some c := by
  simp only [findCond, List.find?_cons, h]

theorem findCond_cons_neg (c : Cond) (rest : List Cond) (t : String) (h : (c.type == t) = false) :
    findCond (c :: rest) t = findCond rest t := by
  simp only [findCond, List.find?_cons, h]

theorem findCond_append_single (cs : List Cond) (c : Cond) (t : String) (h : findCond cs t = none)
    (hc : c.type = t) : findCond (cs ++ [c]) t = some c := by
  rw [findCond_append, h]
  simp [findCond, hc]

theorem findCond_updateFirst_same (cs : List Cond) (t : String) (f : Cond → Cond)
    (hf : ∀ c, (f c).type = c.type) :
    findCond (updateFirst cs t f) t = (findCond cs t).map f := by
  induction cs with
  | nil => rfl
  | cons c rest ih =>
    cases hc : (c.type == t) with
    | true =>
      have hfc : ((f c).type == t) = true := by rw [hf c]; exact hc
      rw [updateFirst_cons_pos c rest t f hc, findCond_cons_pos _ _ _ hfc, findCond_cons_pos _ _ _ hc]
      rfl
    | false =>
      rw [updateFirst_cons_neg c rest t f hc, findCond_cons_neg _ _ _ hc, findCond_cons_neg _ _ _ hc]
      exact ih

theorem findCond_updateFirst_other (cs : List Cond) (t t' : String) (f : Cond → Cond)
    (hf : ∀ c, (f c).type = c.type) (hne : t' ≠ t) :
    findCond (updateFirst cs t' f) t = findCond cs t := by
  induction cs with
  | nil => rfl
  | cons c rest ih =>
    cases hc : (c.type == t') with
    | true =>
      have hct : c.type = t' := by simpa using hc
      have h1 : (c.type == t) = false := by simp [hct, hne]
      have h2 : ((f c).type == t) = false := by rw [hf c]; exact h1
      rw [updateFirst_cons_pos c rest t' f hc, findCond_cons_neg _ _ _ h1, findCond_cons_neg _ _ _ h2]
    | false =>
      rw [updateFirst_cons_neg c rest t' f hc]
      cases hct : (c.type == t) with
      | true => rw [findCond_cons_pos _ _ _ hct, findCond_cons_pos _ _ _ hct]
      | false => rw [findCond_cons_neg _ _ _ hct, findCond_cons_neg _ _ _ hct]; exact ih

/-- the function `updateCond` applies to the first condition of the type keeps the type. -/
theorem updateCond_fn_type (now : Time) (status reason desc : String) (sl : Bool) (c : Cond) :
    ((fun c : Cond =>
        let c1 := if c.status != status then
                    { c with lastTransition := now, status := status, lastUpdate := now } else c
        let c2 := if sl then { c1 with lastUpdate := now } else c1
        if status == "True" then { c2 with message := desc, reason := reason } else c2) c).type = c.type := by
  simp only [apply_ite Cond.type, ite_self]

/-- … and sets the status. -/
theorem updateCond_fn_status (now : Time) (status reason desc : String) (sl : Bool) (c : Cond) :
    ((fun c : Cond =>
        let c1 := if c.status != status then
                    { c with lastTransition := now, status := status, lastUpdate := now } else c
        let c2 := if sl then { c1 with lastUpdate := now } else c1
        if status == "True" then { c2 with message := desc, reason := reason } else c2) c).status = status := by
  simp only [apply_ite Cond.status, ite_self]
  split
  · rfl
  · rename_i h; simpa using h

theorem findCond_updateCond_other (cs : List Cond) (now : Time) (t t' status reason desc : String)
    (w sl : Bool) (hne : t' ≠ t) :
    findCond (updateCond cs now t' status reason desc w sl) t = findCond cs t := by
  unfold updateCond
  split
  · exact findCond_updateFirst_other cs t t' _ (updateCond_fn_type now status reason desc sl) hne
  · split
    · rw [findCond_append]
      have : findCond [({ type := t', status := status, lastTransition := now, lastUpdate := now,
                          reason := reason, message := desc } : Cond)] t = none := by
        simp [findCond, hne]
      rw [this]; simp
    · rfl

theorem isCondTrue_updateCond_other (cs : List Cond) (now : Time) (t t' status reason desc : String)
    (w sl : Bool) (hne : t' ≠ t) :
    isCondTrue (updateCond cs now t' status reason desc w sl) t = isCondTrue cs t := by
  unfold isCondTrue
  rw [findCond_updateCond_other cs now t t' status reason desc w sl hne]

theorem isCondTrue_congr {cs cs' : List Cond} {t : String} (h : findCond cs' t = findCond cs t) :
    isCondTrue cs' t = isCondTrue cs t := by
  unfold isCondTrue; rw [h]

/-- `cs'` is `cs` after some calls of `updateCond`, each for a condition type in `ts` and stamped with
an instant in `ats`. -/
inductive CondsUpdated (ats : List Time) (ts : List String) : List Cond → List Cond → Prop
  | refl (cs : List Cond) : CondsUpdated ats ts cs cs
  | step {cs cs' : List Cond} {a : Time} {t status reason desc : String} {w sl : Bool} :
      CondsUpdated ats ts cs cs' → a ∈ ats → t ∈ ts →
      CondsUpdated ats ts cs (updateCond cs' a t status reason desc w sl)

namespace CondsUpdated
variable {ats : List Time} {ts : List String} {cs cs' cs'' : List Cond}

theorem upd {a : Time} {t status reason desc : String} {w sl : Bool} (h : CondsUpdated ats ts cs cs')
    (ha : a ∈ ats := by simp) (ht : t ∈ ts := by simp) :
    CondsUpdated ats ts cs (updateCond cs' a t status reason desc w sl) := .step h ha ht

theorem updIf {c : Prop} [Decidable c] {a : Time} {t status reason desc : String} {w sl : Bool}
    (h : CondsUpdated ats ts cs cs') (ha : a ∈ ats := by simp) (ht : t ∈ ts := by simp) :
    CondsUpdated ats ts cs (if c then updateCond cs' a t status reason desc w sl else cs') := by
  split
  · exact .step h ha ht
  · exact h

theorem ite {c : Prop} [Decidable c] (h1 : CondsUpdated ats ts cs cs') (h2 : CondsUpdated ats ts cs cs'') :
    CondsUpdated ats ts cs (if c then cs' else cs'') := by
  split <;> assumption

theorem findCond_eq (h : CondsUpdated ats ts cs cs') {t : String} (ht : t ∉ ts) :
    findCond cs' t = findCond cs t := by
  induction h with
  | refl => rfl
  | step _ _ hm ih =>
    rw [findCond_updateCond_other _ _ _ _ _ _ _ _ _ (fun e => ht (by rw [← e]; exact hm)), ih]

theorem isCondTrue_eq (h : CondsUpdated ats ts cs cs') {t : String} (ht : t ∉ ts) :
    isCondTrue cs' t = isCondTrue cs t :=
  isCondTrue_congr (h.findCond_eq ht)

end CondsUpdated

theorem findCond_updateCond_same (cs : List Cond) (now : Time) (t status reason desc : String) (w sl : Bool) :
    findCond (updateCond cs now t status reason desc w sl) t =
      match findCond cs t with
      | some c => some
          (let c1 := if c.status != status then
                      { c with lastTransition := now, status := status, lastUpdate := now } else c
           let c2 := if sl then { c1 with lastUpdate := now } else c1
           if status == "True" then { c2 with message := desc, reason := reason } else c2)
      | none => if status == "True" || w then
          some { type := t, status := status, lastTransition := now, lastUpdate := now,
                 reason := reason, message := desc }
        else none := by
  unfold updateCond
  cases hfc : findCond cs t with
  | some c0 =>
    simp only []
    rw [findCond_updateFirst_same cs t _ (updateCond_fn_type now status reason desc sl), hfc]
    rfl
  | none =>
    simp only []
    split
    · exact findCond_append_single _ _ _ hfc rfl
    · exact hfc

/-- after `updateCond … t "True" … (supportLastUpdate := true)` the first condition of type `t` is
True with `lastUpdate = now`. -/
theorem findCond_updateCond_same_true (cs : List Cond) (now : Time) (t reason desc : String) (w : Bool) :
    ∃ c, findCond (updateCond cs now t "True" reason desc w true) t = some c ∧
      c.lastUpdate = now ∧ c.status = "True" := by
  rw [findCond_updateCond_same]
  cases findCond cs t with
  | some c0 =>
    exact ⟨_, rfl, by simp only [beq_self_eq_true, if_true], updateCond_fn_status now "True" reason desc true c0⟩
  | none => exact ⟨_, rfl, rfl, rfl⟩

/-- updating type `t` with `boolCond b` makes `isCondTrue … t = b` (with `writeFalseIfNotExist = false`
a missing condition stays missing when `b = false`, which also reads as "not true"). -/
theorem isCondTrue_updateCond_same (cs : List Cond) (now : Time) (t : String) (b : Bool)
    (reason desc : String) (w sl : Bool) :
    isCondTrue (updateCond cs now t (boolCond b) reason desc w sl) t = b := by
  unfold isCondTrue
  rw [findCond_updateCond_same]
  cases findCond cs t with
  | some c =>
    simp only []
    rw [updateCond_fn_status now (boolCond b) reason desc sl c]
    cases b <;> rfl
  | none => cases b <;> cases w <;> rfl

theorem updateFirst_map_type (cs : List Cond) (t : String) (f : Cond → Cond) (hf : ∀ c, (f c).type = c.type) :
    (updateFirst cs t f).map (·.type) = cs.map (·.type) := by
  induction cs with
  | nil => rfl
  | cons c rest ih =>
    cases hc : (c.type == t) with
    | true => rw [updateFirst_cons_pos _ _ _ _ hc]; simp [hf]
    | false => rw [updateFirst_cons_neg _ _ _ _ hc]; simp [ih]

theorem findCond_none_not_mem (cs : List Cond) (t : String) (h : findCond cs t = none) :
    t ∉ cs.map (·.type) := by
  unfold findCond at h
  rw [List.find?_eq_none] at h
  intro hm
  obtain ⟨c, hc, rfl⟩ := List.mem_map.1 hm
  have := h c hc
  simp at this

theorem updateFirst_filter_other (cs : List Cond) (t : String) (f : Cond → Cond) (hf : ∀ c, (f c).type = c.type) :
    (updateFirst cs t f).filter (fun c => c.type != t) = cs.filter (fun c => c.type != t) := by
  induction cs with
  | nil => rfl
  | cons c cs ih =>
    unfold updateFirst
    by_cases hc : (c.type == t) = true
    · have ht : c.type = t := by simpa using hc
      simp [ht, hf]
    · have hc' : (c.type == t) = false := by simpa using hc
      simp only [hc', Bool.false_eq_true, if_false, List.filter_cons]
      rw [ih]

end Eds
