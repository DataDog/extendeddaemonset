import EdsModel.ReconcileErs
import EdsProofs.Filter
import EdsProofs.Rolling
import EdsProofs.CanaryS
/-
  Helper lemmas about the L2 model of the replica-set controller's `Reconcile`
  (EdsModel/ReconcileErs.lean).

  * named pieces of the chain (`ersOwner`, `ersGated`, `ersCanaryNodes`, `ersIgnore`, `ersFilter`,
    `ersParams`, `ersStrategy`, `ersFinish`, `ersRun`, `ersBody`) and
    `reconcileErs_eq : ersOwner rs st = some d → reconcileErs … = ersBody d …`;
  * the inversion lemmas `reconcileErs_cases` (no pod write at all, or a *full run*),
    `reconcileErs_full` (a defaulted, non-gated, non-early-return sync is a full run) and
    `reconcileErs_active_cases` (active role: no pod write, or a full run on a successful `ManageDeployment`);
  * `ersStrategy_active / _canary / _unknown`: what the strategy result is made of per role, and the
    same read off a full run (`FullRun.active / .canary / .unknown`, `FullRun.mem_deletes`, `.mem_creates`);
  * membership lemmas for the deletion list of the canary scan (`canaryScan_toDelete_mem`) and for `ersPods`;
    the node listing (`ersNodeItems_some`).
-/
namespace Eds

/-- the owner EDS `Reconcile` fetches (`none`: no owner reference, or the owner does not exist). -/
def ersOwner (rs : ERS) (st : ErsStore) : Option EDS :=
  match rs.ownerEds with
  | none => none
  | some ownerName => st.edss.find? (fun d => d.ns == rs.ns && d.name == ownerName)

def ersFreq (d : EDS) : Dur := d.strategy.reconcileFrequency.getD 0

/-- the LastFullSync gate. -/
def ersGated (d : EDS) (rs : ERS) (now : Time) : Bool :=
  match findCond rs.status.conds "LastFullSync" with
  | some c => decide (c.lastUpdate + ersFreq d > now)
  | none => false

def ersGateWait (d : EDS) (rs : ERS) (now : Time) : Dur :=
  match findCond rs.status.conds "LastFullSync" with
  | some c => c.lastUpdate + ersFreq d - now
  | none => 0

/-- `eds.status.canary.nodes` (empty without a canary). -/
def ersCanaryNodes (d : EDS) : List String :=
  match d.status.canary with | some cs => cs.nodes | none => []

/-- the nodes `FilterAndMapPodsByNode` is told to ignore: the canary nodes, for the active replica set. -/
def ersIgnore (d : EDS) (rs : ERS) : List String :=
  if d.status.canary.isSome && d.status.activeReplicaSet == rs.name then ersCanaryNodes d else []

def ersFilter (released : String → Bool) (d : EDS) (rs : ERS) (items : List NodeItem) (pods : List Pod) : FilterOut :=
  filterAndMap released rs.template items pods (ersIgnore d rs)

def ersParams (released : String → Bool) (d : EDS) (rs : ERS) (items : List NodeItem) (pods : List Pod)
    (now : Time) : StratParams :=
  { edsName := d.name, edsAnnotations := d.annotations, strategy := d.strategy, ers := rs,
    newStatus := { rs.status with conds := preConds (ersRole d rs.name) rs.status.conds now },
    canaryNodes := ersCanaryNodes d,
    byNode := (ersFilter released d rs items pods).byNode,
    toCleanUp := (ersFilter released d rs items pods).toDelete,
    unscheduled := (ersFilter released d rs items pods).unscheduled }

/-- the strategy dispatch: (result, label adds, label removes, strategy error); `none` = panic.
`labelled` = names of the pods of `canaryLabelled d.name rs st`. -/
def ersStrategy (rs : ERS) (labelled : List String) (role : String) (sp : StratParams) (now : Time) :
    Option (StratResult × List String × List String × Bool) :=
  if role == "active" then
    match manageDeployment sp now now false with
    | .ok r =>
      let start := rollingUpdateStartTime rs.status now
      let removes := if now - start < 5 * minute then labelled else []
      some (r, [], removes, false)
    | .err _ =>
        -- early error return of ManageDeployment (a rolling-update parameter that does not parse): no
        -- status was computed; Reconcile keeps the current one, with the conditions already updated,
        -- and reports the error in it (the nil status is not dereferenced, F15)
        some ({ newStatus := some { sp.newStatus with conds := rollingConds sp now } }, [], [], true)
    | .panic => none
  else if role == "canary" then
    match manageCanaryStatus sp now with
    | some r => some ({ r with cleanupDeletes := cleanupTargets sp.toCleanUp,
                               unscheduledNodes := unscheduledNodes sp.unscheduled }, canaryLabelAdds sp, [], false)
    | none => none
  else some (manageUnknown sp now, [], [], false)

/-- everything after the strategy returned a status `st0`. -/
def ersFinish (rs : ERS) (role : String) (freq : Dur) (sp : StratParams) (r : StratResult)
    (adds removes : List String) (stratErr : Bool) (st0 : ERSStatus) (affinity : Bool) (now : Time) : ErsWrites :=
  let cleanupConds := if role == "canary" && !sp.toCleanUp.isEmpty
    then updateCond st0.conds now "PodsCleanupDone" "True" "" "" false false else st0.conds
  let st1 := { st0 with conds := cleanupConds }
  let desc := if r.unscheduledNodes.isEmpty then "" else "nodes:" ++ ";".intercalate r.unscheduledNodes
  let conds := updateCond st1.conds now "Unschedule" (boolCond (!r.unscheduledNodes.isEmpty)) "" desc false false
  let delGated : Bool := match findCond conds "PodDeletion" with
    | some c => decide (now - c.lastUpdate < freq)
    | none => false
  let deletes := if delGated then [] else r.deleteE.map (·.2.name)
  let conds := if !delGated && !r.deleteE.isEmpty
    then updateCond conds now "PodDeletion" "True" "" "pods deleted" false true else conds
  let creGated : Bool := match findCond conds "PodCreation" with
    | some c => decide (now - c.lastUpdate < freq)
    | none => false
  let creates := if creGated then [] else
    r.createE.map (fun ni => (ni.node.name, (createPod rs (some ni.node) ni.setting affinity).pod))
  let conds := if !creGated && !r.createE.isEmpty
    then updateCond conds now "PodCreation" "True" "" "pods created" false true else conds
  let conds := updateCond conds now "ReconcileError" (boolCond stratErr) "" "" false true
  let conds := updateCond conds now "LastFullSync" "True" "" "full sync" true true
  let stF := { st1 with conds := conds }
  let rqAfter := if delGated || creGated then freq else r.requeueAfter
  { cleanupDeletes := r.cleanupDeletes, labelAdds := adds, labelRemoves := removes,
    deletes := deletes, creates := creates,
    deleteCands :=
      if role == "active" then
        let c := countAll rs.templateGeneration now (targeted sp)
        (c.toDeleteUnavail ++ c.toDeleteAvail).map (·.2.name)
      else r.deleteE.map (·.2.name),
    createCands :=
      if role == "active" then (countAll rs.templateGeneration now (targeted sp)).toCreate else r.createE,
    entries := if role == "active" then targeted sp else [],
    statusUpdate := if stF != rs.status then some stF else none,
    requeue := r.requeue, requeueAfter := rqAfter }

/-- the sync once the node list is known.  The store is read only through `pods` (= `ersPods d st`)
and `labelled` (= the names of `canaryLabelled d.name rs st`). -/
def ersRun (d : EDS) (rs : ERS) (pods : List Pod) (labelled : List String) (released : String → Bool)
    (affinity : Bool) (now : Time) (items : List NodeItem) : ErsWrites :=
  match ersStrategy rs labelled (ersRole d rs.name) (ersParams released d rs items pods now) now with
  | none => { earlyErr := true }
  | some (r, adds, removes, stratErr) =>
    match r.newStatus with
    | none => { earlyErr := true }
    | some st0 =>
      ersFinish rs (ersRole d rs.name) (ersFreq d) (ersParams released d rs items pods now) r adds removes
        stratErr st0 affinity now

def ersNotDefaulted (rs : ERS) (now : Time) : ErsWrites :=
  let conds := updateCond rs.status.conds now "ReconcileError" "True" ""
    "Parent ExtendedDaemonSet is not defaulted, requeuing" false true
  let st' := { rs.status with conds := conds }
  { statusUpdate := if st' != rs.status then some st' else none, requeueAfter := sec }

/-- `Reconcile` once the owner `d` has been fetched. -/
def ersBody (d : EDS) (rs : ERS) (st : ErsStore) (released : String → Bool) (affinity : Bool) (now : Time) :
    ErsWrites :=
  if !isDefaulted d.strategy d.templateName then ersNotDefaulted rs now
  else if ersGated d rs now then { requeueAfter := ersGateWait d rs now }
  else match ersNodeItems d rs st with
    | none => { earlyErr := true }
    | some items =>
      ersRun d rs (ersPods d st) ((canaryLabelled d.name rs st).map (·.name)) released affinity now items

theorem reconcileErs_owner (rs : ERS) (st : ErsStore) (released : String → Bool) (aff : Bool) (now : Time) :
    reconcileErs rs st released aff now =
      match ersOwner rs st with
      | none => { earlyErr := true }
      | some d => ersBody d rs st released aff now := by
  unfold reconcileErs ersOwner
  cases rs.ownerEds with
  | none => rfl
  | some o => cases st.edss.find? (fun d => d.ns == rs.ns && d.name == o) <;> rfl

theorem reconcileErs_no_owner (rs : ERS) (st : ErsStore) (released : String → Bool) (aff : Bool) (now : Time)
    (h : ersOwner rs st = none) : reconcileErs rs st released aff now = { earlyErr := true } := by
  rw [reconcileErs_owner, h]

theorem reconcileErs_eq (rs : ERS) (st : ErsStore) (released : String → Bool) (aff : Bool) (now : Time)
    (d : EDS) (h : ersOwner rs st = some d) :
    reconcileErs rs st released aff now = ersBody d rs st released aff now := by
  rw [reconcileErs_owner, h]

/-- none of the five pod-write lists holds anything. -/
def ErsWrites.noPodWrite (w : ErsWrites) : Prop :=
  w.cleanupDeletes = [] ∧ w.labelAdds = [] ∧ w.labelRemoves = [] ∧ w.deletes = [] ∧ w.creates = []

instance (w : ErsWrites) : Decidable w.noPodWrite :=
  inferInstanceAs (Decidable (w.cleanupDeletes = [] ∧ w.labelAdds = [] ∧ w.labelRemoves = [] ∧ w.deletes = [] ∧
    w.creates = []))

def ErsWrites.issuesPodWrite (w : ErsWrites) : Prop :=
  w.cleanupDeletes ≠ [] ∨ w.labelAdds ≠ [] ∨ w.labelRemoves ≠ [] ∨ w.deletes ≠ [] ∨ w.creates ≠ []

theorem ErsWrites.noPodWrite_not_issues {w : ErsWrites} (h : w.noPodWrite) : ¬ w.issuesPodWrite := by
  obtain ⟨h1, h2, h3, h4, h5⟩ := h
  rintro (h | h | h | h | h) <;> contradiction

/-- a *full run*: owner `d` defaulted, sync not gated, node list `items`, the strategy returned
`(r, adds, removes, se)` with a status `st0`, and the writes are `ersFinish` of these. -/
structure FullRun (d : EDS) (rs : ERS) (st : ErsStore) (released : String → Bool) (aff : Bool) (now : Time)
    (w : ErsWrites) (items : List NodeItem) (r : StratResult) (adds removes : List String) (se : Bool)
    (st0 : ERSStatus) : Prop where
  defaulted : isDefaulted d.strategy d.templateName = true
  notGated : ersGated d rs now = false
  hitems : ersNodeItems d rs st = some items
  strat : ersStrategy rs ((canaryLabelled d.name rs st).map (·.name)) (ersRole d rs.name)
            (ersParams released d rs items (ersPods d st) now) now = some (r, adds, removes, se)
  status : r.newStatus = some st0
  eq : w = ersFinish rs (ersRole d rs.name) (ersFreq d) (ersParams released d rs items (ersPods d st) now)
             r adds removes se st0 aff now

theorem ersRun_cases (d : EDS) (rs : ERS) (pods : List Pod) (labelled : List String) (released : String → Bool)
    (aff : Bool) (now : Time) (items : List NodeItem) :
    ersRun d rs pods labelled released aff now items = { earlyErr := true } ∨
    ∃ r adds removes se st0,
      ersStrategy rs labelled (ersRole d rs.name) (ersParams released d rs items pods now) now
        = some (r, adds, removes, se) ∧
      r.newStatus = some st0 ∧
      ersRun d rs pods labelled released aff now items =
        ersFinish rs (ersRole d rs.name) (ersFreq d) (ersParams released d rs items pods now) r adds removes
          se st0 aff now := by
  unfold ersRun
  split
  · exact Or.inl rfl
  · rename_i r adds removes se hs
    split
    · exact Or.inl rfl
    · rename_i st0 hst
      exact Or.inr ⟨r, adds, removes, se, st0, hs, hst, rfl⟩

theorem ersRun_of_strategy {d : EDS} {rs : ERS} {pods : List Pod} {labelled : List String}
    {released : String → Bool} {now : Time} {items : List NodeItem} {r : StratResult} {adds removes : List String}
    {se : Bool} {st0 : ERSStatus} (aff : Bool)
    (hs : ersStrategy rs labelled (ersRole d rs.name) (ersParams released d rs items pods now) now
      = some (r, adds, removes, se))
    (hst : r.newStatus = some st0) :
    ersRun d rs pods labelled released aff now items =
      ersFinish rs (ersRole d rs.name) (ersFreq d) (ersParams released d rs items pods now) r adds removes
        se st0 aff now := by
  unfold ersRun
  rw [hs]
  simp only [hst]

section Body
variable {d : EDS} {rs : ERS} {st : ErsStore} {now : Time} (released : String → Bool) (aff : Bool)

theorem ersBody_not_defaulted (hd : isDefaulted d.strategy d.templateName = false) :
    ersBody d rs st released aff now = ersNotDefaulted rs now := by
  unfold ersBody; rw [hd]; rfl

theorem ersBody_gated (hd : isDefaulted d.strategy d.templateName = true) (hg : ersGated d rs now = true) :
    ersBody d rs st released aff now = { requeueAfter := ersGateWait d rs now } := by
  unfold ersBody; rw [hd, hg]; rfl

theorem ersBody_no_items (hd : isDefaulted d.strategy d.templateName = true) (hg : ersGated d rs now = false)
    (hi : ersNodeItems d rs st = none) : ersBody d rs st released aff now = { earlyErr := true } := by
  unfold ersBody; rw [hd, hg, hi]; rfl

theorem ersBody_eq_run {items : List NodeItem} (hd : isDefaulted d.strategy d.templateName = true)
    (hg : ersGated d rs now = false) (hi : ersNodeItems d rs st = some items) :
    ersBody d rs st released aff now =
      ersRun d rs (ersPods d st) ((canaryLabelled d.name rs st).map (·.name)) released aff now items := by
  unfold ersBody; rw [hd, hg, hi]; rfl

end Body

theorem ersBody_cases (d : EDS) (rs : ERS) (st : ErsStore) (released : String → Bool) (aff : Bool) (now : Time) :
    (ersBody d rs st released aff now = { earlyErr := true }) ∨
    (isDefaulted d.strategy d.templateName = false ∧ ersBody d rs st released aff now = ersNotDefaulted rs now) ∨
    (isDefaulted d.strategy d.templateName = true ∧ ersGated d rs now = true ∧
      ersBody d rs st released aff now = { requeueAfter := ersGateWait d rs now }) ∨
    ∃ items r adds removes se st0,
      FullRun d rs st released aff now (ersBody d rs st released aff now) items r adds removes se st0 := by
  cases hd : isDefaulted d.strategy d.templateName with
  | false => exact Or.inr (Or.inl ⟨rfl, ersBody_not_defaulted released aff hd⟩)
  | true =>
    cases hg : ersGated d rs now with
    | true => exact Or.inr (Or.inr (Or.inl ⟨rfl, rfl, ersBody_gated released aff hd hg⟩))
    | false =>
      cases hi : ersNodeItems d rs st with
      | none => exact Or.inl (ersBody_no_items released aff hd hg hi)
      | some items =>
        rw [ersBody_eq_run released aff hd hg hi]
        rcases ersRun_cases d rs (ersPods d st) ((canaryLabelled d.name rs st).map (·.name)) released aff now items
          with h | ⟨r, adds, removes, se, st0, hs, hst, he⟩
        · exact Or.inl h
        · exact Or.inr (Or.inr (Or.inr ⟨items, r, adds, removes, se, st0, ⟨hd, hg, hi, hs, hst, he⟩⟩))

/-- **Inversion of `reconcileErs`**: with the owner found, either no pod write is issued or the sync
is a full run. -/
theorem reconcileErs_cases (rs : ERS) (st : ErsStore) (released : String → Bool) (aff : Bool) (now : Time)
    (d : EDS) (h : ersOwner rs st = some d) :
    (reconcileErs rs st released aff now).noPodWrite ∨
    ∃ items r adds removes se st0,
      FullRun d rs st released aff now (reconcileErs rs st released aff now) items r adds removes se st0 := by
  rw [reconcileErs_eq rs st released aff now d h]
  rcases ersBody_cases d rs st released aff now with h | ⟨_, h⟩ | ⟨_, _, h⟩ | h
  · left; rw [h]; exact ⟨rfl, rfl, rfl, rfl, rfl⟩
  · left; rw [h]; exact ⟨rfl, rfl, rfl, rfl, rfl⟩
  · left; rw [h]; exact ⟨rfl, rfl, rfl, rfl, rfl⟩
  · exact Or.inr h

theorem reconcileErs_status_cases (rs : ERS) (st : ErsStore) (released : String → Bool) (aff : Bool) (now : Time)
    (d : EDS) (h : ersOwner rs st = some d) {s : ERSStatus}
    (hs : (reconcileErs rs st released aff now).statusUpdate = some s) :
    (isDefaulted d.strategy d.templateName = false ∧ (ersNotDefaulted rs now).statusUpdate = some s) ∨
    ∃ items r adds removes se st0,
      FullRun d rs st released aff now (reconcileErs rs st released aff now) items r adds removes se st0 := by
  rw [reconcileErs_eq rs st released aff now d h] at hs ⊢
  rcases ersBody_cases d rs st released aff now with h' | ⟨hd, h'⟩ | ⟨_, _, h'⟩ | F
  · rw [h'] at hs; cases hs
  · exact Or.inl ⟨hd, h' ▸ hs⟩
  · rw [h'] at hs; cases hs
  · exact Or.inr F

theorem reconcileErs_noPodWrite_of_no_owner (rs : ERS) (st : ErsStore) (released : String → Bool) (aff : Bool)
    (now : Time) (h : ersOwner rs st = none) : (reconcileErs rs st released aff now).noPodWrite := by
  rw [reconcileErs_no_owner rs st released aff now h]; exact ⟨rfl, rfl, rfl, rfl, rfl⟩

theorem ersFinish_earlyErr (rs : ERS) (role : String) (freq : Dur) (sp : StratParams) (r : StratResult)
    (adds removes : List String) (se : Bool) (st0 : ERSStatus) (aff : Bool) (now : Time) :
    (ersFinish rs role freq sp r adds removes se st0 aff now).earlyErr = false := rfl

theorem reconcileErs_full (rs : ERS) (st : ErsStore) (released : String → Bool) (aff : Bool) (now : Time)
    (d : EDS) (h : ersOwner rs st = some d) (hd : isDefaulted d.strategy d.templateName = true)
    (hg : ersGated d rs now = false) (he : (reconcileErs rs st released aff now).earlyErr = false) :
    ∃ items r adds removes se st0,
      FullRun d rs st released aff now (reconcileErs rs st released aff now) items r adds removes se st0 := by
  rw [reconcileErs_eq rs st released aff now d h] at he ⊢
  rcases ersBody_cases d rs st released aff now with h | ⟨h, _⟩ | ⟨_, h, _⟩ | h
  · rw [h] at he; cases he
  · rw [hd] at h; cases h
  · rw [hg] at h; cases h
  · exact h

theorem reconcileErs_full_of_write (rs : ERS) (st : ErsStore) (released : String → Bool) (aff : Bool) (now : Time)
    (d : EDS) (h : ersOwner rs st = some d) (hw : (reconcileErs rs st released aff now).issuesPodWrite) :
    ∃ items r adds removes se st0,
      FullRun d rs st released aff now (reconcileErs rs st released aff now) items r adds removes se st0 := by
  rcases reconcileErs_cases rs st released aff now d h with h | h
  · exact absurd hw (ErsWrites.noPodWrite_not_issues h)
  · exact h

section Finish
variable (rs : ERS) (role : String) (freq : Dur) (sp : StratParams) (r : StratResult)
  (adds removes : List String) (se : Bool) (st0 : ERSStatus) (aff : Bool) (now : Time)

theorem ersFinish_cleanupDeletes :
    (ersFinish rs role freq sp r adds removes se st0 aff now).cleanupDeletes = r.cleanupDeletes := rfl
theorem ersFinish_labelAdds :
    (ersFinish rs role freq sp r adds removes se st0 aff now).labelAdds = adds := rfl
theorem ersFinish_labelRemoves :
    (ersFinish rs role freq sp r adds removes se st0 aff now).labelRemoves = removes := rfl

theorem ersFinish_deletes_eq :
    ∃ b : Bool, (ersFinish rs role freq sp r adds removes se st0 aff now).deletes =
      if b then [] else r.deleteE.map (·.2.name) := ⟨_, rfl⟩

theorem ersFinish_creates_eq :
    ∃ b : Bool, (ersFinish rs role freq sp r adds removes se st0 aff now).creates =
      if b then [] else
        r.createE.map (fun ni => (ni.node.name, (createPod rs (some ni.node) ni.setting aff).pod)) := ⟨_, rfl⟩

theorem ersFinish_deletes_sub :
    ∀ n ∈ (ersFinish rs role freq sp r adds removes se st0 aff now).deletes, n ∈ r.deleteE.map (·.2.name) := by
  intro n hn
  obtain ⟨b, hb⟩ := ersFinish_deletes_eq rs role freq sp r adds removes se st0 aff now
  rw [hb] at hn
  cases b
  · exact hn
  · cases hn

theorem ersFinish_creates_sub :
    ∀ x ∈ (ersFinish rs role freq sp r adds removes se st0 aff now).creates,
      ∃ ni ∈ r.createE, x = (ni.node.name, (createPod rs (some ni.node) ni.setting aff).pod) := by
  intro x hx
  obtain ⟨b, hb⟩ := ersFinish_creates_eq rs role freq sp r adds removes se st0 aff now
  rw [hb] at hx
  cases b
  · obtain ⟨ni, hni, rfl⟩ := List.mem_map.mp hx
    exact ⟨ni, hni, rfl⟩
  · cases hx

/-- the status is written only when it differs from the stored one, and always ends with the LastFullSync stamp. -/
theorem ersFinish_statusUpdate :
    ∃ (s1 : ERSStatus) (cs : List Cond),
      (ersFinish rs role freq sp r adds removes se st0 aff now).statusUpdate =
        (if ({ s1 with conds := updateCond cs now "LastFullSync" "True" "" "full sync" true true } : ERSStatus)
              != rs.status
         then some { s1 with conds := updateCond cs now "LastFullSync" "True" "" "full sync" true true }
         else none) :=
  ⟨_, _, rfl⟩

end Finish

/-- the strategy result of the active role when `ManageDeployment` returns its early error: nothing
planned, the current status with the three rolling conditions updated. -/
def ersErrResult (sp : StratParams) (now : Time) : StratResult :=
  { newStatus := some { sp.newStatus with conds := rollingConds sp now } }

theorem ersErrResult_empty (sp : StratParams) (now : Time) :
    (ersErrResult sp now).createE = [] ∧ (ersErrResult sp now).deleteE = [] ∧
    (ersErrResult sp now).cleanupDeletes = [] ∧ (ersErrResult sp now).unscheduledNodes = [] :=
  ⟨rfl, rfl, rfl, rfl⟩

theorem ersErrResult_conds {sp : StratParams} {now : Time} {st0 : ERSStatus}
    (h : (ersErrResult sp now).newStatus = some st0) : st0.conds = rollingConds sp now := by
  cases h; rfl

/-- the active role: either `ManageDeployment` succeeded with `r`, or it returned its early error
and the result is `ersErrResult` (no label patch, strategy error reported). -/
theorem ersStrategy_active {rs : ERS} {labelled : List String} {sp : StratParams} {now : Time}
    {r : StratResult} {adds removes : List String} {se : Bool}
    (h : ersStrategy rs labelled "active" sp now = some (r, adds, removes, se)) :
    (manageDeployment sp now now false = .ok r ∧ adds = [] ∧
      removes = (if now - rollingUpdateStartTime rs.status now < 5 * minute then labelled else []) ∧
      se = false) ∨
    ((∃ msg, manageDeployment sp now now false = .err msg) ∧
      r = ersErrResult sp now ∧ adds = [] ∧ removes = [] ∧ se = true) := by
  unfold ersStrategy at h
  simp only [beq_self_eq_true, if_true] at h
  split at h
  · rename_i r0 hr0
    simp only [Option.some.injEq, Prod.mk.injEq] at h
    obtain ⟨h1, h2, h3, h4⟩ := h
    subst h1
    exact Or.inl ⟨hr0, h2.symm, h3.symm, h4.symm⟩
  · rename_i msg hmsg
    simp only [Option.some.injEq, Prod.mk.injEq] at h
    obtain ⟨h1, h2, h3, h4⟩ := h
    exact Or.inr ⟨⟨msg, hmsg⟩, h1.symm, h2.symm, h3.symm, h4.symm⟩
  · cases h

theorem ersFinish_errResult_noPodWrite (rs : ERS) (role : String) (freq : Dur) (sp sp' : StratParams)
    (se : Bool) (st0 : ERSStatus) (aff : Bool) (now : Time) :
    (ersFinish rs role freq sp (ersErrResult sp' now) [] [] se st0 aff now).noPodWrite := by
  refine ⟨rfl, rfl, rfl, ?_, ?_⟩
  · obtain ⟨b, hb⟩ := ersFinish_deletes_eq rs role freq sp (ersErrResult sp' now) [] [] se st0 aff now
    rw [hb]; cases b <;> rfl
  · obtain ⟨b, hb⟩ := ersFinish_creates_eq rs role freq sp (ersErrResult sp' now) [] [] se st0 aff now
    rw [hb]; cases b <;> rfl

theorem ersStrategy_canary {rs : ERS} {labelled : List String} {sp : StratParams} {now : Time}
    {r : StratResult} {adds removes : List String} {se : Bool}
    (h : ersStrategy rs labelled "canary" sp now = some (r, adds, removes, se)) :
    ∃ r0, manageCanaryStatus sp now = some r0 ∧
      r = { r0 with cleanupDeletes := cleanupTargets sp.toCleanUp,
                    unscheduledNodes := unscheduledNodes sp.unscheduled } ∧
      adds = canaryLabelAdds sp ∧ removes = [] ∧ se = false := by
  unfold ersStrategy at h
  have h1 : (("canary" : String) == "active") = false := by simp
  simp only [h1, Bool.false_eq_true, if_false, beq_self_eq_true, if_true] at h
  split at h
  · rename_i r0 hr0
    simp only [Option.some.injEq, Prod.mk.injEq] at h
    obtain ⟨h1, h2, h3, h4⟩ := h
    exact ⟨r0, hr0, h1.symm, h2.symm, h3.symm, h4.symm⟩
  · cases h

theorem ersStrategy_canary_of {rs : ERS} {labelled : List String} {sp : StratParams} {now : Time}
    {r0 : StratResult} (h : manageCanaryStatus sp now = some r0) :
    ersStrategy rs labelled "canary" sp now =
      some ({ r0 with cleanupDeletes := cleanupTargets sp.toCleanUp,
                      unscheduledNodes := unscheduledNodes sp.unscheduled }, canaryLabelAdds sp, [], false) := by
  unfold ersStrategy
  have h1 : (("canary" : String) == "active") = false := by simp
  simp only [h1, Bool.false_eq_true, if_false, beq_self_eq_true, if_true, h]

theorem ersStrategy_unknown {rs : ERS} {labelled : List String} {role : String} {sp : StratParams} {now : Time}
    {r : StratResult} {adds removes : List String} {se : Bool}
    (ha : role ≠ "active") (hc : role ≠ "canary")
    (h : ersStrategy rs labelled role sp now = some (r, adds, removes, se)) :
    r = manageUnknown sp now ∧ adds = [] ∧ removes = [] ∧ se = false := by
  unfold ersStrategy at h
  have h1 : (role == "active") = false := by simpa using ha
  have h2 : (role == "canary") = false := by simpa using hc
  simp only [h1, h2, Bool.false_eq_true, if_false, Option.some.injEq, Prod.mk.injEq] at h
  obtain ⟨a, b, c, e⟩ := h
  exact ⟨a.symm, b.symm, c.symm, e.symm⟩

namespace FullRun
variable {d : EDS} {rs : ERS} {st : ErsStore} {released : String → Bool} {aff : Bool} {now : Time} {w : ErsWrites}
  {items : List NodeItem} {r : StratResult} {adds removes : List String} {se : Bool} {st0 : ERSStatus}
  (F : FullRun d rs st released aff now w items r adds removes se st0)
include F

theorem cleanupDeletes_eq : w.cleanupDeletes = r.cleanupDeletes := by rw [F.eq, ersFinish_cleanupDeletes]
theorem labelAdds_eq : w.labelAdds = adds := by rw [F.eq, ersFinish_labelAdds]
theorem labelRemoves_eq : w.labelRemoves = removes := by rw [F.eq, ersFinish_labelRemoves]

theorem mem_deletes {name : String} (h : name ∈ w.deletes) : ∃ x ∈ r.deleteE, x.2.name = name := by
  rw [F.eq] at h
  obtain ⟨x, hx, hn⟩ := List.mem_map.mp (ersFinish_deletes_sub _ _ _ _ _ _ _ _ _ _ _ name h)
  exact ⟨x, hx, hn⟩

theorem mem_creates {x : String × Pod} (h : x ∈ w.creates) :
    ∃ ni ∈ r.createE, x = (ni.node.name, (createPod rs (some ni.node) ni.setting aff).pod) := by
  rw [F.eq] at h
  exact ersFinish_creates_sub _ _ _ _ _ _ _ _ _ _ _ x h

/-- active role: `ManageDeployment` succeeded with `r`; or it returned its early error, and then the
sync writes no pod. -/
theorem active (hr : ersRole d rs.name = "active") :
    (manageDeployment (ersParams released d rs items (ersPods d st) now) now now false = .ok r ∧ adds = [] ∧
      removes = (if now - rollingUpdateStartTime rs.status now < 5 * minute
                 then (canaryLabelled d.name rs st).map (·.name) else []) ∧ se = false) ∨
    ((∃ msg, manageDeployment (ersParams released d rs items (ersPods d st) now) now now false = .err msg) ∧
      r = ersErrResult (ersParams released d rs items (ersPods d st) now) now ∧ w.noPodWrite) := by
  rcases ersStrategy_active (hr ▸ F.strat) with h | ⟨hm, hre, hadds, hrem, -⟩
  · exact Or.inl h
  · subst hre hadds hrem
    exact Or.inr ⟨hm, rfl, F.eq ▸ ersFinish_errResult_noPodWrite _ _ _ _ _ _ _ _ _⟩

theorem canary (hr : ersRole d rs.name = "canary") :
    ∃ r0, manageCanaryStatus (ersParams released d rs items (ersPods d st) now) now = some r0 ∧
      r = { r0 with cleanupDeletes := cleanupTargets (ersParams released d rs items (ersPods d st) now).toCleanUp,
                    unscheduledNodes := unscheduledNodes (ersParams released d rs items (ersPods d st) now).unscheduled } ∧
      adds = canaryLabelAdds (ersParams released d rs items (ersPods d st) now) ∧ removes = [] ∧ se = false :=
  ersStrategy_canary (hr ▸ F.strat)

theorem unknown (hr : ersRole d rs.name = "unknown") :
    r = manageUnknown (ersParams released d rs items (ersPods d st) now) now ∧ adds = [] ∧ removes = [] ∧
      se = false :=
  ersStrategy_unknown (by simp) (by simp) (hr ▸ F.strat)

end FullRun

/-- **Inversion of a sync in the active role**: no pod write at all (no full run, or the early error of
`ManageDeployment`), or a full run whose strategy result `r` is the one `ManageDeployment` returned. -/
theorem reconcileErs_active_cases (rs : ERS) (st : ErsStore) (released : String → Bool) (aff : Bool) (now : Time)
    (d : EDS) (h : ersOwner rs st = some d) (hr : ersRole d rs.name = "active") :
    (reconcileErs rs st released aff now).noPodWrite ∨
    ∃ items r adds removes se st0,
      FullRun d rs st released aff now (reconcileErs rs st released aff now) items r adds removes se st0 ∧
      manageDeployment (ersParams released d rs items (ersPods d st) now) now now false = .ok r := by
  rcases reconcileErs_cases rs st released aff now d h with hno | ⟨items, r, adds, removes, se, st0, F⟩
  · exact Or.inl hno
  · rcases F.active hr with ⟨hm, -⟩ | ⟨-, -, hno⟩
    · exact Or.inr ⟨items, r, adds, removes, se, st0, F, hm⟩
    · exact Or.inl hno

/-- one step of the canary scan adds to its deletion candidates nothing, or the kept pod of the
looked-up entry, not comparing equal and not terminating. -/
theorem canaryScanStep_toDelete (tg : String) (byNode : List (NodeItem × Option Pod)) (c : CanaryScan)
    (n : String) :
    (canaryScanStep tg byNode c n).toDelete = c.toDelete ∨
    ∃ ni pod, lookupNode byNode n = some (ni, some pod) ∧ comparePod tg pod ni = false ∧ pod.deletion = none ∧
      (canaryScanStep tg byNode c n).toDelete = c.toDelete ++ [(ni, pod)] := by
  unfold canaryScanStep
  cases hl : lookupNode byNode n with
  | none => exact Or.inl rfl
  | some e =>
    obtain ⟨ni, o⟩ := e
    cases o with
    | none => exact Or.inl rfl
    | some pod =>
      simp only []
      cases hd : pod.deletion.isSome with
      | true => exact Or.inl rfl
      | false =>
        cases hc : comparePod tg pod ni with
        | true => exact Or.inl rfl
        | false => exact Or.inr ⟨ni, pod, rfl, hc, by simpa using hd, rfl⟩

/-- the deletion candidates of the canary scan: kept pods of entries of the scanned nodes, not
comparing equal to what the replica set would create, not terminating. -/
theorem canaryScan_toDelete_mem (tg : String) (byNode : List (NodeItem × Option Pod)) (names : List String) :
    ∀ x ∈ (names.foldl (canaryScanStep tg byNode) {}).toDelete,
      (x.1, some x.2) ∈ byNode ∧ x.1.node.name ∈ names ∧ comparePod tg x.2 x.1 = false ∧ x.2.deletion = none :=
  foldl_prefix_inv
    (I := fun done (c : CanaryScan) => ∀ x ∈ c.toDelete,
      (x.1, some x.2) ∈ byNode ∧ x.1.node.name ∈ done ∧ comparePod tg x.2 x.1 = false ∧ x.2.deletion = none)
    (fun x hx => by cases hx)
    (fun done c n ih => by
      have keep : ∀ x ∈ c.toDelete, (x.1, some x.2) ∈ byNode ∧ x.1.node.name ∈ done ++ [n] ∧
          comparePod tg x.2 x.1 = false ∧ x.2.deletion = none :=
        fun x hx => ⟨(ih x hx).1, List.mem_append_left _ (ih x hx).2.1, (ih x hx).2.2⟩
      rcases canaryScanStep_toDelete tg byNode c n with he | ⟨ni, pod, hl, hc, hd, he⟩
      · rw [he]; exact keep
      · rw [he]
        intro x hx
        rcases List.mem_append.mp hx with hx | hx
        · exact keep x hx
        · obtain rfl := List.mem_singleton.mp hx
          obtain ⟨hm, hn⟩ := lookupNode_some hl
          exact ⟨hm, hn ▸ List.mem_append_right done List.mem_cons_self, hc, hd⟩) names

/-- what the canary role deletes for updating: kept pods of entries of canary nodes, not comparing
equal, not terminating. -/
theorem manageCanaryStatus_delete_outdated (p : StratParams) (now : Time) (r : StratResult)
    (h : manageCanaryStatus p now = some r) :
    ∀ x ∈ r.deleteE, (x.1, some x.2) ∈ p.byNode ∧ x.1.node.name ∈ p.canaryNodes ∧
      comparePod p.ers.templateGeneration x.2 x.1 = false ∧ x.2.deletion = none := by
  have inv := canaryScan_toDelete_mem p.ers.templateGeneration p.byNode p.canaryNodes
  unfold manageCanaryStatus at h
  simp only [] at h
  split at h
  · exact absurd h (by simp)
  · injection h with h
    subst h
    exact inv

theorem manageCanaryStatus_delete_mem (p : StratParams) (now : Time) (r : StratResult)
    (h : manageCanaryStatus p now = some r) :
    ∀ x ∈ r.deleteE, (x.1, some x.2) ∈ p.byNode ∧ x.1.node.name ∈ p.canaryNodes :=
  fun x hx => have hx := manageCanaryStatus_delete_outdated p now r h x hx; ⟨hx.1, hx.2.1⟩

/-- the pods the replica-set controller lists: in the EDS's namespace, carrying the EDS's name label
or owned by the DaemonSet named by the old-daemonset annotation. -/
theorem mem_ersPods {d : EDS} {st : ErsStore} {p : Pod} (h : p ∈ ersPods d st) :
    p ∈ st.pods ∧ p.ns = d.ns ∧
    (SMap.get? p.labels K.edsNameLabel = some d.name ∨
     ∃ dsName, SMap.get? d.annotations K.oldDaemonsetAnnot = some dsName ∧
       p.owners.any (fun o => o.kind == "DaemonSet" && o.name == dsName) = true) := by
  unfold ersPods at h
  simp only [] at h
  rcases List.mem_append.mp h with h | h
  · simp only [List.mem_filter, Bool.and_eq_true, beq_iff_eq] at h
    exact ⟨h.1, h.2.1, Or.inl h.2.2⟩
  · split at h
    · cases h
    · rename_i dsName hds
      split at h
      · cases h
      · rename_i ds _
        rw [List.mem_filter] at h
        obtain ⟨hl, ho⟩ := h
        have : p ∈ st.pods ∧ p.ns = d.ns := by
          split at hl
          · simp only [List.mem_filter, beq_iff_eq] at hl; exact hl
          · simp only [List.mem_filter, Bool.and_eq_true, beq_iff_eq] at hl; exact ⟨hl.1, hl.2.1⟩
        exact ⟨this.1, this.2, Or.inr ⟨dsName, hds, ho⟩⟩

theorem mem_canaryLabelled {edsName : String} {rs : ERS} {st : ErsStore} {p : Pod} :
    p ∈ canaryLabelled edsName rs st ↔
      p ∈ st.pods ∧ p.ns = rs.ns ∧ SMap.get? p.labels K.canaryLabel = some "true" ∧
      SMap.get? p.labels K.ersNameLabel = some rs.name ∧
      SMap.get? p.labels K.edsNameLabel = some edsName := by
  unfold canaryLabelled
  simp only [List.mem_filter, Bool.and_eq_true, beq_iff_eq, and_assoc]

/-- the owner found lives in the replica set's namespace and is a stored EDS. -/
theorem ersOwner_some {rs : ERS} {st : ErsStore} {d : EDS} (h : ersOwner rs st = some d) :
    d ∈ st.edss ∧ d.ns = rs.ns ∧ rs.ownerEds = some d.name := by
  unfold ersOwner at h
  split at h
  · cases h
  · rename_i o ho
    have h1 := List.find?_some h
    simp only [Bool.and_eq_true, beq_iff_eq] at h1
    exact ⟨List.mem_of_find?_eq_some h, h1.1, by rw [ho, h1.2]⟩

theorem mapM_option_mem {α β} (f : α → Option β) :
    ∀ (l : List α) (l' : List β), l.mapM f = some l' → ∀ b ∈ l', ∃ a ∈ l, f a = some b := by
  intro l
  induction l with
  | nil =>
    intro l' h b hb
    simp only [List.mapM_nil] at h
    cases h; cases hb
  | cons a rest ih =>
    intro l' h b hb
    rw [List.mapM_cons] at h
    cases hfa : f a with
    | none => rw [hfa] at h; cases h
    | some b0 =>
      rw [hfa] at h
      cases hrest : rest.mapM f with
      | none => rw [hrest] at h; cases h
      | some bs =>
        rw [hrest] at h
        cases h
        rcases List.mem_cons.mp hb with hb | hb
        · subst hb; exact ⟨a, List.mem_cons_self, hfa⟩
        · obtain ⟨a', ha', hfa'⟩ := ih bs hrest b hb
          exact ⟨a', List.mem_cons_of_mem _ ha', hfa'⟩

theorem mapM_option_proj {α β} (f : α → Option β) (g : β → α) (hg : ∀ a b, f a = some b → g b = a) :
    ∀ (l : List α) (l' : List β), l.mapM f = some l' → l'.map g = l := by
  intro l
  induction l with
  | nil =>
    intro l' h
    simp only [List.mapM_nil] at h
    cases h; rfl
  | cons a rest ih =>
    intro l' h
    rw [List.mapM_cons] at h
    cases hfa : f a with
    | none => rw [hfa] at h; cases h
    | some b0 =>
      rw [hfa] at h
      cases hrest : rest.mapM f with
      | none => rw [hrest] at h; cases h
      | some bs =>
        rw [hrest] at h
        cases h
        rw [List.map_cons, hg a b0 hfa, ih bs hrest]

/-- the nodes `getNodeList` lists: a function of the replica set's selector and the stored nodes. -/
def listedNodes (rs : ERS) (nodes : List Node) : List Node :=
  match rs.selector with
  | none => nodes
  | some sel => nodes.filter (fun n => (labelSelectorMatches sel n.labels).getD false)

theorem listedNodes_sublist (rs : ERS) (nodes : List Node) : (listedNodes rs nodes).Sublist nodes := by
  unfold listedNodes
  split
  · exact List.Sublist.refl _
  · exact List.filter_sublist

/-- a successful node listing: the nodes are `listedNodes`, in order, and each item carries the setting
`chooseSetting` picks for its node among the settings of the ExtendedDaemonSet's namespace. -/
theorem ersNodeItems_some {d : EDS} {rs : ERS} {st : ErsStore} {items : List NodeItem}
    (h : ersNodeItems d rs st = some items) :
    items.map (·.node) = listedNodes rs st.nodes ∧
    ∀ ni ∈ items, chooseSetting d.name (st.settings.filter (fun s => s.ns == d.ns)) ni.node = some ni.setting := by
  unfold ersNodeItems at h
  simp only [] at h
  split at h
  · cases h
  · rename_i ns hns
    have hl : ns = listedNodes rs st.nodes := by
      unfold listedNodes
      split at hns
      · rename_i hsel
        cases hns; rw [hsel]
      · rename_i sel hsel
        split at hns
        · cases hns
        · cases hns; rw [hsel]
    have hf : ∀ (n : Node) (b : NodeItem),
        (chooseSetting d.name (st.settings.filter (fun s => s.ns == d.ns)) n).map
          (fun s => ({ node := n, setting := s } : NodeItem)) = some b →
        b.node = n ∧ chooseSetting d.name (st.settings.filter (fun s => s.ns == d.ns)) n = some b.setting := by
      intro n b hb
      cases hc : chooseSetting d.name (st.settings.filter (fun s => s.ns == d.ns)) n with
      | none => rw [hc] at hb; cases hb
      | some s => rw [hc] at hb; cases hb; exact ⟨rfl, rfl⟩
    refine ⟨hl ▸ mapM_option_proj _ (·.node) (fun n b hb => (hf n b hb).1) ns items h, fun ni hni => ?_⟩
    obtain ⟨n, -, hb⟩ := mapM_option_mem _ ns items h ni hni
    obtain ⟨hn, hs⟩ := hf n ni hb
    rw [hn]; exact hs

theorem ersNodeItems_mem (d : EDS) (rs : ERS) (st : ErsStore) (items : List NodeItem)
    (h : ersNodeItems d rs st = some items) : ∀ ni ∈ items, ni.node ∈ st.nodes := fun ni hni =>
  (listedNodes_sublist rs st.nodes).subset ((ersNodeItems_some h).1 ▸ List.mem_map.mpr ⟨ni, hni, rfl⟩)

theorem ersNodeItems_names_sublist (d : EDS) (rs : ERS) (st : ErsStore) (items : List NodeItem)
    (h : ersNodeItems d rs st = some items) :
    (items.map (·.node.name)).Sublist (st.nodes.map (·.name)) := by
  have : items.map (·.node.name) = (items.map (·.node)).map (·.name) := by rw [List.map_map]; rfl
  rw [this, (ersNodeItems_some h).1]
  exact (listedNodes_sublist rs st.nodes).map _

theorem ersRole_cases (d : EDS) (n : String) :
    ersRole d n = "active" ∨ ersRole d n = "canary" ∨ ersRole d n = "unknown" := by
  unfold ersRole
  cases (d.status.activeReplicaSet == "")
  · cases (d.status.activeReplicaSet == n)
    · cases d.status.canary with
      | none => exact Or.inr (Or.inr rfl)
      | some cs =>
        cases h : (cs.replicaSet == n)
        · exact Or.inr (Or.inr (by simp only [h]; rfl))
        · exact Or.inr (Or.inl (by simp only [h]; rfl))
    · exact Or.inl rfl
  · exact Or.inr (Or.inr rfl)

theorem ersRole_active_iff (d : EDS) (n : String) :
    ersRole d n = "active" ↔ d.status.activeReplicaSet ≠ "" ∧ d.status.activeReplicaSet = n := by
  unfold ersRole
  constructor
  · intro h
    split at h
    · exact absurd h (by simp)
    · rename_i h1
      split at h
      · rename_i h2
        exact ⟨by simpa using h1, by simpa using h2⟩
      · split at h
        · split at h <;> exact absurd h (by simp)
        · exact absurd h (by simp)
  · rintro ⟨h1, h2⟩
    have h1' : ¬ (d.status.activeReplicaSet == "") = true := by simpa using h1
    have h2' : (d.status.activeReplicaSet == n) = true := by simpa using h2
    rw [if_neg h1', if_pos h2']

theorem ersRole_canary_iff (d : EDS) (n : String) :
    ersRole d n = "canary" ↔
      d.status.activeReplicaSet ≠ "" ∧ d.status.activeReplicaSet ≠ n ∧
      ∃ cs, d.status.canary = some cs ∧ cs.replicaSet = n := by
  unfold ersRole
  constructor
  · intro h
    split at h
    · exact absurd h (by simp)
    · rename_i h1
      split at h
      · exact absurd h (by simp)
      · rename_i h2
        split at h
        · rename_i cs hcs
          split at h
          · rename_i h3
            exact ⟨by simpa using h1, by simpa using h2, cs, hcs, by simpa using h3⟩
          · exact absurd h (by simp)
        · exact absurd h (by simp)
  · rintro ⟨h1, h2, cs, hcs, h3⟩
    have h1' : ¬ (d.status.activeReplicaSet == "") = true := by simpa using h1
    have h2' : ¬ (d.status.activeReplicaSet == n) = true := by simpa using h2
    rw [if_neg h1', if_neg h2', hcs]
    simp only []
    rw [if_pos (by simpa using h3)]

end Eds
