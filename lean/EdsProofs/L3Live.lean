import EdsProps.L3
import EdsProps.C02c
/-
  EdsProofs.L3Live — helper lemmas for EdsProps/L3Live.lean (liveness through the canary phases at L3).

    1  `edsMain` when the node selection reports no error: the status / annotations / template hash the
       daemonset object carries AFTER the writes (`edsMain_after_status`, `_after_annotations`, `_after_hash`)
    2  the promotion branch of `selectCurrent` / `currentOf` / `updateInstance`
    3  projections of `applyEdsObj` / `applyEds` not in EdsProofs/Cluster.lean (`template`, `templateName`, hash,
       annotations), `restoreTemplate`; `applyEds_template`: the template after the writes is the one recorded for
       the hash after the writes
    4  the annotation clean-up keeps every non-canary key (`clearCanary_get?`)
    5  the hypotheses of C02c only read the daemonset's identity, strategy, annotations and status:
       transfer of `CoopStore`, `StratOk`, `GateFree` from a world to the world after a daemonset reconcile
    6  the replica sets the daemonset reconcile keeps (`edsMain_keeps`)
-/
namespace Eds
open Cluster

/-! ## 1. `edsMain` without selection error: the object after the writes -/

section Main
variable (d : EDS) (list : List ERS) (u : ERS) (pods : List Pod) (nodes : List Node) (now : Time)

theorem edsMain_after_status
    (hse : (edsUpd d list (currentOf d list u now).1 u pods nodes now).selectErr = false) :
    (match (edsMain d list u pods nodes now).statusUpdate with
     | some st => st
     | none => d.status) = (edsUpd d list (currentOf d list u now).1 u pods nodes now).status := by
  cases hst : (edsMain d list u pods nodes now).statusUpdate with
  | some st => exact edsMain_statusUpdate _ _ _ _ _ _ st hst
  | none =>
    rcases edsMain_statusUpdate_none d list u pods nodes now hst with h | h
    · rw [hse] at h; cases h
    · exact h.symm

theorem edsMain_after_annotations
    (hse : (edsUpd d list (currentOf d list u now).1 u pods nodes now).selectErr = false) :
    (match (edsMain d list u pods nodes now).specUpdate with
     | some x => x.2
     | none => d.annotations) = (edsUpd d list (currentOf d list u now).1 u pods nodes now).annotations := by
  unfold edsMain
  unfold edsUpd at hse ⊢
  simp only []
  generalize updateInstance _ _ _ _ _ _ _ _ _ = upd at hse ⊢
  simp only [hse, Bool.false_eq_true, if_false]
  cases ha : (upd.annotations != d.annotations) with
  | true => simp
  | false =>
    have : upd.annotations = d.annotations := by simpa using ha
    rw [this]
    generalize (_ && _ : Bool) = b
    cases b <;> rfl

/-- whether or not a spec write is planned, the template hash after it is the generation of the
replica set the template is restored from, or the one in spec when nothing is restored. -/
theorem edsMain_after_hash
    (hse : (edsUpd d list (currentOf d list u now).1 u pods nodes now).selectErr = false) :
    (match (edsMain d list u pods nodes now).specUpdate with
     | some x => x.1
     | none => d.templateHash) =
    (match (edsUpd d list (currentOf d list u now).1 u pods nodes now).restoreFrom with
     | some c => c.templateGeneration
     | none => d.templateHash) := by
  unfold edsMain
  unfold edsUpd at hse ⊢
  simp only []
  generalize updateInstance _ _ _ _ _ _ _ _ _ = upd at hse ⊢
  simp only [hse, Bool.false_eq_true, if_false]
  cases hr : upd.restoreFrom with
  | none =>
    simp only []
    generalize (_ && _ : Bool) = b
    cases b <;> rfl
  | some c =>
    simp only [Option.isSome_some, Bool.true_or, Bool.and_true]
    cases hc : (c.templateGeneration != d.templateHash) with
    | true => simp
    | false =>
      have : c.templateGeneration = d.templateHash := by simpa using hc
      rw [this]
      generalize (_ || _ : Bool) = b
      cases b <;> rfl

end Main

/-! ## 2. the promotion branch -/

/-- **The promotion rule at instant `now`** (property C05, in the code's vocabulary): the canary-valid
annotation names `u`, or the validation mode is auto, the canary has ended (`IsCanaryDeploymentEnded`:
duration elapsed and no restart during the last `noRestartsDuration`), it is not paused and it has
not failed.  (`selectCurrentReplicaSet` does not read the mode; the conjunct is kept to match C05.) -/
def PromotionDue (c : Canary) (ann : SMap) (u : ERS) (now : Time) : Prop :=
  isCanaryValid ann u.name = true ∨
  (c.validationMode = "auto" ∧ (isCanaryEnded (some c) u now).1 = true ∧
    (isCanaryPaused ann (some u)).1 = false ∧ isCanaryFailed (some u) = false)

instance (c : Canary) (ann : SMap) (u : ERS) (now : Time) : Decidable (PromotionDue c ann u now) :=
  inferInstanceAs (Decidable (_ ∨ _))

/-- the rule in the code's vocabulary implies the rule of the property text (EdsSpec/C05.lean). -/
theorem PromotionDue.allowed {c : Canary} {ann : SMap} {u : ERS} {now : Time} (h : PromotionDue c ann u now) :
    Spec.C05.promotionAllowed (some c) ann u now = true := by
  unfold Spec.C05.promotionAllowed
  rcases h with h | ⟨hm, he, hp, hf⟩
  · simp [h]
  · obtain ⟨h1, h2⟩ := C05_ended_implies c u now he
    simp [hm, h1, h2, hp, hf]

theorem selectCurrent_of_due {c : Canary} {ann : SMap} {u : ERS} {now : Time} (h : PromotionDue c ann u now)
    (a : ERS) : (selectCurrent (some c) ann (some a) u false now).1 = .upToDate := by
  rcases h with h | ⟨_, he, hp, hf⟩
  · exact C05_valid_promotes c ann a u now h
  · simp [selectCurrent, he, hp, hf]

theorem currentOf_of_due (d : EDS) (list : List ERS) (u : ERS) (now : Time) (c : Canary)
    (hc : d.strategy.canary = some c) (h : PromotionDue c d.annotations u now) :
    (currentOf d list u now).1 = u := by
  rcases currentOf_cases d list u now with h' | ⟨a, _, _, hsel⟩
  · exact h'
  · rw [hc, selectCurrent_of_due h a] at hsel
    cases hsel

/-- `edsUpd` when the selected replica set IS the up-to-date one (canary strategy set): the canary block is
cleared, `u` is named active, no node selection takes place, the pause annotations are cleared, and a template
"restore" (when `u` carries a failure mark) restores `u`'s own template. -/
theorem edsUpd_self (d : EDS) (list : List ERS) (u : ERS) (pods : List Pod) (nodes : List Node) (now : Time)
    (c : Canary) (hc : d.strategy.canary = some c) :
    (edsUpd d list u u pods nodes now).status.canary = none ∧
    (edsUpd d list u u pods nodes now).status.activeReplicaSet = u.name ∧
    (edsUpd d list u u pods nodes now).selectErr = false ∧
    (edsUpd d list u u pods nodes now).annotations = (clearCanaryAnnotations d.annotations).1 ∧
    ((edsUpd d list u u pods nodes now).restoreFrom = none ∨ (edsUpd d list u u pods nodes now).restoreFrom = some u) := by
  unfold edsUpd
  cases hf : isCanaryFailed (some u) with
  | true =>
    rw [updateInstance_failed d u u _ _ _ now _ nodes c hc hf]
    exact ⟨rfl, rfl, rfl, rfl, Or.inr rfl⟩
  | false =>
    rw [updateInstance_idle d u u _ _ _ now _ nodes c hc hf rfl]
    exact ⟨rfl, rfl, rfl, rfl, Or.inl rfl⟩

/-! ## 3. the daemonset object after the writes -/

theorem applyEdsObj_template (d : EDS) (wr : EdsWrites) (t : Template) :
    (applyEdsObj d wr t).template = (match wr.specUpdate with | some _ => t | none => d.template) := by
  unfold applyEdsObj
  cases wr.defaulted <;> cases wr.statusUpdate <;> cases wr.specUpdate <;> rfl

theorem applyEdsObj_templateName (d : EDS) (wr : EdsWrites) (t : Template) :
    (applyEdsObj d wr t).templateName = (match wr.defaulted with | some x => x.2 | none => d.templateName) := by
  unfold applyEdsObj
  cases wr.defaulted <;> cases wr.statusUpdate <;> cases wr.specUpdate <;> rfl

theorem restoreTemplate_same (d : EDS) (all : List ERS) (now : Time) :
    restoreTemplate d all now d.templateHash = d.template := by
  unfold restoreTemplate
  simp

/-- a spec update with the generation of the current replica set of the reconcile restores that
replica set's template. -/
theorem restoreTemplate_current (d : EDS) (all : List ERS) (now : Time) (u a : ERS)
    (hu : upToDateOf d (ownErs d all) = some u) (hcur : (currentOf d (ownErs d all) u now).1 = a)
    (hne : a.templateGeneration ≠ d.templateHash) :
    restoreTemplate d all now a.templateGeneration = a.template := by
  unfold restoreTemplate
  have : (a.templateGeneration == d.templateHash) = false := by simpa using hne
  simp only [this, Bool.false_eq_true, if_false, hu, hcur, beq_self_eq_true, if_true]

theorem applyEds_templateHash (w : World) (wr : EdsWrites) (nn : String) :
    (applyEds w wr nn).eds.templateHash = (match wr.specUpdate with | some x => x.1 | none => w.eds.templateHash) :=
  applyEdsObj_templateHash _ _ _

theorem applyEds_annotations (w : World) (wr : EdsWrites) (nn : String) :
    (applyEds w wr nn).eds.annotations = (match wr.specUpdate with | some x => x.2 | none => w.eds.annotations) :=
  applyEdsObj_annotations _ _ _

/-- whether or not the spec is written, the template after the writes is the one `restoreTemplate` records for
the hash after the writes. -/
theorem applyEds_template (w : World) (wr : EdsWrites) (nn : String) :
    (applyEds w wr nn).eds.template = restoreTemplate w.eds w.erss w.now (applyEds w wr nn).eds.templateHash := by
  rw [applyEds_templateHash]
  show (applyEdsObj _ _ _).template = _
  rw [applyEdsObj_template]
  cases wr.specUpdate with
  | none => exact (restoreTemplate_same _ _ _).symm
  | some x => rfl

/-! ## 4. the annotation clean-up keeps every other key -/

theorem clearCanary_get? (ann : SMap) (k : String)
    (hk : k ∉ [K.canaryPausedAnnot, K.canaryPausedReasonAnnot, K.canaryUnpausedAnnot]) :
    SMap.get? (clearCanaryAnnotations ann).1 k = SMap.get? ann k := by
  unfold clearCanaryAnnotations
  exact SMap.get?_filter_key ann
    (fun s => !([K.canaryPausedAnnot, K.canaryPausedReasonAnnot, K.canaryUnpausedAnnot].contains s)) k
    (by simpa using hk)

section
-- keys are compared by `simp` (on the literals); `decide` would have the kernel run each string comparison
attribute [local simp] K.canaryPausedAnnot K.canaryPausedReasonAnnot K.canaryUnpausedAnnot
  K.rollingUpdatePausedAnnot K.rolloutFrozenAnnot K.oldDaemonsetAnnot K.canaryValidAnnot

theorem clearCanary_paused (ann : SMap) :
    isRollingUpdatePaused (clearCanaryAnnotations ann).1 = isRollingUpdatePaused ann := by
  unfold isRollingUpdatePaused SMap.getD
  rw [clearCanary_get? ann _ (by simp)]

theorem clearCanary_frozen (ann : SMap) :
    isRolloutFrozen (clearCanaryAnnotations ann).1 = isRolloutFrozen ann := by
  unfold isRolloutFrozen SMap.getD
  rw [clearCanary_get? ann _ (by simp)]

theorem clearCanary_oldDs (ann : SMap) :
    SMap.get? (clearCanaryAnnotations ann).1 K.oldDaemonsetAnnot = SMap.get? ann K.oldDaemonsetAnnot :=
  clearCanary_get? ann _ (by simp)

theorem clearCanary_valid (ann : SMap) (n : String) :
    isCanaryValid (clearCanaryAnnotations ann).1 n = isCanaryValid ann n := by
  unfold isCanaryValid
  rw [clearCanary_get? ann _ (by simp)]

end

/-! ## 5. the hypotheses of C02c across a change of the daemonset object -/

theorem edsPodsOf_congr {d d' : EDS} {st st' : ErsStore} (hn : d'.name = d.name) (hns : d'.ns = d.ns)
    (hp : st'.pods = st.pods) : edsPodsOf d' st' = edsPodsOf d st := by
  unfold edsPodsOf isEdsPod
  rw [hp, hn, hns]

theorem ersOwner_congr {d d' : EDS} {rs : ERS} {st st' : ErsStore} (hn : d'.name = d.name) (hns : d'.ns = d.ns)
    (he : st.edss = [d]) (he' : st'.edss = [d']) (h : ersOwner rs st = some d) : ersOwner rs st' = some d' := by
  unfold ersOwner at h ⊢
  cases ho : rs.ownerEds with
  | none => rw [ho] at h; cases h
  | some o =>
    rw [ho] at h
    simp only [he, he', List.find?_cons, List.find?_nil] at h ⊢
    rw [hn, hns]
    split at h
    · rfl
    · cases h

theorem ersNodeItems_congr {d d' : EDS} {rs : ERS} {st st' : ErsStore} (hn : d'.name = d.name) (hns : d'.ns = d.ns)
    (hnodes : st'.nodes = st.nodes) (hset : st'.settings = st.settings) :
    ersNodeItems d' rs st' = ersNodeItems d rs st := by
  unfold ersNodeItems
  rw [hnodes, hset, hn, hns]

/-- `CoopStore` reads the daemonset's name and namespace, the nodes, pods and settings only. -/
theorem CoopStore.transfer {d d' : EDS} {rs : ERS} {gen : String → String} {items : List NodeItem}
    {st st' : ErsStore} (S : CoopStore d rs gen items st) (hn : d'.name = d.name) (hns : d'.ns = d.ns)
    (he : st.edss = [d]) (he' : st'.edss = [d']) (hnodes : st'.nodes = st.nodes) (hpods : st'.pods = st.pods)
    (hset : st'.settings = st.settings) : CoopStore d' rs gen items st' := by
  have hE := edsPodsOf_congr (d := d) (d' := d') (st := st) (st' := st') hn hns hpods
  exact
    { owner := ersOwner_congr hn hns he he' S.owner
      hitems := by rw [ersNodeItems_congr hn hns hnodes hset]; exact S.hitems
      noSetting := S.noSetting
      nodesNodup := by rw [hnodes]; exact S.nodesNodup
      nodeNamed := S.nodeNamed
      hashOk := S.hashOk
      settled := by rw [hE]; exact S.settled
      onePer := by rw [hE]; exact S.onePer
      nameNode := by rw [hE]; exact S.nameNode
      genFresh := by rw [hE]; exact S.genFresh }

theorem StratOk.transfer {d d' : EDS} {N : Nat} (h : StratOk d N) (hs : d'.strategy = d.strategy) : StratOk d' N :=
  { mu := by unfold muOf; rw [hs]; exact h.mu
    inc := by rw [hs]; exact h.inc
    mp := by rw [hs]; exact h.mp
    ms := by rw [hs]; exact h.ms }

theorem ersFreq_congr {d d' : EDS} (hs : d'.strategy = d.strategy) : ersFreq d' = ersFreq d := by
  unfold ersFreq; rw [hs]

theorem GateFree.transfer {d d' : EDS} {rs : ERS} {now : Time} (h : GateFree d rs now)
    (hs : d'.strategy = d.strategy) : GateFree d' rs now := by
  unfold GateFree
  rw [ersFreq_congr hs]
  exact h

/-! ## 6. the replica sets a daemonset reconcile keeps -/

/-- the name of the current and of the up-to-date replica set of the reconcile are not among the planned
deletions (nor in any subset of them). -/
theorem edsMain_keeps (d : EDS) (list : List ERS) (u : ERS) (pods : List Pod) (nodes : List Node) (now : Time)
    {dels : List String} (hdel : ∀ x ∈ dels, x ∈ (edsMain d list u pods nodes now).deletedErs) {n : String}
    (hname : n = (currentOf d list u now).1.name ∨ n = u.name) : n ∉ dels := by
  intro hx
  obtain ⟨_, _, _, h1, h2, _⟩ := mem_cleanupTargetsERS (edsMain_deleted d list u pods nodes now ▸ hdel _ hx)
  rcases hname with h | h
  · exact h1 h
  · exact h2 h

end Eds

