import EdsModel.Filter
import EdsModel.CanaryS
import EdsSpec.C01
import EdsProofs.Lists
/-
  Helper lemmas for C01 (EdsProps/C01.lean):

  * `podLess_iff`, `podLess_irrefl`, `podLess_trans`, `podLess_total` — `sortPodByNodeName.Less` is a
    strict order, total on pods with different names;
  * `insertPod_isInsert`, `sortPods_perm`, `sortPods_head_min` — the insertion sort is a permutation whose
    head is `podLess`-minimal;
  * `scanPod_cases` — the four outcomes of one step of the pod scan of `filterAndMap`;
  * `ScanInv`, `scanInv_step`, `scanFinal_inv` — the invariant of the scan;
  * `filterAndMap_*`, `keptOf_*`, `byNode_*`, `mem_filter_*` — what the invariant says about the output of
    `filterAndMap`;
  * `canaryScan_*` — the creation candidates of the canary role;
  * `eligible_iff`, `names_contains_iff`, `findPod_of_mem` — bridges to the name-based predicates of
    `EdsSpec.C01`.
-/
namespace Eds

/-! ### `podLess` is a strict order -/

/-- `podLess` as a lexicographic order on (unscheduled?, creation, name). -/
theorem podLess_iff (a b : Pod) :
    podLess a b = true ↔
      (a.nodeName ≠ "" ∧ b.nodeName = "") ∨
      (((a.nodeName = "") ↔ (b.nodeName = "")) ∧
        (a.creation < b.creation ∨ (a.creation = b.creation ∧ a.name < b.name))) := by
  unfold podLess
  by_cases ha : a.nodeName = "" <;> by_cases hb : b.nodeName = "" <;>
    by_cases hc : a.creation = b.creation <;> simp [ha, hb, hc] <;> omega

theorem podLess_irrefl (a : Pod) : podLess a a = false := by
  cases h : podLess a a with
  | false => rfl
  | true =>
    rw [podLess_iff] at h
    rcases h with ⟨h1, h2⟩ | ⟨_, h | ⟨_, h⟩⟩
    · exact absurd h2 h1
    · omega
    · exact absurd h (String.lt_irrefl _)

theorem podLess_trans (a b c : Pod) (h1 : podLess a b = true) (h2 : podLess b c = true) :
    podLess a c = true := by
  rw [podLess_iff] at h1 h2 ⊢
  rcases h1 with ⟨ha, hb⟩ | ⟨hab, h1⟩
  · rcases h2 with ⟨hb', _⟩ | ⟨hbc, _⟩
    · exact absurd hb hb'
    · exact Or.inl ⟨ha, hbc.mp hb⟩
  · rcases h2 with ⟨hb, hc⟩ | ⟨hbc, h2⟩
    · exact Or.inl ⟨fun h => hb (hab.mp h), hc⟩
    · refine Or.inr ⟨hab.trans hbc, ?_⟩
      rcases h1 with h1 | ⟨e1, n1⟩ <;> rcases h2 with h2 | ⟨e2, n2⟩
      · left; omega
      · left; omega
      · left; omega
      · right; exact ⟨by omega, String.lt_trans n1 n2⟩

/-- totality up to the name: two pods with different names are comparable. -/
theorem podLess_total (a b : Pod) (hn : a.name ≠ b.name) (h : podLess a b = false) :
    podLess b a = true := by
  have h' : ¬ (podLess a b = true) := by simp [h]
  rw [podLess_iff] at h' ⊢
  by_cases ha : a.nodeName = "" <;> by_cases hb : b.nodeName = "" <;> simp [ha, hb] at h' ⊢
  all_goals
    by_cases hc : a.creation = b.creation
    · right
      refine ⟨hc.symm, ?_⟩
      have : ¬ a.name < b.name := fun hlt => by
        have := h'.2 hc
        exact absurd hlt (by simpa using this)
      exact Std.lt_of_le_of_ne (String.not_lt.mp this) (Ne.symm hn)
    · left; have := h'.1; omega

/-! ### the insertion sort -/

theorem insertPod_isInsert : IsInsert insertPod (fun a b => podLess a b = true) :=
  ⟨fun _ => rfl, fun _ _ _ => rfl⟩

theorem sortPods_nil : sortPods [] = [] := rfl
theorem sortPods_cons (p : Pod) (l : List Pod) : sortPods (p :: l) = insertPod p (sortPods l) := rfl

theorem sortPods_perm (l : List Pod) : (sortPods l).Perm l := insertPod_isInsert.foldr_perm l

theorem mem_sortPods {l : List Pod} {p : Pod} : p ∈ sortPods l ↔ p ∈ l := (sortPods_perm l).mem_iff

theorem sortPods_eq_nil {l : List Pod} (h : sortPods l = []) : l = [] :=
  List.Perm.eq_nil (h ▸ (sortPods_perm l).symm)

theorem sortPods_head_min (l : List Pod) (k : Pod) (tl : List Pod) (h : sortPods l = k :: tl) :
    ∀ q ∈ l, podLess q k = false := by
  induction l generalizing k tl with
  | nil => intro q hq; cases hq
  | cons p rest ih =>
    rw [sortPods_cons] at h
    intro q hq
    cases hs : sortPods rest with
    | nil =>
      rw [hs] at h
      cases h
      cases sortPods_eq_nil hs
      rw [List.mem_singleton.mp hq]
      exact podLess_irrefl _
    | cons k' tl' =>
      rw [hs, insertPod_isInsert.cons] at h
      split at h
      · rename_i hlt
        cases h
        rcases List.mem_cons.mp hq with rfl | hq
        · exact podLess_irrefl _
        · refine Bool.eq_false_iff.mpr fun hqk => ?_
          have := podLess_trans q p k' hqk hlt
          rw [ih k' tl' hs q hq] at this
          cases this
      · rename_i hnlt
        cases h
        rcases List.mem_cons.mp hq with rfl | hq
        · exact Bool.eq_false_iff.mpr hnlt
        · exact ih _ _ hs q hq

/-! ### the scan invariant -/

/-- invariant of the pod scan relative to the processed prefix `done`; `K` = candidate node names. -/
structure ScanInv (released : String → Bool) (ignore : List String) (K : List String)
    (done : List Pod) (st : ScanState) : Prop where
  keys : st.attached.map (·.1) = K
  attSound : ∀ e ∈ st.attached, ∀ p ∈ e.2, p ∈ done ∧ p.nodeOf = some e.1 ∧ p.phase ≠ "Unknown"
  attComplete : ∀ e ∈ st.attached, ∀ p ∈ done, p.nodeOf = some e.1 → p.phase ≠ "Unknown" →
    p ∈ e.2 ∨ (p.phase = "Failed" ∧ p ∈ st.toDelete)
  attSub : ∀ e ∈ st.attached, e.2.Sublist done
  delSound : ∀ p ∈ st.toDelete, p ∈ done ∧ p.phase ≠ "Unknown" ∧ ∃ n, p.nodeOf = some n ∧
    ((n ∈ K ∧ p.phase = "Failed" ∧ released n = true) ∨
     (n ∉ K ∧ ignore.contains n = false ∧ p.deletion = none))
  strayComplete : ∀ p ∈ done, ∀ n, p.nodeOf = some n → n ∉ K → p.phase ≠ "Unknown" →
    ignore.contains n = false → p.deletion = none → p ∈ st.toDelete
  disj : done.Nodup → ∀ p ∈ st.toDelete, ∀ e ∈ st.attached, p ∉ e.2
  armedSound : ∀ n ∈ st.armed, ∃ p ∈ st.toDelete, p.nodeOf = some n ∧ p.phase = "Failed"

variable {released : String → Bool} {ignore : List String} {K : List String}

/-- the pod is skipped and nothing has to be recorded about it. -/
theorem ScanInv.skip {done : List Pod} {st : ScanState} (h : ScanInv released ignore K done st) (p : Pod)
    (hA : ∀ n ∈ K, p.nodeOf = some n → p.phase ≠ "Unknown" → False)
    (hS : ∀ n, p.nodeOf = some n → n ∉ K → p.phase ≠ "Unknown" → ignore.contains n = false →
      p.deletion = none → False) :
    ScanInv released ignore K (done ++ [p]) st where
  keys := h.keys
  attSound := fun e he q hq =>
    let ⟨a, b, c⟩ := h.attSound e he q hq
    ⟨List.mem_append_left _ a, b, c⟩
  attComplete := by
    intro e he q hq hn hu
    rcases List.mem_append.mp hq with hq | hq
    · exact h.attComplete e he q hq hn hu
    · simp only [List.mem_singleton] at hq; subst hq
      have : e.1 ∈ K := by rw [← h.keys]; exact List.mem_map.mpr ⟨e, he, rfl⟩
      exact (hA e.1 this hn hu).elim
  attSub := fun e he => (h.attSub e he).trans (List.sublist_append_left _ _)
  delSound := fun q hq =>
    let ⟨a, b⟩ := h.delSound q hq
    ⟨List.mem_append_left _ a, b⟩
  strayComplete := by
    intro q hq n hn hk hu hi hd
    rcases List.mem_append.mp hq with hq | hq
    · exact h.strayComplete q hq n hn hk hu hi hd
    · simp only [List.mem_singleton] at hq; subst hq
      exact (hS n hn hk hu hi hd).elim
  disj := fun hnd => h.disj (nodup_concat.mp hnd).2
  armedSound := h.armedSound

/-- the pod goes to the deletion list. -/
theorem ScanInv.delete {done : List Pod} {st : ScanState} (h : ScanInv released ignore K done st) (p : Pod)
    (n : String) (hn : p.nodeOf = some n) (hu : p.phase ≠ "Unknown")
    (hc : (n ∈ K ∧ p.phase = "Failed" ∧ released n = true) ∨
          (n ∉ K ∧ ignore.contains n = false ∧ p.deletion = none))
    (ar : List String)
    (har : ∀ m ∈ ar, m ∈ st.armed ∨ (m = n ∧ p.phase = "Failed")) :
    ScanInv released ignore K (done ++ [p])
      { st with toDelete := st.toDelete ++ [p], armed := ar } where
  keys := h.keys
  attSound := fun e he q hq =>
    let ⟨a, b, c⟩ := h.attSound e he q hq
    ⟨List.mem_append_left _ a, b, c⟩
  attComplete := by
    intro e he q hq hqn hqu
    rcases List.mem_append.mp hq with hq | hq
    · rcases h.attComplete e he q hq hqn hqu with h1 | ⟨h1, h2⟩
      · exact Or.inl h1
      · exact Or.inr ⟨h1, List.mem_append_left _ h2⟩
    · simp only [List.mem_singleton] at hq; subst hq
      have hk : e.1 ∈ K := by rw [← h.keys]; exact List.mem_map.mpr ⟨e, he, rfl⟩
      have : n = e.1 := Option.some.inj (hn.symm.trans hqn)
      subst this
      rcases hc with ⟨_, hf, _⟩ | ⟨hnk, _⟩
      · exact Or.inr ⟨hf, List.mem_concat_self⟩
      · exact absurd hk hnk
  attSub := fun e he => (h.attSub e he).trans (List.sublist_append_left _ _)
  delSound := by
    intro q hq
    rcases List.mem_append.mp hq with hq | hq
    · let ⟨a, b⟩ := h.delSound q hq
      exact ⟨List.mem_append_left _ a, b⟩
    · simp only [List.mem_singleton] at hq; subst hq
      exact ⟨List.mem_concat_self, hu, n, hn, hc⟩
  strayComplete := by
    intro q hq m hm hk hqu hi hd
    rcases List.mem_append.mp hq with hq | hq
    · exact List.mem_append_left _ (h.strayComplete q hq m hm hk hqu hi hd)
    · exact List.mem_append_right _ hq
  disj := by
    intro hnd q hq e he hqe
    obtain ⟨hp, hnd'⟩ := nodup_concat.mp hnd
    rcases List.mem_append.mp hq with hq | hq
    · exact h.disj hnd' q hq e he hqe
    · simp only [List.mem_singleton] at hq; subst hq
      exact hp (h.attSound e he q hqe).1
  armedSound := by
    intro m hm
    rcases har m hm with hm | ⟨hm, hf⟩
    · obtain ⟨q, hq, h1, h2⟩ := h.armedSound m hm
      exact ⟨q, List.mem_append_left _ hq, h1, h2⟩
    · subst hm
      exact ⟨p, List.mem_concat_self, hn, hf⟩

theorem attach_keys (att : List (String × List Pod)) (n : String) (p : Pod) :
    (attach att n p).map (·.1) = att.map (·.1) := by
  unfold attach
  rw [List.map_map]
  apply List.map_congr_left
  intro e _
  simp only [Function.comp]
  split <;> rfl

theorem mem_attach {att : List (String × List Pod)} {n : String} {p : Pod} {e' : String × List Pod}
    (h : e' ∈ attach att n p) :
    ∃ e ∈ att, e'.1 = e.1 ∧ ((e.1 = n ∧ e'.2 = e.2 ++ [p]) ∨ (e.1 ≠ n ∧ e'.2 = e.2)) := by
  unfold attach at h
  obtain ⟨e, he, rfl⟩ := List.mem_map.mp h
  refine ⟨e, he, ?_⟩
  by_cases hk : e.1 = n
  · simp [hk]
  · simp [hk]

/-- the pod is attached to its (candidate) node. -/
theorem ScanInv.attach {done : List Pod} {st : ScanState} (h : ScanInv released ignore K done st) (p : Pod)
    (n : String) (hn : p.nodeOf = some n) (hu : p.phase ≠ "Unknown") (hk : n ∈ K) (uns : List Pod) :
    ScanInv released ignore K (done ++ [p])
      { st with attached := Eds.attach st.attached n p, unscheduled := uns } where
  keys := by simp only []; rw [attach_keys]; exact h.keys
  attSound := by
    intro e' he' q hq
    obtain ⟨e, he, h1, h2⟩ := mem_attach he'
    rw [h1]
    rcases h2 with ⟨h2, h3⟩ | ⟨_, h3⟩
    · rw [h3] at hq
      rcases List.mem_append.mp hq with hq | hq
      · let ⟨a, b, c⟩ := h.attSound e he q hq
        exact ⟨List.mem_append_left _ a, b, c⟩
      · simp only [List.mem_singleton] at hq; subst hq
        exact ⟨List.mem_concat_self, h2 ▸ hn, hu⟩
    · rw [h3] at hq
      let ⟨a, b, c⟩ := h.attSound e he q hq
      exact ⟨List.mem_append_left _ a, b, c⟩
  attComplete := by
    intro e' he' q hq hqn hqu
    obtain ⟨e, he, h1, h2⟩ := mem_attach he'
    rw [h1] at hqn
    rcases List.mem_append.mp hq with hq | hq
    · rcases h.attComplete e he q hq hqn hqu with h4 | h4
      · left
        rcases h2 with ⟨_, h3⟩ | ⟨_, h3⟩ <;> rw [h3]
        · exact List.mem_append_left _ h4
        · exact h4
      · exact Or.inr h4
    · simp only [List.mem_singleton] at hq; subst hq
      have : n = e.1 := Option.some.inj (hn.symm.trans hqn)
      left
      rcases h2 with ⟨_, h3⟩ | ⟨h2, _⟩
      · rw [h3]; exact List.mem_concat_self
      · exact absurd this.symm h2
  attSub := by
    intro e' he'
    obtain ⟨e, he, _, h2⟩ := mem_attach he'
    rcases h2 with ⟨_, h3⟩ | ⟨_, h3⟩ <;> rw [h3]
    · exact List.Sublist.append (h.attSub e he) (List.Sublist.refl _)
    · exact (h.attSub e he).trans (List.sublist_append_left _ _)
  delSound := fun q hq =>
    let ⟨a, b⟩ := h.delSound q hq
    ⟨List.mem_append_left _ a, b⟩
  strayComplete := by
    intro q hq m hm hmk hqu hi hd
    rcases List.mem_append.mp hq with hq | hq
    · exact h.strayComplete q hq m hm hmk hqu hi hd
    · simp only [List.mem_singleton] at hq; subst hq
      have : n = m := Option.some.inj (hn.symm.trans hm)
      exact absurd (this ▸ hk) hmk
  disj := by
    intro hnd q hq e' he' hqe
    obtain ⟨hp, hnd'⟩ := nodup_concat.mp hnd
    obtain ⟨e, he, _, h2⟩ := mem_attach he'
    rcases h2 with ⟨_, h3⟩ | ⟨_, h3⟩ <;> rw [h3] at hqe
    · rcases List.mem_append.mp hqe with hqe | hqe
      · exact h.disj hnd' q hq e he hqe
      · simp only [List.mem_singleton] at hqe; subst hqe
        exact hp (h.delSound q hq).1
    · exact h.disj hnd' q hq e he hqe
  armedSound := h.armedSound

/-- **One step of the scan**: the pod is skipped (no node, phase Unknown, or a stray pod on an ignored node
or already terminating), or it is a released Failed pod of a candidate node and goes to the deletion list
(arming the node's back-off), or it is attached to its candidate node, or it is a stray pod and goes to the
deletion list. -/
theorem scanPod_cases (released : String → Bool) (ignore : List String) (st : ScanState) (p : Pod) :
    (scanPod released ignore st p = st ∧
      ∀ n, p.nodeOf = some n → p.phase ≠ "Unknown" →
        n ∉ st.attached.map (·.1) ∧ (ignore.contains n = false → p.deletion ≠ none)) ∨
    ∃ n, p.nodeOf = some n ∧ p.phase ≠ "Unknown" ∧
      ((n ∈ st.attached.map (·.1) ∧ p.phase = "Failed" ∧ released n = true ∧ st.armed.contains n = false ∧
          scanPod released ignore st p = { st with toDelete := st.toDelete ++ [p], armed := n :: st.armed }) ∨
       (n ∈ st.attached.map (·.1) ∧
          scanPod released ignore st p =
            { st with attached := attach st.attached n p,
                      unscheduled := if p.scheduled then st.unscheduled else st.unscheduled ++ [p] }) ∨
       (n ∉ st.attached.map (·.1) ∧ ignore.contains n = false ∧ p.deletion = none ∧
          scanPod released ignore st p = { st with toDelete := st.toDelete ++ [p] })) := by
  have hkey : ∀ n, st.attached.any (fun e => e.1 == n) = true ↔ n ∈ st.attached.map (·.1) := fun n => by
    simp only [List.any_eq_true, List.mem_map, beq_iff_eq]
  generalize hr : scanPod released ignore st p = r
  unfold scanPod at hr
  cases hn : p.nodeOf with
  | none =>
    rw [hn] at hr
    exact Or.inl ⟨hr.symm, fun n hn' => by cases hn'⟩
  | some n =>
    rw [hn] at hr
    dsimp only at hr
    have hsome : ∀ m, some n = some m → m = n := fun m hm => (Option.some.inj hm).symm
    by_cases hu : (p.phase == "Unknown") = true
    · rw [if_pos hu] at hr
      exact Or.inl ⟨hr.symm, fun _ _ hu' => absurd (beq_iff_eq.mp hu) hu'⟩
    rw [if_neg hu] at hr
    replace hu : p.phase ≠ "Unknown" := fun h => hu (beq_iff_eq.mpr h)
    by_cases hk : st.attached.any (fun e => e.1 == n) = true
    · rw [if_pos hk] at hr
      refine Or.inr ⟨n, rfl, hu, ?_⟩
      by_cases hf : (p.phase == "Failed" && released n && !st.armed.contains n) = true
      · rw [if_pos hf] at hr
        simp only [Bool.and_eq_true, beq_iff_eq, Bool.not_eq_true'] at hf
        exact Or.inl ⟨(hkey n).mp hk, hf.1.1, hf.1.2, hf.2, hr.symm⟩
      · rw [if_neg hf] at hr
        exact Or.inr (Or.inl ⟨(hkey n).mp hk, hr.symm⟩)
    rw [if_neg hk] at hr
    replace hk : n ∉ st.attached.map (·.1) := fun hm => hk ((hkey n).mpr hm)
    by_cases hi : ignore.contains n = true
    · rw [if_pos hi] at hr
      exact Or.inl ⟨hr.symm, fun m hm _ => by
        rw [hsome m hm]; exact ⟨hk, fun hi' => by rw [hi] at hi'; cases hi'⟩⟩
    rw [if_neg hi] at hr
    by_cases hd : p.deletion.isNone = true
    · rw [if_pos hd] at hr
      exact Or.inr ⟨n, rfl, hu, Or.inr (Or.inr
        ⟨hk, (Bool.not_eq_true _).mp hi, Option.isNone_iff_eq_none.mp hd, hr.symm⟩)⟩
    · rw [if_neg hd] at hr
      exact Or.inl ⟨hr.symm, fun m hm _ => by
        rw [hsome m hm]; exact ⟨hk, fun _ hd' => hd (by rw [hd']; rfl)⟩⟩

theorem scanInv_step {done : List Pod} {st : ScanState} (h : ScanInv released ignore K done st) (p : Pod) :
    ScanInv released ignore K (done ++ [p]) (scanPod released ignore st p) := by
  rcases scanPod_cases released ignore st p with ⟨heq, hskip⟩ | ⟨n, hn, hu, hcase⟩
  · rw [heq]
    exact h.skip p (fun m hm hpm hu => (hskip m hpm hu).1 (h.keys ▸ hm))
      (fun m hpm _ hu hi hd => (hskip m hpm hu).2 hi hd)
  · rcases hcase with ⟨hk, hf, hr, _, heq⟩ | ⟨hk, heq⟩ | ⟨hk, hi, hd, heq⟩
    · rw [heq]
      exact h.delete p n hn hu (Or.inl ⟨h.keys ▸ hk, hf, hr⟩) _ (fun m hm => by
        rcases List.mem_cons.mp hm with hm | hm
        · exact Or.inr ⟨hm, hf⟩
        · exact Or.inl hm)
    · rw [heq]
      exact h.attach p n hn hu (h.keys ▸ hk) _
    · rw [heq]
      exact h.delete p n hn hu (Or.inr ⟨fun hm => hk (h.keys ▸ hm), hi, hd⟩) st.armed (fun m hm => Or.inl hm)

/-! ### the output of `filterAndMap` -/

def candNames (t : Template) (nodes : List NodeItem) (ignore : List String) : List String :=
  (candidates t nodes ignore).map (·.node.name)

def scanInit (t : Template) (nodes : List NodeItem) (ignore : List String) : ScanState :=
  { attached := (candidates t nodes ignore).map (fun ni => (ni.node.name, [])), toDelete := [],
    unscheduled := [], armed := [] }

/-- the state after the scan of all pods -/
def scanFinal (released : String → Bool) (t : Template) (nodes : List NodeItem) (pods : List Pod)
    (ignore : List String) : ScanState :=
  pods.foldl (scanPod released ignore) (scanInit t nodes ignore)

theorem scanInit_inv (released : String → Bool) (t : Template) (nodes : List NodeItem) (ignore : List String) :
    ScanInv released ignore (candNames t nodes ignore) [] (scanInit t nodes ignore) where
  keys := by simp [scanInit, candNames, List.map_map, Function.comp_def]
  attSound := by
    intro e he q hq
    simp only [scanInit, List.mem_map] at he
    obtain ⟨ni, _, rfl⟩ := he
    cases hq
  attComplete := fun _ _ q hq => by cases hq
  attSub := by
    intro e he
    simp only [scanInit, List.mem_map] at he
    obtain ⟨ni, _, rfl⟩ := he
    exact List.Sublist.refl _
  delSound := fun q hq => by cases hq
  strayComplete := fun q hq => by cases hq
  disj := fun _ q hq => by cases hq
  armedSound := fun n hn => by cases hn

theorem scanFinal_inv (released : String → Bool) (t : Template) (nodes : List NodeItem) (pods : List Pod)
    (ignore : List String) :
    ScanInv released ignore (candNames t nodes ignore) pods (scanFinal released t nodes pods ignore) :=
  foldl_prefix_inv (I := ScanInv released ignore (candNames t nodes ignore)) (scanInit_inv released t nodes ignore)
    (fun _ _ p h => scanInv_step h p) pods

/-- the kept pod of a candidate node: head of its sorted pod list. -/
def keptOf (att : List (String × List Pod)) (ni : NodeItem) : NodeItem × Option Pod :=
  match (att.map (fun e => (e.1, sortPods e.2))).find? (fun e => e.1 == ni.node.name) with
  | some (_, p :: _) => (ni, some p)
  | _ => (ni, none)

theorem filterAndMap_byNode (released : String → Bool) (t : Template) (nodes : List NodeItem)
    (pods : List Pod) (ignore : List String) :
    (filterAndMap released t nodes pods ignore).byNode =
      (candidates t nodes ignore).map (keptOf (scanFinal released t nodes pods ignore).attached) := rfl

theorem filterAndMap_toDelete (released : String → Bool) (t : Template) (nodes : List NodeItem)
    (pods : List Pod) (ignore : List String) :
    (filterAndMap released t nodes pods ignore).toDelete =
      (scanFinal released t nodes pods ignore).toDelete ++
      (((scanFinal released t nodes pods ignore).attached.map (fun e => (e.1, sortPods e.2))).map
        (fun e => e.2.drop 1)).flatten := rfl

theorem keptOf_fst (att : List (String × List Pod)) (ni : NodeItem) : (keptOf att ni).1 = ni := by
  unfold keptOf; split <;> rfl

theorem keptOf_some {att : List (String × List Pod)} {ni : NodeItem} {k : Pod}
    (h : (keptOf att ni).2 = some k) :
    ∃ e ∈ att, ∃ tl, e.1 = ni.node.name ∧ sortPods e.2 = k :: tl := by
  unfold keptOf at h
  split at h
  · rename_i n p tl hf
    simp only [Option.some.injEq] at h; subst h
    have h1 := List.find?_some hf
    have h2 := List.mem_of_find?_eq_some hf
    obtain ⟨e, he, heq⟩ := List.mem_map.mp h2
    simp only [Prod.mk.injEq] at heq
    refine ⟨e, he, tl, ?_, heq.2⟩
    rw [heq.1]; simpa using h1
  · cases h

theorem keptOf_none {att : List (String × List Pod)} {ni : NodeItem}
    (hk : ni.node.name ∈ att.map (·.1)) (h : (keptOf att ni).2 = none) :
    ∃ e ∈ att, e.1 = ni.node.name ∧ e.2 = [] := by
  unfold keptOf at h
  split at h
  · cases h
  · rename_i hne
    cases hf : (att.map (fun e => (e.1, sortPods e.2))).find? (fun e => e.1 == ni.node.name) with
    | none =>
      rw [List.find?_eq_none] at hf
      obtain ⟨e, he, hen⟩ := List.mem_map.mp hk
      exact absurd (by simpa using hen) (hf (e.1, sortPods e.2) (List.mem_map.mpr ⟨e, he, rfl⟩))
    | some r =>
      obtain ⟨n, l⟩ := r
      have h1 := List.find?_some hf
      have h2 := List.mem_of_find?_eq_some hf
      obtain ⟨e, he, heq⟩ := List.mem_map.mp h2
      simp only [Prod.mk.injEq] at heq
      cases l with
      | nil => exact ⟨e, he, by rw [heq.1]; simpa using h1, sortPods_eq_nil heq.2⟩
      | cons p tl => exact absurd hf (hne n p tl)

theorem mem_filter_toDelete {released : String → Bool} {t : Template} {nodes : List NodeItem}
    {pods : List Pod} {ignore : List String} {p : Pod} :
    p ∈ (filterAndMap released t nodes pods ignore).toDelete ↔
      p ∈ (scanFinal released t nodes pods ignore).toDelete ∨
      ∃ e ∈ (scanFinal released t nodes pods ignore).attached, p ∈ (sortPods e.2).drop 1 := by
  rw [filterAndMap_toDelete]
  simp only [List.mem_append, List.mem_flatten, List.mem_map]
  constructor
  · rintro (h | ⟨l, ⟨e', ⟨e, he, rfl⟩, rfl⟩, hp⟩)
    · exact Or.inl h
    · exact Or.inr ⟨e, he, hp⟩
  · rintro (h | ⟨e, he, hp⟩)
    · exact Or.inl h
    · exact Or.inr ⟨_, ⟨_, ⟨e, he, rfl⟩, rfl⟩, hp⟩

theorem mem_filter_byNode {released : String → Bool} {t : Template} {nodes : List NodeItem}
    {pods : List Pod} {ignore : List String} {ni : NodeItem} {o : Option Pod}
    (h : (ni, o) ∈ (filterAndMap released t nodes pods ignore).byNode) :
    ni ∈ candidates t nodes ignore ∧
      (keptOf (scanFinal released t nodes pods ignore).attached ni).2 = o := by
  rw [filterAndMap_byNode] at h
  obtain ⟨ni', hni, heq⟩ := List.mem_map.mp h
  have := keptOf_fst (scanFinal released t nodes pods ignore).attached ni'
  rw [heq] at this
  simp only at this
  subst this
  exact ⟨hni, by rw [heq]⟩


section
variable {released : String → Bool} {t : Template} {nodes : List NodeItem} {pods : List Pod} {ignore : List String}

theorem byNode_some {ni : NodeItem} {k : Pod}
    (h : (ni, some k) ∈ (filterAndMap released t nodes pods ignore).byNode) :
    ∃ e ∈ (scanFinal released t nodes pods ignore).attached, ∃ tl,
      e.1 = ni.node.name ∧ sortPods e.2 = k :: tl ∧ k ∈ e.2 := by
  obtain ⟨e, he, tl, h1, hs⟩ := keptOf_some (mem_filter_byNode h).2
  exact ⟨e, he, tl, h1, hs, mem_sortPods.mp (by rw [hs]; exact List.mem_cons_self)⟩

/-- a node without kept pod is a candidate node to which the scan attached nothing. -/
theorem byNode_none {ni : NodeItem} (h : (ni, none) ∈ (filterAndMap released t nodes pods ignore).byNode) :
    ni ∈ candidates t nodes ignore ∧
    ∃ e ∈ (scanFinal released t nodes pods ignore).attached, e.1 = ni.node.name ∧ e.2 = [] := by
  obtain ⟨hc, hk⟩ := mem_filter_byNode h
  refine ⟨hc, keptOf_none ?_ hk⟩
  rw [(scanFinal_inv released t nodes pods ignore).keys]
  exact List.mem_map.mpr ⟨ni, hc, rfl⟩

end

/-! ### creation candidates of the canary role -/

theorem lookupNode_some {byNode : List (NodeItem × Option Pod)} {name : String} {e : NodeItem × Option Pod}
    (h : lookupNode byNode name = some e) : e ∈ byNode ∧ e.1.node.name = name := by
  unfold lookupNode at h
  exact ⟨List.mem_of_find?_eq_some h, by simpa using List.find?_some h⟩

/-- invariant of the canary scan relative to the processed canary node names. -/
structure CanaryCreateInv (byNode : List (NodeItem × Option Pod)) (done : List String) (c : CanaryScan) : Prop where
  mem : ∀ ni ∈ c.toCreate, (ni, none) ∈ byNode ∧ ni.node.name ∈ done
  sub : (c.toCreate.map (·.node.name)).Sublist done

theorem canaryCreateInv_step (tg : String) (byNode : List (NodeItem × Option Pod)) (done : List String)
    (c : CanaryScan) (n : String) (h : CanaryCreateInv byNode done c) :
    CanaryCreateInv byNode (done ++ [n]) (canaryScanStep tg byNode c n) := by
  have keep : ∀ c' : CanaryScan, c'.toCreate = c.toCreate → CanaryCreateInv byNode (done ++ [n]) c' := by
    intro c' hc
    constructor
    · intro ni hni
      rw [hc] at hni
      exact ⟨(h.mem ni hni).1, List.mem_append_left _ (h.mem ni hni).2⟩
    · rw [hc]; exact h.sub.trans (List.sublist_append_left _ _)
  unfold canaryScanStep
  cases hl : lookupNode byNode n with
  | none => exact keep _ rfl
  | some e =>
    obtain ⟨ni, op⟩ := e
    cases op with
    | none =>
      obtain ⟨hm, hn⟩ := lookupNode_some hl
      exact ⟨List.forall_mem_append.mpr
          ⟨fun ni' hni' => ⟨(h.mem ni' hni').1, List.mem_append_left _ (h.mem ni' hni').2⟩,
            List.forall_mem_singleton.mpr ⟨hm, List.mem_append_right _ (List.mem_singleton.mpr hn)⟩⟩,
        by rw [List.map_append]; exact List.Sublist.append h.sub (by rw [← hn]; exact List.Sublist.refl _)⟩
    | some pod =>
      refine keep _ ?_
      dsimp only
      by_cases hd : pod.deletion.isSome = true
      · rw [if_pos hd]
      · rw [if_neg hd]
        by_cases hcmp : (!comparePod tg pod ni) = true
        · rw [if_pos hcmp]
        · rw [if_neg hcmp]

theorem canaryScan_createInv (tg : String) (byNode : List (NodeItem × Option Pod)) (names : List String) :
    CanaryCreateInv byNode names (names.foldl (canaryScanStep tg byNode) {}) :=
  foldl_prefix_inv (I := CanaryCreateInv byNode) ⟨fun ni hni => (by cases hni), List.Sublist.refl _⟩
    (fun done c n h => canaryCreateInv_step tg byNode done c n h) names

/-! ### bridges to the decidable specification (EdsSpec/C01.lean) -/
section
open Spec.C01

theorem eligible_iff (t : Template) (nodes : List NodeItem) (ignore : List String) (n : String) :
    eligible t nodes ignore n = true ↔ n ∈ candNames t nodes ignore := by
  simp only [eligible, candNames, candidates, List.any_eq_true, List.mem_map, List.mem_filter,
    Bool.and_eq_true, beq_iff_eq, Bool.not_eq_true']
  constructor
  · rintro ⟨ni, hni, ⟨h1, h2⟩, h3⟩
    exact ⟨ni, ⟨hni, by rw [h1]; exact h2, h3⟩, h1⟩
  · rintro ⟨ni, ⟨hni, h2, h3⟩, h1⟩
    exact ⟨ni, hni, ⟨h1, by rw [← h1]; exact h2⟩, h3⟩

theorem names_contains_iff {pods D : List Pod} (hp : (pods.map (·.name)).Nodup)
    (hsub : ∀ q ∈ D, q ∈ pods) {p : Pod} (hm : p ∈ pods) :
    (D.map (·.name)).contains p.name = true ↔ p ∈ D := by
  rw [List.contains_iff_mem, List.mem_map]
  constructor
  · rintro ⟨q, hq, h⟩
    rw [← eq_of_nodup_map _ hp (hsub q hq) hm h]; exact hq
  · intro h; exact ⟨p, h, rfl⟩

theorem findPod_of_mem {pods : List Pod} (hp : (pods.map (·.name)).Nodup) {k : Pod} (hk : k ∈ pods) :
    findPod pods k.name = some k := by
  unfold findPod
  cases hf : pods.find? (fun p => p.name == k.name) with
  | none =>
    rw [List.find?_eq_none] at hf
    exact absurd (by simp) (hf k hk)
  | some q =>
    have h1 := List.find?_some hf
    have h2 := List.mem_of_find?_eq_some hf
    rw [eq_of_nodup_map _ hp h2 hk (by simpa using h1)]

end

end Eds
