import EdsModel.Generated.DecSlowStart
import EdsModel.Rolling
/-
  EdsProofs.BridgeSlowStart — the hand-written model functions the property theorems are stated about are
  *equal* to the Lean definitions the translator (tools/extract/gotolean.go) regenerates from the Go
  source on every run (EdsModel/Generated/DecSlowStart.lean).  A change to one of these Go functions
  changes the generated definition and breaks the corresponding `src_*` theorem.

  `none` on the generated side is a Go panic; every theorem therefore also says that the function
  does not panic on the stated arguments (non-nil where the callers pass non-nil).
-/
namespace Eds.Bridge
open Eds

/-! ### slow start -/

theorem src_rollingUpdateStartTime (st : ERSStatus) (now : Time) :
    Generated.Decisions.getRollingUpdateStartTime (some st) now = some (rollingUpdateStartTime st now) := by
  unfold Generated.Decisions.getRollingUpdateStartTime rollingUpdateStartTime
  cases h : findCond st.conds "Active" with
  | none => simp [h]
  | some c => by_cases hs : c.status = "True" <;> simp [hs, h]

/-- how the model's `Outcome Int` of `calculateMaxCreation` reads on the Go side. -/
def maxCreationOut : Outcome Int → Option (Int × Option String)
  | .ok v => some (v, none)
  | .err _ => some (0, some "invalid value for IntOrString")
  | .panic => none

theorem src_calculateMaxCreation (r : RollingUpdate) (nbNodes : Int) (start now : Time) :
    Generated.Decisions.calculateMaxCreation (some r) nbNodes start now =
      maxCreationOut (Eds.calculateMaxCreation r.slowStartAdditiveIncrease r.slowStartInterval
        r.maxParallelPodCreation nbNodes start now) := by
  unfold Generated.Decisions.calculateMaxCreation Eds.calculateMaxCreation Go.valueFromIntOrPercent
  rcases r with ⟨mu, ms, mp, iv, inc⟩
  simp only [Option.bind_some]
  cases hres : resolveIntOrPercent inc nbNodes with
  | none => simp [maxCreationOut]
  | some sv =>
    cases iv with
    | none => simp [maxCreationOut]
    | some i =>
      cases mp with
      | none => by_cases hi : i ≤ 0 <;> simp [maxCreationOut, goDiv] <;> split <;> simp_all
      | some m =>
        by_cases hi : i ≤ 0
        · simp [maxCreationOut, hi]
        · have hne : (i == 0) = false := by
            have : i ≠ 0 := by omega
            simpa using this
          simp only [Option.isSome_none, Bool.false_eq_true, if_false, Option.bind_some, hi, decide_false, goDiv, hne]
          by_cases hgt : (1 + (now - start).tdiv i) * sv > m <;> simp [hgt, maxCreationOut]


end Eds.Bridge
