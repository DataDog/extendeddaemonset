import EdsModel.Generated.DecCleanup
import EdsProofs.BridgeConds
/-
  EdsProofs.BridgeCleanup — the hand-written model functions the property theorems are stated about are
  *equal* to the Lean definitions the translator (tools/extract/gotolean.go) regenerates from the Go
  source on every run (EdsModel/Generated/DecCleanup.lean).  A change to one of these Go functions
  changes the generated definition and breaks the corresponding `src_*` theorem.

  `none` on the generated side is a Go panic; every theorem therefore also says that the function
  does not panic on the stated arguments (non-nil where the callers pass non-nil).
-/
namespace Eds.Bridge
open Eds

/-! ### shouldDeleteERS -/

theorem src_shouldDeleteERS (now : Time) (e : ERS) :
    Generated.Decisions.shouldDeleteERS now (some e) = some (Eds.shouldDeleteERS now e (2 * minute)) := by
  unfold Generated.Decisions.shouldDeleteERS Eds.shouldDeleteERS
  simp only [Option.isNone_some, Bool.false_eq_true, if_false, Option.bind_some]
  by_cases h : isCondTrue e.status.conds "Canary-Failed" = true
  · obtain ⟨c, hc, hs⟩ := isCondTrue_findCond h
    simp only [h, if_true, index_condIndex _ _ _ hc, Option.bind_some, hc, hs]
    by_cases hb : now < c.lastTransition + minute * 2
    · have hb' : now < c.lastTransition + 2 * minute := by omega
      simp [hb, hb']
    · have hb' : ¬ now < c.lastTransition + 2 * minute := by omega
      simp [hb, hb']
  · simp only [h, Bool.false_eq_true, if_false]
    unfold isCondTrue at h
    cases hf : findCond e.status.conds "Canary-Failed" with
    | none => simp
    | some c =>
      simp only [hf] at h
      simp [h]


end Eds.Bridge
