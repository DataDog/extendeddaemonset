import EdsModel.GoPrelude
/-
  EdsProofs.GoSort — `Go.stableSortBy` (GoPrelude: what `sort.SliceStable(xs, less)` is mapped to, `List.mergeSort` with
  `le a b := !less b a`) for a comparator of the form `less a b = !key a && key b` — a two-class strict weak ordering: the
  `key = false` elements first, each class in its original order.  `ManageDeployment` sorts its deletion candidates this
  way (`key` = the pod of the node is available).  Core `List.mergeSort` lemmas only (no Mathlib).
-/
namespace Eds.Go

/-- `mergeSort` only ever compares elements of the list. -/
theorem mergeSort_congr {α : Type} (r s : α → α → Bool) (l : List α) (h : ∀ a ∈ l, ∀ b ∈ l, r a b = s a b) :
    l.mergeSort r = l.mergeSort s := by
  have := List.map_mergeSort (f := id) (r := r) (s := s) (l := l) (by simpa using h)
  simpa using this

/-- the order of a two-class key: `false` before `true`. -/
def le2 {α : Type} (key : α → Bool) (a b : α) : Bool := !key a || key b

theorem le2_trans {α : Type} (key : α → Bool) (a b c : α) : le2 key a b = true → le2 key b c = true → le2 key a c = true := by
  unfold le2; cases key a <;> cases key b <;> cases key c <;> simp

theorem le2_total {α : Type} (key : α → Bool) (a b : α) : (le2 key a b || le2 key b a) = true := by
  unfold le2; cases key a <;> cases key b <;> simp

/-- a list that is a `false` block followed by a `true` block is recovered from its two filters. -/
theorem filter_blocks {α : Type} (key : α → Bool) (A B : List α) (hA : ∀ x ∈ A, key x = false)
    (hB : ∀ x ∈ B, key x = true) : (A ++ B).filter (fun a => !key a) = A ∧ (A ++ B).filter key = B := by
  rw [List.filter_append, List.filter_append]
  rw [List.filter_eq_self.mpr (by intro x hx; simp [hA x hx]), List.filter_eq_nil_iff.mpr (by intro x hx; simp [hB x hx]),
    List.filter_eq_nil_iff.mpr (by intro x hx; simp [hA x hx]), List.filter_eq_self.mpr (by intro x hx; simp [hB x hx])]
  simp

/-- the stable sort by a two-class key is the stable partition. -/
theorem mergeSort_twoClass {α : Type} (key : α → Bool) (l : List α) :
    l.mergeSort (le2 key) = l.filter (fun a => !key a) ++ l.filter key := by
  induction l with
  | nil => simp
  | cons a l ih =>
    -- the head is inserted after the elements `l₁` it is not `≤` of, i.e. after the `false` block when its key is `true`
    obtain ⟨l₁, l₂, h₁, h₂, h₃⟩ := List.mergeSort_cons (le := le2 key) (le2_trans key) (le2_total key) a l
    have hs := List.pairwise_mergeSort (le := le2 key) (le2_trans key) (le2_total key) (a :: l)
    rw [h₁] at hs ⊢
    rw [ih] at h₂
    cases ha : key a with
    | false =>
      have : l₁ = [] := by
        cases l₁ with
        | nil => rfl
        | cons b bs =>
          have := h₃ b List.mem_cons_self
          simp [le2, ha] at this
      subst this
      simp only [List.nil_append] at h₂ ⊢
      simp [ha, h₂]
    | true =>
      have h1 : ∀ b ∈ l₁, key b = false := by
        intro b hb
        have := h₃ b hb
        simpa [le2, ha] using this
      have h2 : ∀ c ∈ l₂, key c = true := by
        intro c hc
        have hp := (List.pairwise_append.mp hs).2.1
        have := List.rel_of_pairwise_cons hp hc
        simpa [le2, ha] using this
      obtain ⟨e1, e2⟩ := filter_blocks key l₁ l₂ h1 h2
      obtain ⟨f1, f2⟩ := filter_blocks key (l.filter fun a => !key a) (l.filter key)
        (by intro x hx; simpa using (List.mem_filter.mp hx).2) (by intro x hx; exact (List.mem_filter.mp hx).2)
      rw [← h₂, f1] at e1
      rw [← h₂, f2] at e2
      simp [ha, e1, e2]

/-- **`sort.SliceStable` with a comparator `!key(i) && key(j)`**: when the translated comparator is that function of the
two elements on the elements of the slice (in particular it does not panic on them), the sort is the stable partition —
the `key = false` elements first, each class in the order of the slice. -/
theorem stableSortBy_twoClass {α : Type} (less : α → α → Option Bool) (key : α → Bool) (xs : List α)
    (h : ∀ a ∈ xs, ∀ b ∈ xs, less a b = some (!key a && key b)) :
    stableSortBy less xs = some (xs.filter (fun a => !key a) ++ xs.filter key) := by
  unfold stableSortBy
  have hall : (xs.all fun a => xs.all fun b => (less a b).isSome) = true := by
    simp only [List.all_eq_true]
    intro a ha b hb
    simp [h a ha b hb]
  simp only [hall, if_true]
  rw [mergeSort_congr _ (le2 key) xs, mergeSort_twoClass]
  intro a ha b hb
  rw [h b hb a ha]
  unfold le2
  cases key a <;> cases key b <;> simp

/-- the two-class comparator is a strict weak ordering — the contract under which the result of `sort.SliceStable` is
determined (and is what `Go.stableSortBy` says): irreflexive, transitive, incomparability transitive. -/
theorem twoClass_strictWeak {α : Type} (key : α → Bool) :
    (∀ a : α, (!key a && key a) = false) ∧
    (∀ a b c : α, (!key a && key b) = true → (!key b && key c) = true → (!key a && key c) = true) ∧
    (∀ a b c : α, (!key a && key b) = false → (!key b && key a) = false → (!key b && key c) = false →
      (!key c && key b) = false → ((!key a && key c) = false ∧ (!key c && key a) = false)) := by
  refine ⟨?_, ?_, ?_⟩
  · intro a; cases key a <;> rfl
  · intro a b c; cases key a <;> cases key b <;> cases key c <;> simp
  · intro a b c; cases key a <;> cases key b <;> cases key c <;> simp

end Eds.Go
