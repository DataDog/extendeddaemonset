import EdsModel.Kernel
import EdsModel.Generated.Limits
/-
  The translated `limits.CalculatePodToCreateAndDelete` equals the clamp form the theorems use.
  A change to limits.go that alters the function breaks this proof obligation.
-/
namespace Eds

def toGen (p : LimitParams) : Generated.Limits.Parameters :=
  { NbNodes := p.nbNodes, NbPods := p.nbPods, NbAvailablesPod := p.nbAvailablesPod,
    NbOldAvailablesPod := p.nbOldAvailablesPod, NbCreatedPod := p.nbCreatedPod,
    NbUnresponsiveNodes := p.nbUnresponsiveNodes, NbOldUnavailablePods := p.nbOldUnavailablePods,
    MaxPodCreation := p.maxPodCreation, MaxUnavailablePod := p.maxUnavailablePod,
    MaxUnschedulablePod := p.maxUnschedulablePod }

/-- the two clamps of limits.go, `if a > m { a = m }` and `if x < 0 { x = 0 }`. -/
theorem ite_gt_min (a m : Int) : (if a > m then m else a) = min a m := by split <;> omega
theorem ite_neg_max (x : Int) : (if x < 0 then 0 else x) = max 0 x := by split <;> omega

theorem limits_bridge (p : LimitParams) :
    Generated.Limits.calculatePodToCreateAndDelete (toGen p) = calcLimits p := by
  unfold Generated.Limits.calculatePodToCreateAndDelete calcLimits toGen
  simp only [ite_gt_min, ite_neg_max]

end Eds
