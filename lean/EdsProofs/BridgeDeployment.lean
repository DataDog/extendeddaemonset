import EdsModel.Generated.DecDeployment
import EdsProofs.BridgeDropCanary
import EdsProofs.BridgeRolling
import EdsProofs.BridgeSlowStart
import EdsProofs.BridgeCanary
import EdsProofs.LimitsBridge
import EdsProofs.GoSort
/-
  EdsProofs.BridgeDeployment — `ManageDeployment` (strategy/rollingupdate.go), translated AS A WHOLE on every run
  (EdsModel/Generated/DecDeployment.lean), is *equal* to the model's `manageDeployment` (EdsModel/Rolling.lean), the function
  the theorems C03 / C08 / C09 / C02 are stated about: `src_manageDeployment`.

  What the translation covers: the three condition updates through `params.NewStatus`, the deletion of the canary nodes
  from the Go map `PodByNodeName`, the three percentage resolutions, the classification loop (iteration over the map), the
  slow-start ramp (`getRollingUpdateStartTime`, `calculateMaxCreation`: group SlowStart), the limits kernel
  (`Generated/Limits.lean`), the `min` with the candidate counts, the stable sort of the deletion candidates
  (`sort.SliceStable`, mapped to `Go.stableSortBy` = `List.mergeSort`, its comparator translated), the two slicings
  `xs[:n]` (`Go.sliceTo`: `none` = out of range), the paused / frozen gates, the status counters,
  `manageUnscheduledPodNodes`, `cleanupPods` (translated too: the `PodsCleanupDone` condition), the requeue flag and the
  five-minute window of the canary-label clean-up.  Logging and the metric update have no effect on the translated state
  (their arguments are still evaluated for their dereferences).

  What is NOT translated — the API steps, each an opaque, effect-free step whose result is a parameter of the translated
  function (universally quantified here):
    * `deletePodSlice(client, logger, pods)` inside `cleanupPods` (goroutines, `client.Delete`): `errs : List (Option String)`,
      the errors it returns.  Assumed: it returns normally and assigns nothing through its arguments;
    * the statement `if err = client.List(…); err != nil { … } else { for … { deletePodLabel(…) … } }` of the canary-label
      clean-up: `apiErr : Option String` = the value of `err` after it, `apiRq : Bool` = the value of
      `result.Result.Requeue` after it — the only two paths of the translated state the statement assigns.  Assumed: it
      returns normally and changes nothing else (the translator refuses a step that declares locals, returns, assigns
      through an undereferenced pointer, or passes translated state by reference to a call).
  The model's `manageDeployment` takes `cleanupFailed` = some `client.Delete` of the clean-up failed = `!errs.isEmpty`, and
  leaves the label clean-up to `reconcileErs`; `deployOut` says how the two API parameters enter the result.

  Clock: two reads per iteration of the classification loop (`HasPodSchedulerIssue`, functions of the iteration index,
  assumed constant = `wall`), `time.Now()` of `cleanupPods` (= the model's `wall`), `time.Since(start)` of the label window
  (`w4`, free).

  Association lists: `MapsRel` (what `FilterAndMapPodsByNode` builds) and `KeysNodup` — a Go map has one entry per key; the
  association list must say so for `len(params.PodByNodeName)` and for the comparator's lookups
  `params.PodByNodeName[allPodToDelete[i]]` to find the entry the candidate came from.

  No difference between the hand model and the code was found.
-/
namespace Eds.Bridge
open Eds

/-! ### `cleanupPods` -/

theorem src_cleanupPods (st : ERSStatus) (pods : List (Option GPod)) (wall : Time) (errs : List (Option String)) :
    Generated.Decisions.cleanupPods (some st) pods wall errs =
      some (Go.newAggregate errs,
            some (if pods.isEmpty then st else
              { st with conds := updateCond st.conds wall "PodsCleanupDone" (boolCond errs.isEmpty) "" "" true false })) := by
  unfold Generated.Decisions.cleanupPods
  cases pods with
  | nil => simp
  | cons g gs =>
    have h0 : ¬ ((gs.length : Int) + 1 = 0) := by omega
    cases errs with
    | nil => simp [h0, src_updateERSCondition, boolCond]
    | cons e es =>
      have h2 : (0 : Int) < (es.length : Int) + 1 := by omega
      simp [h0, h2, src_updateERSCondition, boolCond]

/-! ### the two loops of `ManageDeployment` -/

/-- the result type of the translated `ManageDeployment`: `(*Result, error)` and `params` as the caller sees it
afterwards. -/
abbrev DeployOut := Option (Option GResult × Option String × Option GParams)

/-- the loop over `params.CanaryNodes`: the deletions, in order (`dropCanaryPB`). -/
theorem deploy_dropLoop (k : GParams → DeployOut) (names : List String) (i : Int) (P : GParams) :
    Generated.Decisions.manageDeployment.loop1 k names i P =
      k { P with podByNodeName := dropCanaryPB P.nodeByName names P.podByNodeName } := by
  induction names generalizing i P with
  | nil => rfl
  | cons n ns ih =>
    simp only [Generated.Decisions.manageDeployment.loop1]
    rw [ih]
    rfl

abbrev ClassifyK := List (Option NodeItem) → List (Option NodeItem) → Int → Int → Int → Int → Int → Int → Int → Int → Int →
  DeployOut

/-- one iteration of the classification loop inside the whole function is the model's `countStep` / `delStep` (the same
statement as `classify_cons` for the fragment; the loop body is the same source text, its continuation differs). -/
theorem deploy_classify_cons (metaNow : Int) (P : GParams) (rs : ERS) (hrs : P.replicaset = some rs) (nilSlice : Bool)
    (w1 w2 : Int → Int) (wall : Time) (hw1 : ∀ i, w1 i = wall) (hw2 : ∀ i, w2 i = wall) (k : ClassifyK)
    (ni : NodeItem) (go : Option GPod) (mo : Option Pod) (hv : OptPodRel go mo)
    (rest : List (Option NodeItem × Option GPod)) (i : Int) (c : Counts) (d : List (NodeItem × Pod)) :
    Generated.Decisions.manageDeployment.loop2 metaNow P nilSlice w1 w2 k ((some ni, go) :: rest) i
        (c.toCreate.map some) (d.map fun e => some e.1) c.allPods c.available c.created c.desired c.stuck c.oldAvailable
        c.oldUnavailable c.terminating c.ready =
      Generated.Decisions.manageDeployment.loop2 metaNow P nilSlice w1 w2 k rest (i + 1)
        ((countStep rs.templateGeneration wall c (ni, mo)).toCreate.map some)
        ((delStep rs.templateGeneration wall d (ni, mo)).map fun e => some e.1)
        (countStep rs.templateGeneration wall c (ni, mo)).allPods (countStep rs.templateGeneration wall c (ni, mo)).available
        (countStep rs.templateGeneration wall c (ni, mo)).created (countStep rs.templateGeneration wall c (ni, mo)).desired
        (countStep rs.templateGeneration wall c (ni, mo)).stuck (countStep rs.templateGeneration wall c (ni, mo)).oldAvailable
        (countStep rs.templateGeneration wall c (ni, mo)).oldUnavailable
        (countStep rs.templateGeneration wall c (ni, mo)).terminating (countStep rs.templateGeneration wall c (ni, mo)).ready := by
  simp only [Generated.Decisions.manageDeployment.loop2]
  cases hv with
  | none => simp [countStep, delStep]
  | @some g m hr =>
    simp only [Option.isNone_some, Bool.false_eq_true, if_false, hw1, hw2,
      src_hasPodSchedulerIssue g m wall hr.rel.nodeName hr.rel.creation hr.deletion hr.gracePeriod, Option.bind_some,
      src_compareCurrentPodWithNewPod P rs hrs g m ni hr, src_isPodAvailable g m hr.rel.conds,
      src_isPodReady g m hr.rel.conds, hr.deletion.symm]
    generalize hc' : countStep rs.templateGeneration wall c (ni, some m) = c'
    generalize hd' : delStep rs.templateGeneration wall d (ni, some m) = d'
    simp only [countStep, delStep, classify] at hc' hd'
    -- along `classify`: stuck; outdated (terminating or a deletion candidate); up to date
    cases hsi : m.schedulerIssue wall
    · cases hcmp : comparePod rs.templateGeneration m ni
      · cases hdel : m.deletion.isNone
        · simp only [hsi, hcmp, hdel, Bool.false_eq_true, if_false, Bool.not_false, if_true] at hc' hd' ⊢
          subst hc' hd'
          rfl
        · simp only [hsi, hcmp, hdel, Bool.false_eq_true, if_false, Bool.not_false, if_true] at hc' hd' ⊢
          subst hc' hd'
          cases m.available <;>
            simp only [List.map_append, List.map_cons, List.map_nil, Bool.false_eq_true, if_false, if_true]
      · simp only [hsi, hcmp, Bool.false_eq_true, if_false, Bool.not_true] at hc' hd' ⊢
        subst hc' hd'
        cases m.available <;> cases m.ready <;> simp only [Bool.false_eq_true, if_false, if_true, Int.add_zero]
    · simp only [hsi, if_true] at hc' hd' ⊢
      subst hc' hd'
      rfl

theorem deploy_classifyLoop (metaNow : Int) (P : GParams) (rs : ERS) (hrs : P.replicaset = some rs) (nilSlice : Bool)
    (w1 w2 : Int → Int) (wall : Time) (hw1 : ∀ i, w1 i = wall) (hw2 : ∀ i, w2 i = wall) (k : ClassifyK)
    (PB : List (Option NodeItem × Option GPod)) (es : List (NodeItem × Option Pod)) (hrel : EntriesRel PB es)
    (i : Int) (c : Counts) (d : List (NodeItem × Pod)) :
    Generated.Decisions.manageDeployment.loop2 metaNow P nilSlice w1 w2 k PB i
        (c.toCreate.map some) (d.map fun e => some e.1) c.allPods c.available c.created c.desired c.stuck c.oldAvailable
        c.oldUnavailable c.terminating c.ready =
      k ((es.foldl (countStep rs.templateGeneration wall) c).toCreate.map some)
        ((es.foldl (delStep rs.templateGeneration wall) d).map fun e => some e.1)
        (es.foldl (countStep rs.templateGeneration wall) c).allPods (es.foldl (countStep rs.templateGeneration wall) c).available
        (es.foldl (countStep rs.templateGeneration wall) c).created (es.foldl (countStep rs.templateGeneration wall) c).desired
        (es.foldl (countStep rs.templateGeneration wall) c).stuck (es.foldl (countStep rs.templateGeneration wall) c).oldAvailable
        (es.foldl (countStep rs.templateGeneration wall) c).oldUnavailable
        (es.foldl (countStep rs.templateGeneration wall) c).terminating (es.foldl (countStep rs.templateGeneration wall) c).ready := by
  induction hrel generalizing i c d with
  | nil => simp [Generated.Decisions.manageDeployment.loop2]
  | @cons ni go mo PB es hv _ ih =>
    rw [deploy_classify_cons metaNow P rs hrs nilSlice w1 w2 wall hw1 hw2 k ni go mo hv PB i c d, ih]
    simp

/-! ### the stable sort of the deletion candidates -/

theorem delStep_mem (tg : String) (wall : Time) (es : List (NodeItem × Option Pod)) :
    ∀ (d : List (NodeItem × Pod)) (all : List (NodeItem × Option Pod)),
      (∀ x ∈ d, (x.1, some x.2) ∈ all) → (∀ e ∈ es, e ∈ all) →
      ∀ x ∈ es.foldl (delStep tg wall) d, (x.1, some x.2) ∈ all := by
  induction es with
  | nil => intro d all hd _ x hx; exact hd x hx
  | cons e es ih =>
    intro d all hd hes
    simp only [List.foldl_cons]
    apply ih
    · intro x hx
      rcases e with ⟨ni, mo⟩
      cases mo with
      | none => exact hd x (by simpa [delStep] using hx)
      | some m =>
        unfold delStep at hx
        simp only [] at hx
        split at hx
        · rcases List.mem_append.mp hx with h | h
          · exact hd x h
          · simp only [List.mem_singleton] at h
            subst h
            exact hes _ List.mem_cons_self
        · exact hd x hx
    · intro e' he'
      exact hes e' (List.mem_cons_of_mem _ he')

theorem delOrder_mem (tg : String) (wall : Time) (es : List (NodeItem × Option Pod)) :
    ∀ x ∈ delOrder tg wall es, (x.1, some x.2) ∈ es :=
  delStep_mem tg wall es [] es (by intro x hx; cases hx) (fun e he => he)

/-- **`sort.SliceStable(allPodToDelete, less)`** with the comparator of `ManageDeployment`,
`!IsPodAvailable(PodByNodeName[xs[i]]) && IsPodAvailable(PodByNodeName[xs[j]])`, on the deletion candidates in iteration
order: the comparator never panics on them (every candidate has a pod in the map), it is the two-class comparator of
availability, and the sorted slice is the model's `toDeleteUnavail ++ toDeleteAvail`.  Needs the keys of the map
distinct (`KeysNodup`: the lookup `PodByNodeName[node]` must find the entry the candidate came from). -/
theorem src_sortDeleteCandidates (PB : List (Option NodeItem × Option GPod)) (es : List (NodeItem × Option Pod))
    (hrel : EntriesRel PB es) (hnd : KeysNodup es) (tg : String) (wall now : Time) (nilSlice : Bool) :
    Go.stableSortBy (fun a b =>
        Option.bind (Generated.Decisions.isPodAvailable (Go.mapGetD Go.nodeItemKey PB a none) 0 now nilSlice) fun r38 =>
        Option.bind (if (!r38) then (Option.bind (Generated.Decisions.isPodAvailable (Go.mapGetD Go.nodeItemKey PB b none) 0 now nilSlice) fun r39 =>
          some r39) else some false) fun c40 =>
        some c40)
      ((delOrder tg wall es).map fun e => some e.1) =
    some (((countAll tg wall es).toDeleteUnavail ++ (countAll tg wall es).toDeleteAvail).map fun e => some e.1) := by
  let key : Option NodeItem → Bool := fun a =>
    (Generated.Decisions.isPodAvailable (Go.mapGetD Go.nodeItemKey PB a none) 0 now nilSlice).getD false
  have hkey : ∀ e ∈ delOrder tg wall es,
      Generated.Decisions.isPodAvailable (Go.mapGetD Go.nodeItemKey PB (some e.1) none) 0 now nilSlice = some e.2.available := by
    intro e he
    obtain ⟨g, hg, hr⟩ := lookup_entry hrel hnd e.1 e.2 (delOrder_mem tg wall es e he)
    rw [hg, src_isPodAvailable g e.2 hr.rel.conds]
  rw [Go.stableSortBy_twoClass _ key]
  · obtain ⟨h1, h2⟩ := src_delOrder_partition tg wall es
    rw [← h1, ← h2, List.map_append, List.filter_map, List.filter_map]
    congr 2
    · congr 1
      apply List.filter_congr
      intro e he
      simp only [Function.comp, key, hkey e he, Option.getD_some]
    · congr 1
      apply List.filter_congr
      intro e he
      simp only [Function.comp, key, hkey e he, Option.getD_some]
  · intro a ha b hb
    obtain ⟨ea, hea, rfl⟩ := List.mem_map.mp ha
    obtain ⟨eb, heb, rfl⟩ := List.mem_map.mp hb
    simp only [key, hkey ea hea, hkey eb heb, Option.bind_some, Option.getD_some]
    cases ea.2.available <;> simp

/-- the loop started from the values `ManageDeployment` initialises. -/
theorem deploy_classifyLoop0 {metaNow : Int} {P : GParams} {rs : ERS} {nilSlice : Bool} {w1 w2 : Int → Int} {wall : Time}
    (hw1 : ∀ i, w1 i = wall) (hw2 : ∀ i, w2 i = wall) {k : ClassifyK}
    {PB : List (Option NodeItem × Option GPod)} {es : List (NodeItem × Option Pod)} (hrel : EntriesRel PB es)
    (hrs : P.replicaset = some rs) :
    Generated.Decisions.manageDeployment.loop2 metaNow P nilSlice w1 w2 k PB 0 [] [] 0 0 0 0 0 0 0 0 0 =
      k ((countAll rs.templateGeneration wall es).toCreate.map some)
        ((delOrder rs.templateGeneration wall es).map fun e => some e.1)
        (countAll rs.templateGeneration wall es).allPods (countAll rs.templateGeneration wall es).available
        (countAll rs.templateGeneration wall es).created (countAll rs.templateGeneration wall es).desired
        (countAll rs.templateGeneration wall es).stuck (countAll rs.templateGeneration wall es).oldAvailable
        (countAll rs.templateGeneration wall es).oldUnavailable (countAll rs.templateGeneration wall es).terminating
        (countAll rs.templateGeneration wall es).ready := by
  have := deploy_classifyLoop metaNow P rs hrs nilSlice w1 w2 wall hw1 hw2 k PB es hrel 0 {} []
  simp only [List.map_nil] at this
  exact this

theorem entries_length {PB : List (Option NodeItem × Option GPod)} {es : List (NodeItem × Option Pod)}
    (h : EntriesRel PB es) : PB.length = es.length := by
  induction h with
  | nil => rfl
  | cons _ _ ih => simp [ih]

/-- `xs[:min(n, len(xs))]` for a non-negative `n` never panics. -/
theorem sliceTo_min {α : Type} (xs : List α) (n : Int) (h : 0 ≤ n) :
    Go.sliceTo xs (min n (xs.length : Int)) = some (xs.take (min n (xs.length : Int)).toNat) := by
  unfold Go.sliceTo
  have : 0 ≤ min n (xs.length : Int) ∧ min n (xs.length : Int) ≤ (xs.length : Int) := by omega
  simp [this]

theorem sliceTo_min_map {α β : Type} (f : α → β) (l : List α) (n : Int) (h : 0 ≤ n) :
    Go.sliceTo (l.map f) (min n (l.length : Int)) = some ((l.take (min n (l.length : Int)).toNat).map f) := by
  have := sliceTo_min (l.map f) n h
  rw [List.length_map] at this
  rw [this, List.map_take]

/-- the parameters `ManageDeployment` passes to `limits.CalculatePodToCreateAndDelete`. -/
abbrev limOf (nbNodes : Int) (c : Counts) (maxCreation maxUnavailable maxSched : Int) : LimitParams :=
  { nbNodes := nbNodes, nbPods := c.allPods, nbAvailablesPod := c.available, nbOldAvailablesPod := c.oldAvailable,
    nbCreatedPod := c.created, nbUnresponsiveNodes := c.stuck, nbOldUnavailablePods := c.oldUnavailable,
    maxPodCreation := maxCreation, maxUnavailablePod := maxUnavailable, maxUnschedulablePod := maxSched }

theorem calcLimits_nonneg (q : LimitParams) : 0 ≤ (calcLimits q).1 ∧ 0 ≤ (calcLimits q).2 := by
  unfold calcLimits
  simp only []
  omega

theorem delOrder_length (tg : String) (wall : Time) (es : List (NodeItem × Option Pod)) :
    (delOrder tg wall es).length =
      ((countAll tg wall es).toDeleteUnavail ++ (countAll tg wall es).toDeleteAvail).length := by
  obtain ⟨h1, h2⟩ := src_delOrder_partition tg wall es
  rw [← h1, ← h2, List.length_append]
  generalize delOrder tg wall es = l
  induction l with
  | nil => rfl
  | cons x l ih =>
    simp only [List.filter_cons, List.length_cons]
    cases x.2.available <;> simp <;> omega

/-! ### `ManageDeployment` -/

/-- what `ManageDeployment` leaves in `params`: the three conditions updated in `params.NewStatus` (in place, before
anything can fail), the canary nodes deleted from `params.PodByNodeName`. -/
def paramsAfterDeploy (P : GParams) (p : StratParams) (now : Time) : GParams :=
  { P with newStatus := some { p.newStatus with conds := rollingConds p now },
           podByNodeName := dropCanaryPB P.nodeByName P.canaryNodes P.podByNodeName }

/-- the canary-label clean-up runs during the first five minutes of the rolling update (`time.Since(start) <
cleanCanaryLabelsThreshold`, `w4` = that read of the clock). -/
def labelWindow (p : StratParams) (now w4 : Time) : Bool :=
  decide (w4 - rollingUpdateStartTime p.ers.status now < 5 * minute)

/-- how the model's outcome reads on the Go side.  `.err`: the early `return result, err` (a rolling-update parameter that
does not parse) — the flags only, no status.  `.ok r`: the model's result; inside the label window the API step of the
clean-up leaves `apiErr` in `err` and `apiRq` in `result.Result.Requeue`, outside it `err` is what `cleanupPods`
returned. -/
def deployOut (P : GParams) (p : StratParams) (now w4 : Time) (errs : List (Option String)) (apiErr : Option String)
    (apiRq : Bool) : Outcome StratResult → DeployOut
  | .panic => none
  | .err _ =>
    some (some (stratResultOf { isPaused := isRollingUpdatePaused p.edsAnnotations,
                                isFrozen := isRolloutFrozen p.edsAnnotations }),
          some "invalid value for IntOrString", some (paramsAfterDeploy P p now))
  | .ok r =>
    some (some { stratResultOf r with
                 result := { requeue := if labelWindow p now w4 then apiRq else r.requeue, requeueAfter := 0 } },
          if labelWindow p now w4 then apiErr else Go.newAggregate errs,
          some (paramsAfterDeploy P p now))

theorem src_manageDeployment (D : GEds) (P : GParams) (p : StratParams)
    (hA : D.annotations = p.edsAnnotations) (hS : P.strategy = some p.strategy) (hN : P.newStatus = some p.newStatus)
    (hR : P.replicaset = some p.ers) (hC : P.canaryNodes = p.canaryNodes)
    (hm : MapsRel P.nodeByName P.podByNodeName p.byNode) (hnd : KeysNodup p.byNode)
    (gsU : List GPod) (hU : P.unscheduledPods = gsU.map some) (hUrel : PodsRel gsU p.unscheduled)
    (hCl : P.podToCleanUp.isEmpty = p.toCleanUp.isEmpty)
    (now : Time) (nilSlice : Bool) (w1 w2 : Int → Int) (wall : Time) (hw1 : ∀ i, w1 i = wall) (hw2 : ∀ i, w2 i = wall)
    (w4 : Time) (errs : List (Option String)) (apiErr : Option String) (apiRq : Bool) :
    Generated.Decisions.manageDeployment (some D) (some P) now nilSlice w1 w2 wall w4 errs apiErr apiRq =
      deployOut P p now w4 errs apiErr apiRq (Eds.manageDeployment p now wall (!errs.isEmpty)) := by
  rcases P with ⟨strat, ns, edsName, rsO, cn, NB, PB, clean, unsched, role⟩
  simp only at hS hN hR hC hm hU hCl
  subst hS hN hR hC hU
  have hrel := dropCanary_of_maps hm p.canaryNodes
  have hnd' := dropCanary_nodup hnd p.canaryNodes
  unfold Generated.Decisions.manageDeployment
  simp only [Option.bind_some, src_isRollingUpdatePaused, src_isRolloutFrozen, src_boolToCondition,
    src_updateERSCondition]
  rw [deploy_dropLoop]
  unfold Eds.manageDeployment deployOut labelWindow paramsAfterDeploy rollingConds isRollingUpdatePaused isRolloutFrozen
  simp only [hA]
  generalize hPB : dropCanaryPB NB p.canaryNodes PB = PB' at hrel ⊢
  generalize hes : dropCanaryNodes p.byNode p.canaryNodes = es at hrel hnd' ⊢
  generalize hconds : updateCond (updateCond (updateCond p.newStatus.conds now "RollingUpdatePaused"
      (boolCond (SMap.getD p.edsAnnotations K.rollingUpdatePausedAnnot == "true")) "" "" false false) now "RolloutFrozen"
      (boolCond (SMap.getD p.edsAnnotations K.rolloutFrozenAnnot == "true")) "" "" false false) now "Active"
      (boolCond (!(SMap.getD p.edsAnnotations K.rollingUpdatePausedAnnot == "true") &&
        !(SMap.getD p.edsAnnotations K.rolloutFrozenAnnot == "true"))) "" "" false false = conds
  generalize hpa : (SMap.getD p.edsAnnotations K.rollingUpdatePausedAnnot == "true") = paused
  generalize hfr : (SMap.getD p.edsAnnotations K.rolloutFrozenAnnot == "true") = frozen
  have hlen : (Int.ofNat PB'.length) = (es.length : Int) := by rw [entries_length hrel]; rfl
  simp only [Option.bind_some, hlen, Go.valueFromIntOrPercent]
  cases hmsf : resolveIntOrPercent p.strategy.rollingUpdate.maxPodSchedulerFailure (es.length : Int) with
  | none => rfl
  | some maxSched =>
    simp only [Option.isSome_none, Bool.false_eq_true, if_false]
    rw [deploy_classifyLoop0 (rs := p.ers) (wall := wall) hw1 hw2 hrel rfl]
    cases hmu : resolveIntOrPercent p.strategy.rollingUpdate.maxUnavailable (es.length : Int) with
    | none => rfl
    | some maxUnavailable =>
      simp only [Option.isSome_none, Bool.false_eq_true, if_false, src_rollingUpdateStartTime, Option.bind_some,
        src_calculateMaxCreation]
      cases hmc : Eds.calculateMaxCreation p.strategy.rollingUpdate.slowStartAdditiveIncrease
          p.strategy.rollingUpdate.slowStartInterval p.strategy.rollingUpdate.maxParallelPodCreation (es.length : Int)
          (rollingUpdateStartTime p.ers.status now) now with
      | panic => rfl
      | err m => rfl
      | ok maxCreation =>
        simp only [maxCreationOut, Option.bind_some, Option.isSome_none, Bool.false_eq_true, if_false]
        rw [src_sortDeleteCandidates PB' es hrel hnd' p.ers.templateGeneration wall now nilSlice]
        simp only [Option.bind_some, List.length_map, delOrder_length, Int.ofNat_eq_natCast, rollingPlan]
        generalize hc : countAll p.ers.templateGeneration wall es = c
        have hlim := limits_bridge (limOf (es.length : Int) c maxCreation maxUnavailable maxSched)
        simp only [toGen, limOf] at hlim
        rw [hlim]
        obtain ⟨hn1, hn2⟩ := calcLimits_nonneg (limOf (es.length : Int) c maxCreation maxUnavailable maxSched)
        generalize hL : calcLimits (limOf (es.length : Int) c maxCreation maxUnavailable maxSched) = lim at hn1 hn2 ⊢
        rw [sliceTo_min_map _ _ _ hn2, sliceTo_min_map _ _ _ hn1,
          src_manageUnscheduledPodNodes gsU p.unscheduled hUrel nilSlice]
        simp only [Option.bind_some, src_cleanupPods]
        rw [hCl]
        simp only [apply_ite ERSStatus.desired, apply_ite ERSStatus.ready, ite_self, Bool.not_not]
        -- the two gates, the label window and the requeue test decide which fields are written; both sides agree in each case
        cases paused <;> cases frozen <;> cases decide (w4 - rollingUpdateStartTime p.ers.status now < 5 * minute) <;>
          cases (c.desired != c.ready) <;> rfl

/-- the hypotheses of `src_manageDeployment`, bundled: what the model's `StratParams` stand for on the Go side.
`params = &P` with non-nil `Strategy`, `NewStatus`, `Replicaset`; the annotations of the daemonset; the canary node names;
the two maps (`MapsRel`: any content, any order) with distinct keys (a Go map has one entry per key); non-nil unscheduled
pods whose canonical forms are the model's; of `PodToCleanUp` only the emptiness is read by the translated code (its pods
are read by `deletePodSlice`, an API step). -/
structure DeployRel (D : GEds) (P : GParams) (p : StratParams) : Prop where
  ann : D.annotations = p.edsAnnotations
  strategy : P.strategy = some p.strategy
  newStatus : P.newStatus = some p.newStatus
  replicaset : P.replicaset = some p.ers
  canaryNodes : P.canaryNodes = p.canaryNodes
  maps : MapsRel P.nodeByName P.podByNodeName p.byNode
  nodup : KeysNodup p.byNode
  unscheduled : ∃ gsU, P.unscheduledPods = gsU.map some ∧ PodsRel gsU p.unscheduled
  cleanup : P.podToCleanUp.isEmpty = p.toCleanUp.isEmpty

theorem src_manageDeployment_rel {D : GEds} {P : GParams} {p : StratParams} (h : DeployRel D P p)
    (now : Time) (nilSlice : Bool) {w1 w2 : Int → Int} {wall : Time} (hw1 : ∀ i, w1 i = wall) (hw2 : ∀ i, w2 i = wall)
    (w4 : Time) (errs : List (Option String)) (apiErr : Option String) (apiRq : Bool) :
    Generated.Decisions.manageDeployment (some D) (some P) now nilSlice w1 w2 wall w4 errs apiErr apiRq =
      deployOut P p now w4 errs apiErr apiRq (Eds.manageDeployment p now wall (!errs.isEmpty)) := by
  obtain ⟨gsU, hU, hUrel⟩ := h.unscheduled
  exact src_manageDeployment D P p h.ann h.strategy h.newStatus h.replicaset h.canaryNodes h.maps h.nodup gsU hU hUrel
    h.cleanup now nilSlice w1 w2 wall hw1 hw2 w4 errs apiErr apiRq

/-- under these hypotheses the translated function panics exactly when the model does: a nil `SlowStartIntervalDuration`
or `MaxParallelPodCreation` (`calculateMaxCreation`) — never in the sort, the two slicings, the status writes. -/
theorem src_manageDeployment_panics_iff {D : GEds} {P : GParams} {p : StratParams} (h : DeployRel D P p)
    (now : Time) (nilSlice : Bool) {w1 w2 : Int → Int} {wall : Time} (hw1 : ∀ i, w1 i = wall) (hw2 : ∀ i, w2 i = wall)
    (w4 : Time) (errs : List (Option String)) (apiErr : Option String) (apiRq : Bool) :
    Generated.Decisions.manageDeployment (some D) (some P) now nilSlice w1 w2 wall w4 errs apiErr apiRq = none ↔
      Eds.manageDeployment p now wall (!errs.isEmpty) = .panic := by
  rw [src_manageDeployment_rel h now nilSlice hw1 hw2 w4 errs apiErr apiRq]
  cases Eds.manageDeployment p now wall (!errs.isEmpty) <;> simp [deployOut]

/-- nil dereferences: the daemonset (its annotations are read first), `params`. -/
theorem src_manageDeployment_nil_daemonset (P : Option GParams) (now : Time) (nilSlice : Bool) (w1 w2 : Int → Int)
    (w3 w4 : Time) (errs : List (Option String)) (apiErr : Option String) (apiRq : Bool) :
    Generated.Decisions.manageDeployment none P now nilSlice w1 w2 w3 w4 errs apiErr apiRq = none := rfl

theorem src_manageDeployment_nil_params (D : GEds) (now : Time) (nilSlice : Bool) (w1 w2 : Int → Int)
    (w3 w4 : Time) (errs : List (Option String)) (apiErr : Option String) (apiRq : Bool) :
    Generated.Decisions.manageDeployment (some D) none now nilSlice w1 w2 w3 w4 errs apiErr apiRq = none := rfl

/-- a successful run of the translated function (it returned a status) is a successful run of the model, whose result it
returns: the node lists as non-nil pointers in the model's order, the flags, the status, the unscheduled nodes. -/
theorem src_manageDeployment_ok {D : GEds} {P : GParams} {p : StratParams} (h : DeployRel D P p)
    (now : Time) (nilSlice : Bool) {w1 w2 : Int → Int} {wall : Time} (hw1 : ∀ i, w1 i = wall) (hw2 : ∀ i, w2 i = wall)
    (w4 : Time) (errs : List (Option String)) (apiErr : Option String) (apiRq : Bool)
    (R : GResult) (e : Option String) (P' : Option GParams)
    (hrun : Generated.Decisions.manageDeployment (some D) (some P) now nilSlice w1 w2 wall w4 errs apiErr apiRq =
      some (some R, e, P')) (hst : R.newStatus.isSome = true) :
    ∃ r, Eds.manageDeployment p now wall (!errs.isEmpty) = .ok r ∧
      R.podsToCreate = r.createE.map some ∧ R.podsToDelete = r.deleteE.map (fun x => some x.1) ∧
      R.isPaused = r.isPaused ∧ R.isFrozen = r.isFrozen ∧ R.newStatus = r.newStatus ∧
      R.unscheduledNodes = r.unscheduledNodes ∧ P' = some (paramsAfterDeploy P p now) := by
  rw [src_manageDeployment_rel h now nilSlice hw1 hw2 w4 errs apiErr apiRq] at hrun
  cases hm : Eds.manageDeployment p now wall (!errs.isEmpty) with
  | panic => simp [hm, deployOut] at hrun
  | err m =>
    simp only [hm, deployOut, Option.some.injEq, Prod.mk.injEq] at hrun
    obtain ⟨hR, _, _⟩ := hrun
    subst hR
    simp [stratResultOf] at hst
  | ok r =>
    simp only [hm, deployOut, Option.some.injEq, Prod.mk.injEq] at hrun
    obtain ⟨hR, _, hP⟩ := hrun
    subst hR
    exact ⟨r, rfl, rfl, rfl, rfl, rfl, rfl, rfl, hP.symm⟩

/-! ### Non-vacuity: a concrete instance of the hypotheses

Three nodes: `n1` runs an outdated, available pod, `n2` has no pod, `n3` is a canary node (dropped).  `maxUnavailable = 2`,
slow start 5 per minute: the model creates the pod of `n2` and deletes the pod of `n1`; desired 2, ready 0, so it asks for
a requeue.  The translated function is evaluated through the bridge (its sort is `List.mergeSort`, defined by
well-founded recursion, which the kernel does not unfold — the model's side is evaluated by `decide`). -/

def dStrategy : Strategy :=
  { rollingUpdate := { maxUnavailable := some (intVal 2), maxPodSchedulerFailure := some (intVal 0),
                       maxParallelPodCreation := some 250, slowStartInterval := some minute,
                       slowStartAdditiveIncrease := some (intVal 5) },
    canary := none, reconcileFrequency := none }

def dStatus : ERSStatus := { status := "", desired := 0, current := 0, ready := 0, available := 0, ignored := 0, conds := [] }

def dGoParams : GParams :=
  { strategy := some dStrategy, newStatus := some dStatus, edsName := "eds", replicaset := some rErs,
    canaryNodes := ["n3"],
    nodeByName := [("n1", some (rNode "n1")), ("n2", some (rNode "n2")), ("n3", some (rNode "n3"))],
    podByNodeName := [(some (rNode "n3"), none), (some (rNode "n1"), some rGoPod), (some (rNode "n2"), none)] }

def dModelParams : StratParams :=
  { edsName := "eds", edsAnnotations := [], strategy := dStrategy, ers := rErs, newStatus := dStatus,
    canaryNodes := ["n3"], byNode := [(rNode "n3", none), (rNode "n1", some rModelPod), (rNode "n2", none)],
    toCleanUp := [], unscheduled := [] }

def dEds : GEds := { (default : GEds) with annotations := [] }

theorem dDeployRel : DeployRel dEds dGoParams dModelParams where
  ann := rfl
  strategy := rfl
  newStatus := rfl
  replicaset := rfl
  canaryNodes := rfl
  maps :=
    { filed := filed_of_all _ (by decide +kernel)
      keys := by decide +kernel
      entries := .cons .none (.cons (.some rPodRel) (.cons .none .nil)) }
  nodup := by unfold KeysNodup; decide +kernel
  unscheduled := ⟨[], rfl, .nil⟩
  cleanup := rfl

/-- the pod lists (the node names of the non-nil node items), the requeue flag and the error of an outcome on the Go
side; the status, the counters `desired` and `ready`. -/
def goSummary (o : DeployOut) : Option (List (Option String) × List (Option String) × Bool × Option String) :=
  o.bind fun o => o.1.map fun r => (r.podsToCreate.map (·.map (·.node.name)), r.podsToDelete.map (·.map (·.node.name)),
    r.result.requeue, o.2.1)

def goStatus (o : DeployOut) : Option (String × Int × Int) :=
  o.bind fun o => o.1.bind fun r => r.newStatus.map fun s => (s.status, s.desired, s.ready)

/-- the bridge applied to the instance (no clean-up error, outside the label window: `w4` far after the start). -/
theorem ex_manageDeployment_bridge :
    Generated.Decisions.manageDeployment (some dEds) (some dGoParams) 100 false (fun _ => 100) (fun _ => 100) 100 900000000000 []
        none false =
      deployOut dGoParams dModelParams 100 900000000000 [] none false (Eds.manageDeployment dModelParams 100 100 false) :=
  src_manageDeployment_rel dDeployRel 100 false (fun _ => rfl) (fun _ => rfl) 900000000000 [] none false


/-- hence the translated function on the instance: the node item of `n2` to create a pod on, that of `n1` to delete the
pod of, a requeue (desired 2, ready 0), no error. -/
theorem ex_manageDeployment_eval :
    goSummary (Generated.Decisions.manageDeployment (some dEds) (some dGoParams) 100 false (fun _ => 100) (fun _ => 100)
        100 900000000000 [] none false) =
      some ([some "n2"], [some "n1"], true, none) ∧
    goStatus (Generated.Decisions.manageDeployment (some dEds) (some dGoParams) 100 false (fun _ => 100) (fun _ => 100)
        100 900000000000 [] none false) = some ("active", 2, 0) := by
  rw [ex_manageDeployment_bridge]
  decide +kernel

/-- inside the label window the API step decides the error and the requeue flag. -/
theorem ex_manageDeployment_window :
    goSummary (Generated.Decisions.manageDeployment (some dEds) (some dGoParams) 100 false (fun _ => 100) (fun _ => 100)
        100 101 [] (some "list failed") false) =
      some ([some "n2"], [some "n1"], false, some "list failed") := by
  rw [src_manageDeployment_rel dDeployRel 100 false (fun _ => rfl) (fun _ => rfl) 101 [] (some "list failed") false]
  decide +kernel

/-! **`KeysNodup` is necessary** (a property of the representation, not a defect of the code: a Go map cannot hold a key
twice).  In an association list that repeats the key of `n1` — first with an available outdated pod, then with an unavailable
one — the comparator's lookup `PodByNodeName[n1]` finds the first entry for both candidates: the translated sort puts `n2`
(unavailable) first and both `n1` after it, while the model, which keeps each candidate with its own pod, takes the
unavailable `n1` and `n2` before the available `n1`. -/

def rGoPodUnavail : GPod := { rGoPod with status := { rGoPod.status with conditions := [] } }

def rModelPodUnavail : Pod := { rModelPod with conds := [] }

def dupPB : List (Option NodeItem × Option GPod) :=
  [(some (rNode "n1"), some rGoPod), (some (rNode "n1"), some rGoPodUnavail), (some (rNode "n2"), some rGoPodUnavail)]

def dupEs : List (NodeItem × Option Pod) :=
  [(rNode "n1", some rModelPod), (rNode "n1", some rModelPodUnavail), (rNode "n2", some rModelPodUnavail)]

theorem keysNodup_needed :
    (Go.stableSortBy (fun a b =>
        Option.bind (Generated.Decisions.isPodAvailable (Go.mapGetD Go.nodeItemKey dupPB a none) 0 100 false) fun r38 =>
        Option.bind (if (!r38) then (Option.bind (Generated.Decisions.isPodAvailable (Go.mapGetD Go.nodeItemKey dupPB b none) 0 100 false) fun r39 =>
          some r39) else some false) fun c40 =>
        some c40)
      ((delOrder "new" 100 dupEs).map fun e => some e.1)).map (fun l => l.map fun a => a.map (·.node.name)) =
      some [some "n2", some "n1", some "n1"] ∧
    (((countAll "new" 100 dupEs).toDeleteUnavail ++ (countAll "new" 100 dupEs).toDeleteAvail).map fun e => e.1.node.name) =
      ["n1", "n2", "n1"] ∧
    ¬ KeysNodup dupEs := by
  refine ⟨?_, by decide +kernel, by unfold KeysNodup; decide +kernel⟩
  have hx : ((delOrder "new" 100 dupEs).map fun e => some e.1) = [some (rNode "n1"), some (rNode "n1"), some (rNode "n2")] := by
    rfl
  rw [hx, Go.stableSortBy_twoClass _ (fun a =>
    (Generated.Decisions.isPodAvailable (Go.mapGetD Go.nodeItemKey dupPB a none) 0 100 false).getD false)]
  · rfl
  · intro a ha b hb
    simp only [List.mem_cons, List.mem_nil_iff, or_false] at ha hb
    rcases ha with rfl | rfl | rfl <;> rcases hb with rfl | rfl | rfl <;> rfl

end Eds.Bridge
