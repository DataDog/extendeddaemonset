import EdsModel.Generated.DecConds
import EdsModel.EdsCtl
import EdsModel.ReconcileErs
/-
  EdsProofs.BridgeConds — the hand-written model functions the property theorems are stated about are
  *equal* to the Lean definitions the translator (tools/extract/gotolean.go) regenerates from the Go
  source on every run (EdsModel/Generated/DecConds.lean).  A change to one of these Go functions
  changes the generated definition and breaks the corresponding `src_*` theorem.

  The file covers the small functions the controllers and strategies share: the condition lists of the two status
  types (index, get, is-true, new, update, error condition); the role of a replica set and `IsCanaryActive`; the pod
  helpers of pkg/controller/utils/pod (restart counts and reasons, cannot-start and pending-create, readiness and
  availability); the node name read from a pod's affinity and `HasPodSchedulerIssue`.  One finding: the two
  restart functions panic on a `lastState` the API schema allows (`findingPod`).

  `none` on the generated side is a Go panic; every theorem therefore also says that the function
  does not panic on the stated arguments (non-nil where the callers pass non-nil).
-/
namespace Eds.Bridge
open Eds

/-! ### how the translator renders a value computed on two paths, and Go's `&&` / `||` with a right operand that may panic -/

theorem ite_some_some {α : Type} (c : Prop) [Decidable c] (x y : α) :
    (if c then some x else some y) = some (if c then x else y) := by
  split <;> rfl

theorem ite_some_and (b x : Bool) : (if b = true then some x else some false) = some (b && x) := by cases b <;> rfl
theorem ite_some_or (c d : Bool) : (if c = true then some true else some d) = some (c || d) := by cases c <;> rfl

/-! ### the condition lists (controllers/extendeddaemonsetreplicaset/conditions, controllers/extendeddaemonset/conditions)

The two packages are the same code over two status types.  What the index, get and is-true functions compute on the
condition list is stated once, on lists, and instantiated by the `src_*` theorems of the two packages.  For
`Update…StatusCondition` the steps on lists are shared (`condIndex_split`, `index_at`, `setIndex_at`, `cond_write`,
`updateFirst_at`); the two proofs apply them in the same order, each to the constructor of its own status record. -/

/-- the `range` loop of `GetIndexForConditionType`, started at index `i`, for either translation of it (`loop` with its
two defining equations). -/
theorem indexLoop (loop : String → (Unit → Option Int) → List Cond → Int → Option Int)
    (hnil : ∀ t k i, loop t k [] i = k ())
    (hcons : ∀ t k c cs i, loop t k (c :: cs) i = if c.type == t then some i else loop t k cs (i + 1))
    (t : String) (k : Unit → Option Int) (cs : List Cond) (i : Int) :
    loop t k cs i =
      match cs.findIdx? (fun c => c.type == t) with
      | some j => some (i + (j : Int))
      | none => k () := by
  induction cs generalizing i with
  | nil => simp [hnil]
  | cons c rest ih =>
    simp only [hcons, List.findIdx?_cons]
    by_cases h : (c.type == t) = true
    · simp [h]
    · simp only [h, Bool.false_eq_true, if_false, ih]
      cases List.findIdx? (fun c => c.type == t) rest with
      | none => simp
      | some j => simp; omega

theorem condIndex_of_loop (loop : String → (Unit → Option Int) → List Cond → Int → Option Int)
    (hnil : ∀ t k i, loop t k [] i = k ())
    (hcons : ∀ t k c cs i, loop t k (c :: cs) i = if c.type == t then some i else loop t k cs (i + 1))
    (t : String) (cs : List Cond) : loop t (fun _ => some (-1)) cs 0 = some (Go.condIndex cs t) := by
  rw [indexLoop loop hnil hcons, Go.condIndex]
  cases List.findIdx? (fun c => c.type == t) cs <;> simp

theorem src_getIndexForConditionType (st : ERSStatus) (t : String) :
    Generated.Decisions.getIndexForConditionType (some st) t = some (Go.condIndex st.conds t) :=
  condIndex_of_loop _ (fun _ _ _ => rfl) (fun _ _ _ _ _ => rfl) t st.conds

theorem src_getIndexForConditionType_nil (t : String) :
    Generated.Decisions.getIndexForConditionType none t = some (-1) := rfl

theorem src_getEDSIndexForConditionType (st : EDSStatus) (t : String) :
    Generated.Decisions.getEDSIndexForConditionType (some st) t = some (Go.condIndex st.conds t) :=
  condIndex_of_loop _ (fun _ _ _ => rfl) (fun _ _ _ _ _ => rfl) t st.conds

theorem src_getEDSIndexForConditionType_nil (t : String) :
    Generated.Decisions.getEDSIndexForConditionType none t = some (-1) := rfl

/-- where `GetIndexForConditionType` points: the list splits around the first entry of the type. -/
theorem condIndex_split {cs : List Cond} {t : String} {c : Cond} (h : findCond cs t = some c) :
    ∃ pre post, cs = pre ++ c :: post ∧ (∀ x ∈ pre, (x.type == t) = false) ∧ (c.type == t) = true ∧
      Go.condIndex cs t = (pre.length : Int) := by
  induction cs with
  | nil => simp [findCond] at h
  | cons x xs ih =>
    unfold findCond at h ih
    by_cases hx : (x.type == t) = true
    · simp only [List.find?, hx] at h
      cases h
      exact ⟨[], xs, rfl, by simp, hx, by simp [Go.condIndex, List.findIdx?_cons, hx]⟩
    · simp only [List.find?, hx] at h
      obtain ⟨pre, post, hcs, hpre, hc, hi⟩ := ih h
      refine ⟨x :: pre, post, by simp [hcs], ?_, hc, ?_⟩
      · intro y hy
        rcases List.mem_cons.mp hy with rfl | hy
        · simpa using hx
        · exact hpre y hy
      · unfold Go.condIndex at hi ⊢
        simp only [List.findIdx?_cons, hx]
        cases hj : List.findIdx? (fun c => c.type == t) xs with
        | none => simp [hj] at hi
        | some j => simp [hj] at hi ⊢; omega

theorem condIndex_none {cs : List Cond} {t : String} (h : findCond cs t = none) : Go.condIndex cs t = -1 := by
  unfold findCond at h
  unfold Go.condIndex
  have : List.findIdx? (fun c => c.type == t) cs = none := by
    rw [List.findIdx?_eq_none_iff]
    intro x hx
    have := List.find?_eq_none.mp h x hx
    simpa using this
  simp [this]

theorem index_at {α} (pre : List α) (c : α) (post : List α) :
    Go.index (pre ++ c :: post) (pre.length : Int) = some c := by
  unfold Go.index
  have : ¬ ((pre.length : Int) < 0) := by omega
  simp [this]

theorem setIndex_at {α} (pre : List α) (c v : α) (post : List α) :
    Go.setIndex (pre ++ c :: post) (pre.length : Int) v = some (pre ++ v :: post) := by
  unfold Go.setIndex
  have : ¬ ((pre.length : Int) < 0) := by omega
  simp [this]

theorem updateFirst_at (pre : List Cond) (c : Cond) (post : List Cond) (t : String) (f : Cond → Cond)
    (hpre : ∀ x ∈ pre, (x.type == t) = false) (hc : (c.type == t) = true) :
    updateFirst (pre ++ c :: post) t f = pre ++ f c :: post := by
  induction pre with
  | nil => simp [updateFirst, hc]
  | cons x xs ih =>
    have hx : (x.type == t) = false := hpre x (by simp)
    have := ih (fun y hy => hpre y (by simp [hy]))
    simp [updateFirst, hx, this]

theorem index_condIndex (cs : List Cond) (t : String) (c : Cond) (h : findCond cs t = some c) :
    Go.index cs (Go.condIndex cs t) = some c := by
  obtain ⟨pre, post, hcs, _, _, hi⟩ := condIndex_split h
  rw [hi, hcs, index_at]

/-- `Get…StatusCondition` on the list: the entry at the index found, if any. -/
theorem condIndex_get (cs : List Cond) (t : String) :
    (if (Go.condIndex cs t == -1) = true then some none
      else (Go.index cs (Go.condIndex cs t)).bind fun e => some (some e)) = some (findCond cs t) := by
  cases h : findCond cs t with
  | none => simp [condIndex_none h]
  | some c =>
    obtain ⟨pre, _, _, _, _, hi⟩ := condIndex_split h
    have hne : ¬ ((pre.length : Int) = -1) := by omega
    rw [index_condIndex cs t c h, hi]
    simp [hne]

theorem isCondTrue_findCond {cs : List Cond} {t : String} (h : isCondTrue cs t = true) :
    ∃ c, findCond cs t = some c ∧ c.status = "True" := by
  unfold isCondTrue at h
  split at h
  · next c hc => exact ⟨c, hc, by simpa using h⟩
  · simp at h

/-- `IsConditionTrue` on what `Get…StatusCondition` returned. -/
theorem condTrue_of_get (o : Option Cond) :
    (Option.bind (if o.isSome = true then o.bind fun c => some (c.status == "True") else some false) fun c3 =>
      if c3 = true then some true else some false) =
      some (match o with | some c => c.status == "True" | none => false) := by
  rcases o with _ | c
  · rfl
  · cases h : (c.status == "True") <;> simp [h]

theorem src_getERSCondition (st : ERSStatus) (t : String) :
    Generated.Decisions.getERSCondition (some st) t = some (findCond st.conds t) := by
  unfold Generated.Decisions.getERSCondition
  simp only [src_getIndexForConditionType, Option.bind_some]
  exact condIndex_get st.conds t

theorem src_getERSCondition_nil (t : String) :
    Generated.Decisions.getERSCondition none t = some none := rfl

theorem src_isERSConditionTrue (st : ERSStatus) (t : String) :
    Generated.Decisions.isERSConditionTrue (some st) t = some (isCondTrue st.conds t) := by
  unfold Generated.Decisions.isERSConditionTrue
  rw [src_getERSCondition]
  exact condTrue_of_get _

theorem src_isERSConditionTrue_nil (t : String) :
    Generated.Decisions.isERSConditionTrue none t = some false := rfl

theorem src_newERSCondition (t st : String) (now : Time) (reason msg : String) (b : Bool) :
    Generated.Decisions.newERSCondition t st now reason msg b =
      some { type := t, status := st, lastTransition := now, lastUpdate := now, reason := reason, message := msg } := rfl

/-- a conditional write through the index of a status record `mk l`: the test moves into the entry written. -/
theorem cond_write {S β : Type} (mk : List Cond → S) (b : Bool) (pre post : List Cond) (x y : Cond) (K : S → Option β) :
    (if b = true then some (mk (pre ++ x :: post)) else some (mk (pre ++ y :: post))).bind K =
      K (mk (pre ++ (if b = true then x else y) :: post)) := by
  cases b <;> rfl

theorem src_updateERSCondition (st : ERSStatus) (now : Time) (t cs reason desc : String) (w s : Bool) :
    Generated.Decisions.updateERSCondition (some st) now t cs reason desc w s =
      some (some { st with conds := updateCond st.conds now t cs reason desc w s }) := by
  unfold Generated.Decisions.updateERSCondition updateCond
  simp only [src_getIndexForConditionType, Option.bind_some]
  cases h : findCond st.conds t with
  | none =>
    rw [condIndex_none h]
    cases (cs == "True" || w) <;> rfl
  | some c =>
    obtain ⟨pre, post, hcs, hpre, hc, hi⟩ := condIndex_split h
    have hge : ((pre.length : Int) ≥ 0) := by omega
    rcases st with ⟨a1, a2, a3, a4, a5, a6, conds⟩
    simp only at hcs hi ⊢
    subst hcs
    -- each of the three conditional writes through the index becomes a test inside the entry: the function `updateFirst` applies
    simp only [hi, hge, decide_true, if_true, Option.bind_some, index_at, setIndex_at,
      cond_write (fun l => (⟨a1, a2, a3, a4, a5, a6, l⟩ : ERSStatus)), updateFirst_at pre c post t _ hpre hc]

/-- on a nil status the function panics exactly when it would append (the callers pass `&x.Status`). -/
theorem src_updateERSCondition_nil (now : Time) (t cs reason desc : String) (w s : Bool) :
    Generated.Decisions.updateERSCondition none now t cs reason desc w s =
      if cs == "True" || w then none else some none := by
  unfold Generated.Decisions.updateERSCondition
  simp only [src_getIndexForConditionType_nil, Option.bind_some]
  cases (cs == "True" || w) <;> rfl

/-- `UpdateErrorCondition` of the replica set: the `ReconcileError` condition follows `err != nil`. -/
theorem src_updateERSErrorCondition (st : ERSStatus) (now : Time) (err : Option String) (desc : String) :
    Generated.Decisions.updateERSErrorCondition (some st) now err desc =
      some (some { st with conds := updateCond st.conds now "ReconcileError" (boolCond err.isSome) "" desc false true }) := by
  unfold Generated.Decisions.updateERSErrorCondition
  cases err <;> simp only [src_updateERSCondition, Option.isSome_some, Option.isSome_none, if_true, if_false,
    Bool.false_eq_true, Option.bind_some] <;> rfl

theorem src_getEDSCondition (st : EDSStatus) (t : String) :
    Generated.Decisions.getEDSCondition (some st) t = some (findCond st.conds t) := by
  unfold Generated.Decisions.getEDSCondition
  simp only [src_getEDSIndexForConditionType, Option.bind_some]
  exact condIndex_get st.conds t

theorem src_getEDSCondition_nil (t : String) :
    Generated.Decisions.getEDSCondition none t = some none := rfl

theorem src_isEDSConditionTrue (st : EDSStatus) (t : String) :
    Generated.Decisions.isEDSConditionTrue (some st) t = some (isCondTrue st.conds t) := by
  unfold Generated.Decisions.isEDSConditionTrue
  rw [src_getEDSCondition]
  exact condTrue_of_get _

theorem src_isEDSConditionTrue_nil (t : String) :
    Generated.Decisions.isEDSConditionTrue none t = some false := rfl

/-- how `UpdateExtendedDaemonSetStatusCondition` reads its options (note the inverted name:
`writeFalseIfNotExist = options.IgnoreFalseConditionIfNotExist`). -/
def optWriteFalse (o : Option GUpdateConditionOptions) : Bool :=
  match o with | some o => o.ignoreFalseConditionIfNotExist | none => false
def optSupportLastUpdate (o : Option GUpdateConditionOptions) : Bool :=
  match o with | some o => o.supportLastUpdate | none => false

theorem src_updateEDSCondition (st : EDSStatus) (now : Time) (t cs reason desc : String)
    (o : Option GUpdateConditionOptions) :
    Generated.Decisions.updateEDSCondition (some st) now t cs reason desc o =
      some (some { st with conds := updateCond st.conds now t cs reason desc (optWriteFalse o) (optSupportLastUpdate o) }) := by
  unfold Generated.Decisions.updateEDSCondition updateCond
  have hopt : (if o.isSome = true then
        o.bind fun o1 => some (o1.supportLastUpdate, o1.ignoreFalseConditionIfNotExist)
      else some (false, false)) = some (optSupportLastUpdate o, optWriteFalse o) := by
    cases o <;> rfl
  simp only [hopt, src_getEDSIndexForConditionType, Option.bind_some]
  generalize optWriteFalse o = w
  generalize optSupportLastUpdate o = s
  cases h : findCond st.conds t with
  | none =>
    rw [condIndex_none h]
    cases (cs == "True" || w) <;> rfl
  | some c =>
    obtain ⟨pre, post, hcs, hpre, hc, hi⟩ := condIndex_split h
    have hge : ((pre.length : Int) ≥ 0) := by omega
    rcases st with ⟨a1, a2, a3, a4, a5, a6, a7, a8, a9, a10, conds⟩
    simp only at hcs hi ⊢
    subst hcs
    simp only [hi, hge, decide_true, if_true, Option.bind_some, index_at, setIndex_at,
      cond_write (fun l => (⟨a1, a2, a3, a4, a5, a6, a7, a8, a9, a10, l⟩ : EDSStatus)),
      updateFirst_at pre c post t _ hpre hc]

/-- `UpdateErrorCondition` of the ExtendedDaemonSet. -/
theorem src_updateEDSErrorCondition (st : EDSStatus) (now : Time) (err : Option String) (desc : String) :
    Generated.Decisions.updateEDSErrorCondition (some st) now err desc =
      some (some { st with conds := updateCond st.conds now "ReconcileError" (boolCond err.isSome) "" desc false true }) := by
  unfold Generated.Decisions.updateEDSErrorCondition
  cases err <;> simp only [src_updateEDSCondition, Option.isSome_some, Option.isSome_none, if_true, if_false,
    Bool.false_eq_true, Option.bind_some] <;> rfl

/-! ### the role of a replica set, and whether a canary is running -/

/-- `retrieveReplicaSetStatus` is the model's `ersRole`, for every Go object with the status the model reads. -/
theorem src_retrieveReplicaSetStatus (g : GEds) (d : EDS) (h : g.status = d.status) (n : String) :
    Generated.Decisions.retrieveReplicaSetStatus (some g) n = some (ersRole d n) := by
  unfold Generated.Decisions.retrieveReplicaSetStatus ersRole
  simp only [Option.bind_some, h]
  by_cases h1 : d.status.activeReplicaSet = ""
  · simp [h1]
  · by_cases h2 : d.status.activeReplicaSet = n
    · subst h2; simp [h1]
    · cases hc : d.status.canary with
      | none => simp [h1, h2]
      | some c => by_cases h3 : c.replicaSet = n <;> simp [h1, h2, h3]

theorem src_isCanaryActive (g : GEds) (a u : String) (failed : Bool) :
    Generated.Decisions.isCanaryActive (some g) a u failed =
      some (Eds.isCanaryActive g.spec.strategy.canary a u failed) := by
  unfold Generated.Decisions.isCanaryActive Eds.isCanaryActive
  cases hc : g.spec.strategy.canary <;> cases failed <;> by_cases h : a = u <;> simp [h, hc]

/-! ### pod helpers (pkg/controller/utils/pod/pod.go)

The translated functions work on the Go-side records (`GPod`, `GContainerStatus`, …); the model works on the
harness's canonical form.  `Go.canonCstat` / `Go.canonCstats` / `Go.canonPodConds` (EdsModel/GoPrelude.lean) are
`harness/canon` written as Lean functions, so each theorem reads: the Go function applied to a pod equals the
model function applied to the canonical form of that pod. -/

theorem src_containerStatusList (p : GPod) :
    Generated.Decisions.containerStatusList (some p) =
      some (p.status.containerStatuses ++ p.status.initContainerStatuses ++ p.status.ephemeralContainerStatuses) := rfl

/-- one iteration of the model's `mostRecentRestart`. -/
def mrStep (acc : Time × String) (s : ContainerStatus) : Time × String :=
  match s.lastTerm with
  | some t =>
    if s.restarts != 0 && t.finishedAt > acc.1 then
      (t.finishedAt, if t.reason != "" then t.reason else "Unknown")
    else acc
  | none => acc

theorem mostRecentRestart_fold (cs : List ContainerStatus) : Eds.mostRecentRestart cs = cs.foldl mrStep (zeroTime, "") := rfl

/-- `Go.lastStateWF` as a Boolean. -/
def lastStateOk (s : GContainerStatus) : Bool :=
  s.restartCount == 0 || s.lastTerminationState == Go.zeroState || s.lastTerminationState.terminated.isSome

theorem lastStateOk_iff (s : GContainerStatus) : lastStateOk s = true ↔ Go.lastStateWF s := by
  unfold lastStateOk Go.lastStateWF
  by_cases h0 : s.restartCount = 0 <;> by_cases hz : s.lastTerminationState = Go.zeroState <;> simp [h0, hz]

/-- `MostRecentRestart` panics exactly on a status that is not `lastStateOk`, and is the model's fold otherwise. -/
theorem mostRecentLoop_exact (k : String → Int → Option (Int × String)) (l : List GContainerStatus) (i : Int)
    (reason : String) (rt : Int) :
    Generated.Decisions.mostRecentRestart.loop1 k l i reason rt =
      if l.all lastStateOk then
        k ((l.map Go.canonCstat).foldl mrStep (rt, reason)).2 ((l.map Go.canonCstat).foldl mrStep (rt, reason)).1
      else none := by
  induction l generalizing i reason rt with
  | nil => rfl
  | cons s rest ih =>
    simp only [Generated.Decisions.mostRecentRestart.loop1, List.map_cons, List.foldl_cons, List.all_cons]
    rcases s with ⟨name, state, ⟨w, r, tm⟩, cnt⟩
    by_cases h0 : cnt = 0
    · -- no restart: Go's guard fails, and `mrStep` keeps its accumulator by its own test on `restarts`
      subst h0
      cases tm <;> simp [-List.all_eq_true, mrStep, Go.canonCstat, lastStateOk] <;> exact ih _ _ _
    · cases tm with
      | none =>
        by_cases hz : (⟨w, r, none⟩ : GContainerState) = Go.zeroState
        · -- `lastState` unset: the guard fails; the canonical form has no `lastTerm`
          simp [-List.all_eq_true, hz, Go.zeroState, mrStep, Go.canonCstat, lastStateOk]
          exact ih _ _ _
        · -- `lastState` set, but not to `terminated`: Go dereferences the nil pointer
          have hb : ((⟨w, r, none⟩ : GContainerState) != ⟨none, none, none⟩) = true := by
            simpa [Go.zeroState] using hz
          simp [h0, hb, hz, lastStateOk]
      | some t =>
        -- `terminated` set: Go's tests on `FinishedAt` and `Reason` are those of `mrStep`
        by_cases hgt : t.finishedAt > rt <;> by_cases hr : t.reason = "" <;>
          simp [-List.all_eq_true, h0, hgt, hr, mrStep, Go.canonCstat, lastStateOk] <;> exact ih _ _ _

/-- one iteration of the model's `highestRestart`. -/
def hrStep (acc : Int × String) (s : ContainerStatus) : Int × String :=
  if s.restarts > acc.1 then
    (s.restarts,
      match s.lastTerm with
      | some t => if !t.empty && t.reason != "" then t.reason else "Unknown"
      | none => "Unknown")
  else acc

theorem highestRestart_fold (cs : List ContainerStatus) : highestRestart cs = cs.foldl hrStep (0, "") := rfl

/-- exactly the statuses `HighestRestartCount` dereferences `LastTerminationState.Terminated` of (those that
raise the running maximum `rc`) have a `lastState` that is unset or set to `terminated`. -/
def hrSafe : List GContainerStatus → Int → Bool
  | [], _ => true
  | s :: rest, rc =>
    if s.restartCount > rc then
      (s.lastTerminationState == Go.zeroState || s.lastTerminationState.terminated.isSome) &&
        hrSafe rest s.restartCount
    else hrSafe rest rc

theorem hrSafe_of_wf (l : List GContainerStatus) (rc : Int) (hrc : 0 ≤ rc) (hwf : ∀ s ∈ l, Go.lastStateWF s) :
    hrSafe l rc = true := by
  induction l generalizing rc with
  | nil => rfl
  | cons s rest ih =>
    unfold hrSafe
    have hrest : ∀ x ∈ rest, Go.lastStateWF x := fun x hx => hwf x (by simp [hx])
    split
    · next h =>
      have h1 := hwf s (by simp) (by omega)
      have h2 := ih s.restartCount (by omega) hrest
      by_cases hz : s.lastTerminationState = Go.zeroState
      · simp [hz, h2]
      · simp [h1 hz, h2]
    · exact ih _ hrc hrest

theorem highestLoop_exact (k : String → Int → Option (Int × String)) (l : List GContainerStatus) (i : Int)
    (reason : String) (rc : Int) :
    Generated.Decisions.highestRestartCount.loop1 k l i reason rc =
      if hrSafe l rc then
        k ((l.map Go.canonCstat).foldl hrStep (rc, reason)).2 ((l.map Go.canonCstat).foldl hrStep (rc, reason)).1
      else none := by
  induction l generalizing i reason rc with
  | nil => simp [Generated.Decisions.highestRestartCount.loop1, hrSafe]
  | cons s rest ih =>
    simp only [Generated.Decisions.highestRestartCount.loop1, List.map_cons, List.foldl_cons]
    rcases s with ⟨name, state, ⟨w, r, tm⟩, cnt⟩
    by_cases hgt : cnt > rc
    · cases tm with
      | none =>
        by_cases hz : (⟨w, r, none⟩ : GContainerState) = Go.zeroState
        · -- a new maximum with `lastState` unset: reason "Unknown" on both sides
          simp [hgt, hz, Go.zeroState, hrStep, Go.canonCstat, hrSafe]
          exact ih _ _ _
        · -- a new maximum with `lastState` set, but not to `terminated`: Go dereferences the nil pointer
          have hb : ((⟨w, r, none⟩ : GContainerState) != ⟨none, none, none⟩) = true := by
            simpa [Go.zeroState] using hz
          simp [hgt, hb, hrSafe, hz]
      | some t =>
        -- `terminated` set: Go compares it with the zero struct, the canonical form carries that test as `empty`
        by_cases ht : t = Go.zeroTerminated
        · subst ht
          simp [hgt, Go.zeroState, Go.zeroTerminated, hrStep, Go.canonCstat, hrSafe]
          exact ih _ _ _
        · have ht' := ht
          unfold Go.zeroTerminated at ht'
          by_cases hr : t.reason = "" <;>
            simp [hgt, Go.zeroState, Go.zeroTerminated, hrStep, Go.canonCstat, ht', hr, hrSafe] <;> exact ih _ _ _
    · -- not above the running maximum: skipped on both sides, whatever `lastState` holds
      simp [hgt, hrStep, Go.canonCstat, hrSafe]
      exact ih _ _ _

theorem src_cannotStartReasons : Generated.Decisions.cannotStartReasons = Eds.cannotStartReasons := rfl

theorem src_isCannotStartReason (r : String) :
    Generated.Decisions.isCannotStartReason r = some (Eds.cannotStartReasons.contains r) := rfl

theorem src_convertReason (r : String) :
    Generated.Decisions.convertReasonToEDSStatusReason r = some (convertReason r) := by
  unfold Generated.Decisions.convertReasonToEDSStatusReason convertReason knownStatusReasons
  simp only [List.contains_cons, List.contains_nil, Bool.or_false, Bool.or_assoc, apply_ite some]

/-- the predicate of the model's `cannotStart`. -/
def csPred (s : ContainerStatus) : Bool :=
  match s.waiting with
  | some r => Eds.cannotStartReasons.contains r
  | none => false

theorem cannotStart_find (cs : List ContainerStatus) :
    Eds.cannotStart cs = match cs.find? csPred with
      | some s => (true, convertReason (s.waiting.getD ""))
      | none => (false, "Unknown") := rfl

theorem cannotStartLoop (k : Unit → Option (Bool × String)) (l : List GContainerStatus) (i : Int) :
    Generated.Decisions.cannotStart.loop1 k l i =
      match (l.map Go.canonCstat).find? csPred with
      | some s => some (true, convertReason (s.waiting.getD ""))
      | none => k () := by
  induction l generalizing i with
  | nil => simp [Generated.Decisions.cannotStart.loop1]
  | cons s rest ih =>
    simp only [Generated.Decisions.cannotStart.loop1, List.map_cons, List.find?_cons, src_isCannotStartReason,
      src_convertReason]
    cases hw : s.state.waiting with
    | none =>
      have hp : csPred (Go.canonCstat s) = false := by simp [csPred, Go.canonCstat, hw]
      simp only [hp, Option.isSome_none, Bool.false_eq_true, if_false, Option.bind_some]
      exact ih _
    | some wt =>
      have hp : csPred (Go.canonCstat s) = Eds.cannotStartReasons.contains wt.reason := by
        simp [csPred, Go.canonCstat, hw]
      have hg : (Go.canonCstat s).waiting.getD "" = wt.reason := by simp [Go.canonCstat, hw]
      simp only [hp, Option.isSome_some, if_true, Option.bind_some]
      cases h : Eds.cannotStartReasons.contains wt.reason with
      | true => simp only [if_true, hg]
      | false => simp only [Bool.false_eq_true, if_false]; exact ih _

theorem src_cannotStart (p : GPod) :
    Generated.Decisions.cannotStart (some p) = some (Eds.cannotStart (Go.canonCstats p)) := by
  unfold Generated.Decisions.cannotStart
  simp only [src_containerStatusList, Option.bind_some, cannotStartLoop, cannotStart_find, Go.canonCstats]
  cases List.find? csPred (List.map Go.canonCstat
    (p.status.containerStatuses ++ p.status.initContainerStatuses ++ p.status.ephemeralContainerStatuses)) <;> rfl

theorem pendingCreateLoop (k : Unit → Option Bool) (l : List GContainerStatus) (i : Int) :
    Generated.Decisions.pendingCreate.loop1 k l i =
      if (l.map Go.canonCstat).any (fun s => s.waiting == some "ContainerCreating") then some true else k () := by
  induction l generalizing i with
  | nil => simp [Generated.Decisions.pendingCreate.loop1]
  | cons s rest ih =>
    simp only [Generated.Decisions.pendingCreate.loop1, List.map_cons, List.any_cons]
    cases hw : s.state.waiting with
    | none =>
      have hp : ((Go.canonCstat s).waiting == some "ContainerCreating") = false := by simp [Go.canonCstat, hw]
      simp only [hp, Option.isSome_none, Bool.false_eq_true, if_false, Option.bind_some, Bool.false_or]
      exact ih _
    | some wt =>
      have hp : ((Go.canonCstat s).waiting == some "ContainerCreating") = (wt.reason == "ContainerCreating") := by
        simp [Go.canonCstat, hw]
      simp only [hp, Option.isSome_some, if_true, Option.bind_some]
      cases h : (wt.reason == "ContainerCreating") with
      | true => simp
      | false => simp only [Bool.false_eq_true, if_false, Bool.false_or]; exact ih _

theorem src_pendingCreate (p : GPod) :
    Generated.Decisions.pendingCreate (some p) = some (Eds.pendingCreate (Go.canonCstats p)) := by
  unfold Generated.Decisions.pendingCreate Eds.pendingCreate
  simp only [src_containerStatusList, Option.bind_some, pendingCreateLoop, Go.canonCstats]
  cases List.any (List.map Go.canonCstat
    (p.status.containerStatuses ++ p.status.initContainerStatuses ++ p.status.ephemeralContainerStatuses))
    (fun s => s.waiting == some "ContainerCreating") <;> rfl

/-- the hypothesis of the two restart bridges: what the kubelet writes into `lastState` (see the finding below). -/
def podLastStatesWF (p : GPod) : Prop :=
  ∀ s ∈ p.status.containerStatuses ++ p.status.initContainerStatuses ++ p.status.ephemeralContainerStatuses,
    Go.lastStateWF s

/-- `HighestRestartCount` panics exactly on `¬ hrSafe`, and is the model's function otherwise. -/
theorem src_highestRestartCount_exact (p : GPod) :
    Generated.Decisions.highestRestartCount (some p) =
      if hrSafe (p.status.containerStatuses ++ p.status.initContainerStatuses ++ p.status.ephemeralContainerStatuses) 0
      then some (highestRestart (Go.canonCstats p)) else none := by
  unfold Generated.Decisions.highestRestartCount
  simp only [src_containerStatusList, Option.bind_some, highestRestart_fold, Go.canonCstats, highestLoop_exact]

theorem src_highestRestartCount (p : GPod) (hwf : podLastStatesWF p) :
    Generated.Decisions.highestRestartCount (some p) = some (highestRestart (Go.canonCstats p)) := by
  rw [src_highestRestartCount_exact, hrSafe_of_wf _ 0 (by omega) hwf]
  rfl

theorem src_mostRecentRestart (p : GPod) (hwf : podLastStatesWF p) :
    Generated.Decisions.mostRecentRestart (some p) = some (Eds.mostRecentRestart (Go.canonCstats p)) := by
  unfold Generated.Decisions.mostRecentRestart
  simp only [src_containerStatusList, Option.bind_some, mostRecentRestart_fold, Go.canonCstats]
  rw [mostRecentLoop_exact, if_pos]
  exact List.all_eq_true.mpr fun s hs => (lastStateOk_iff s).mpr (hwf s hs)

/-! **Finding (hypothesis `podLastStatesWF` is necessary).**  A container status with a restart and a
`lastState` that is set but not to `terminated` (e.g. `lastState.running`) makes both Go functions dereference
the nil `LastTerminationState.Terminated`: they panic, while `harness/canon` drops such a `lastState` and the
model answers `(1, "Unknown")` / `(zeroTime, "")`.  The API schema allows the object; the kubelet only ever
writes `terminated` into `lastState`. -/

def findingPod : GPod :=
  { name := "p", ns := "ns", creationTimestamp := 0, deletionTimestamp := none, deletionGracePeriodSeconds := none,
    spec := { nodeName := "n", affinity := none },
    status := { phase := "Running", conditions := [], reason := "", startTime := none, initContainerStatuses := [],
                ephemeralContainerStatuses := [],
                containerStatuses := [{ name := "c", state := Go.zeroState, restartCount := 1,
                                        lastTerminationState := { waiting := none, running := some { startedAt := 0 },
                                                                  terminated := none } }] } }

theorem finding_highestRestartCount_panics :
    Generated.Decisions.highestRestartCount (some findingPod) = none ∧
    highestRestart (Go.canonCstats findingPod) = (1, "Unknown") := by
  decide +kernel

theorem finding_mostRecentRestart_panics :
    Generated.Decisions.mostRecentRestart (some findingPod) = none ∧
    Eds.mostRecentRestart (Go.canonCstats findingPod) = (zeroTime, "") := by
  decide +kernel

theorem src_mostRecentRestart_panics_iff (p : GPod) :
    Generated.Decisions.mostRecentRestart (some p) = none ↔ ¬ podLastStatesWF p := by
  unfold Generated.Decisions.mostRecentRestart podLastStatesWF
  simp only [src_containerStatusList, Option.bind_some, mostRecentLoop_exact, ← lastStateOk_iff, ← List.all_eq_true]
  cases List.all _ lastStateOk <;> simp


/-! ### readiness / availability -/

/-- what the index loop of `GetPodConditionFromList` computes from position `i` on. -/
def findFrom (ct : String) : List GPodCondition → Int → Int × Option GPodCondition
  | [], _ => (-1, none)
  | c :: rest, i => if c.type == ct then (i, some c) else findFrom ct rest (i + 1)

theorem findFrom_snd (ct : String) (l : List GPodCondition) (i : Int) :
    (findFrom ct l i).2 = l.find? (fun c => c.type == ct) := by
  induction l generalizing i with
  | nil => rfl
  | cons c rest ih =>
    simp only [findFrom, List.find?_cons]
    cases h : (c.type == ct) <;> simp [ih]

theorem findFrom_fst (ct : String) (l : List GPodCondition) (i : Int) (hi : 0 ≤ i) :
    ((findFrom ct l i).1 == -1) = (l.find? (fun c => c.type == ct)).isNone := by
  induction l generalizing i with
  | nil => rfl
  | cons c rest ih =>
    simp only [findFrom, List.find?_cons]
    cases (c.type == ct)
    · exact ih (i + 1) (by omega)
    · have : ¬ i = -1 := by omega
      simp [this]

/-- the loop `for i := range conditions { … conditions[i] … }`: the index expressions never panic. -/
theorem podCondLoop (ct : String) (pre suf : List GPodCondition) :
    Generated.Decisions.getPodConditionFromList.loop1 ct (pre ++ suf) (fun _ => some (-1, none)) suf (pre.length : Int) =
      some (findFrom ct suf (pre.length : Int)) := by
  induction suf generalizing pre with
  | nil => simp [Generated.Decisions.getPodConditionFromList.loop1, findFrom]
  | cons c rest ih =>
    simp only [Generated.Decisions.getPodConditionFromList.loop1, index_at, Option.bind_some, findFrom]
    cases h : (c.type == ct) with
    | true => simp
    | false =>
      simp only [Bool.false_eq_true, if_false]
      have := ih (pre ++ [c])
      simp only [List.append_assoc, List.singleton_append, List.length_append, List.length_singleton,
        Int.natCast_add, Int.natCast_one] at this
      exact this

theorem src_getPodConditionFromList (l : List GPodCondition) (ct : String) (nilSlice : Bool) :
    Generated.Decisions.getPodConditionFromList l ct nilSlice = some (findFrom ct l 0) := by
  unfold Generated.Decisions.getPodConditionFromList Go.sliceIsNil
  have := podCondLoop ct [] l
  simp only [List.nil_append, List.length_nil, Int.natCast_zero] at this
  cases l with
  | nil => cases nilSlice <;> simp [findFrom, Generated.Decisions.getPodConditionFromList.loop1]
  | cons c rest => simp [this]

theorem src_getPodCondition (st : GPodStatus) (ct : String) (nilSlice : Bool) :
    Generated.Decisions.getPodCondition (some st) ct nilSlice = some (findFrom ct st.conditions 0) := by
  simp [Generated.Decisions.getPodCondition, src_getPodConditionFromList]

theorem src_getPodCondition_nil (ct : String) (nilSlice : Bool) :
    Generated.Decisions.getPodCondition none ct nilSlice = some (-1, none) := rfl

theorem src_getPodReadyCondition (st : GPodStatus) (nilSlice : Bool) :
    Generated.Decisions.getPodReadyCondition st nilSlice = some (st.conditions.find? (fun c => c.type == "Ready")) := by
  simp [Generated.Decisions.getPodReadyCondition, src_getPodCondition, findFrom_snd]

/-- `IsPodReady` on the Go-side record. -/
def readyOf (l : List GPodCondition) : Bool :=
  match l.find? (fun c => c.type == "Ready") with
  | some c => c.status == "True"
  | none => false

theorem src_isPodReadyConditionTrue (st : GPodStatus) (nilSlice : Bool) :
    Generated.Decisions.isPodReadyConditionTrue st nilSlice = some (readyOf st.conditions) := by
  unfold Generated.Decisions.isPodReadyConditionTrue readyOf
  simp only [src_getPodReadyCondition, Option.bind_some]
  cases List.find? (fun c => c.type == "Ready") st.conditions <;> simp

theorem readyOf_canon (p : GPod) (m : Pod) (h : m.conds = Go.canonPodConds p) : readyOf p.status.conditions = m.ready := by
  unfold readyOf Pod.ready
  rw [h, Go.canonPodConds, List.find?_map]
  have : ((fun c : PodCond => c.type == "Ready") ∘ Go.canonPodCond) = (fun c : GPodCondition => c.type == "Ready") := rfl
  rw [this]
  cases List.find? (fun c : GPodCondition => c.type == "Ready") p.status.conditions <;> simp [Go.canonPodCond]

theorem src_isPodReady (p : GPod) (m : Pod) (h : m.conds = Go.canonPodConds p) (nilSlice : Bool) :
    Generated.Decisions.isPodReady (some p) nilSlice = some m.ready := by
  simp [Generated.Decisions.isPodReady, src_isPodReadyConditionTrue, readyOf_canon p m h]

/-- `IsPodAvailable(pod, minReadySeconds, now)` in general. -/
theorem src_isPodAvailable_gen (p : GPod) (mrs : Int) (now : Time) (nilSlice : Bool) :
    Generated.Decisions.isPodAvailable (some p) mrs now nilSlice =
      some (match p.status.conditions.find? (fun c => c.type == "Ready") with
            | some c => c.status == "True" &&
                (mrs == 0 || (!isZeroTime c.lastTransitionTime && decide (c.lastTransitionTime + mrs * sec < now)))
            | none => false) := by
  unfold Generated.Decisions.isPodAvailable
  simp only [Generated.Decisions.isPodReady, src_isPodReadyConditionTrue, src_getPodReadyCondition, Option.bind_some,
    readyOf]
  cases hf : List.find? (fun c => c.type == "Ready") p.status.conditions with
  | none => rfl
  | some c =>
    simp only [Option.bind_some]
    generalize (!isZeroTime c.lastTransitionTime && decide (c.lastTransitionTime + mrs * sec < now)) = late
    cases (c.status == "True") <;> cases (mrs == 0) <;> cases late <;> rfl

/-- with `minReadySeconds = 0` (what the controller passes) availability is the model's `Pod.available`. -/
theorem src_isPodAvailable (p : GPod) (m : Pod) (h : m.conds = Go.canonPodConds p) (now : Time) (nilSlice : Bool) :
    Generated.Decisions.isPodAvailable (some p) 0 now nilSlice = some m.available := by
  rw [src_isPodAvailable_gen]
  unfold Pod.available
  rw [← readyOf_canon p m h, readyOf]
  cases List.find? (fun c => c.type == "Ready") p.status.conditions <;> simp


/-! ### node name from the affinity, scheduler issue -/

def namePred (f : Req) : Bool := f.key == "metadata.name" && !f.values.isEmpty

/-- the node name the nested loops of `GetNodeNameFromAffinity` find, if any. -/
def firstName : List Term → Option String
  | [] => none
  | t :: rest =>
    match t.fields.find? namePred with
    | some f => some f.values.head!
    | none => firstName rest

theorem nodeNameFromTerms_first (ts : List Term) : nodeNameFromTerms ts = (firstName ts).getD "" := by
  induction ts with
  | nil => rfl
  | cons t rest ih =>
    unfold nodeNameFromTerms firstName
    have : (fun f : Req => f.key == "metadata.name" && !f.values.isEmpty) = namePred := rfl
    rw [this]
    cases List.find? namePred t.fields with
    | none => simpa using ih
    | some f => simp

theorem affinityFieldLoop (k : Unit → Option String) (fs : List Req) (i : Int) :
    Generated.Decisions.getNodeNameFromAffinity.loop2 k fs i =
      match fs.find? namePred with
      | some f => some f.values.head!
      | none => k () := by
  induction fs generalizing i with
  | nil => simp [Generated.Decisions.getNodeNameFromAffinity.loop2]
  | cons f rest ih =>
    simp only [Generated.Decisions.getNodeNameFromAffinity.loop2, List.find?_cons]
    rcases f with ⟨key, op, values⟩
    cases values with
    | nil => simp [namePred]; exact ih _
    | cons v vs =>
      by_cases hk : key = "metadata.name"
      · have h0 : (0 : Int) < (vs.length : Int) + 1 := by omega
        simp [namePred, hk, Go.index, h0, List.head!]
      · have hk' : (key == "metadata.name") = false := by simpa using hk
        simp only [namePred, hk', Bool.false_and, Bool.false_eq_true, if_false]
        exact ih _

theorem affinityTermLoop (k : Unit → Option String) (ts : List Term) (i : Int) :
    Generated.Decisions.getNodeNameFromAffinity.loop1 k ts i =
      match firstName ts with
      | some n => some n
      | none => k () := by
  induction ts generalizing i with
  | nil => simp [Generated.Decisions.getNodeNameFromAffinity.loop1, firstName]
  | cons t rest ih =>
    simp only [Generated.Decisions.getNodeNameFromAffinity.loop1, affinityFieldLoop, firstName]
    cases List.find? namePred t.fields with
    | none => simp only []; exact ih _
    | some f => rfl

/-- `affinity.GetNodeNameFromAffinity` never panics and is the model's `nodeNameFromAffinity`. -/
theorem src_getNodeNameFromAffinity (a : Option GAffinity) :
    Generated.Decisions.getNodeNameFromAffinity a = some (nodeNameFromAffinity (Go.canonAffRequired a)) := by
  unfold Generated.Decisions.getNodeNameFromAffinity nodeNameFromAffinity Go.canonAffRequired
  cases a with
  | none => simp
  | some a =>
    cases hna : a.nodeAffinity with
    | none => simp [hna]
    | some na =>
      cases hr : na.required with
      | none => simp [hna, hr]
      | some sel =>
        simp only [Option.isNone_some, Bool.false_eq_true, if_false, Option.bind_some, hna, hr, Option.isSome_some,
          if_true, affinityTermLoop, nodeNameFromTerms_first]
        cases firstName sel.nodeSelectorTerms <;> rfl

theorem src_isPodScheduled (p : GPod) :
    Generated.Decisions.isPodScheduled (some p) =
      some (nodeNameFromAffinity (Go.canonAffRequired p.spec.affinity), p.spec.nodeName != "") := by
  simp [Generated.Decisions.isPodScheduled, src_getNodeNameFromAffinity]

/-- `HasPodSchedulerIssue`, both reads of the wall clock returning `wall`, is the model's `Pod.schedulerIssue`
(ten minutes unscheduled, or terminating for longer than the grace period). -/
theorem src_hasPodSchedulerIssue (p : GPod) (m : Pod) (wall : Time)
    (hn : m.nodeName = p.spec.nodeName) (hc : m.creation = p.creationTimestamp)
    (hd : m.deletion = p.deletionTimestamp) (hg : m.gracePeriod = p.deletionGracePeriodSeconds) :
    Generated.Decisions.hasPodSchedulerIssue (some p) wall wall = some (m.schedulerIssue wall) := by
  unfold Generated.Decisions.hasPodSchedulerIssue Pod.schedulerIssue Pod.scheduled
  have h10 : (10 : Int) * minute = 600 * sec := by decide
  simp only [src_isPodScheduled, Option.bind_some, hn, hc, hd, hg, h10, ite_some_and]
  cases p.deletionTimestamp <;> cases p.deletionGracePeriodSeconds <;>
    simp only [Option.isSome_some, Option.isSome_none, Bool.and_true, Bool.and_false, Bool.false_eq_true, if_true,
      if_false, Option.bind_some, ite_some_or] <;> rfl

end Eds.Bridge
