import EdsModel.CanaryS
import EdsSpec.C06
import EdsProofs.Conds
import EdsProofs.Lists
/-
  Helper lemmas about the `manageCanaryPodFailures` model (EdsModel/CanaryS.lean):

  * `failStep_eq`      — the per-pod loop body written as three stages with projections instead of
                          tuple patterns (`fsRestart`, `fsCS`, `fsDecide`); `fsRestart_frame`, `fsCS_frame`:
                          the fields the first two stages may change;
  * `failStep_isFailed` / `failStep_isPaused` — the "step lemma": fields of one iteration in terms of
                          the specification triggers of `EdsSpec.C06`, for a non-panicking iteration;
  * `fold_proj`        — a projection of the loop state moved by `g` in every non-panicking iteration is
                          moved by the fold of `g` in a non-panicking loop; `fold_isFailed` / `fold_isPaused`;
  * `mcpf_some`, `mcpf_derefs`, `mcpf_conds` — what a `some` result of `manageCanaryPodFailures` is made of.
-/
namespace Eds
open Spec.C06

/-! ### The loop body in stages -/

/-- stage 1: bookkeeping of the most recent restart. -/
def fsRestart (s : FailState) (pod : Pod) : FailState :=
  if (highestRestart pod.cstats).1 != 0 then
    if (mostRecentRestart pod.cstats).1 > s.newRestartTime then
      { s with newRestartTime := (mostRecentRestart pod.cstats).1,
               restartingPodStatus := "Pod " ++ pod.name ++ " restarting with reason: " ++ (mostRecentRestart pod.cstats).2 }
    else s
  else s

/-- the iteration dereferences `pod.Status.StartTime`. -/
def fsNeedStart (cfg : FailCfg) (pod : Pod) : Bool :=
  ((cannotStart pod.cstats).1 && cfg.maxSlowStart.isSome) ||
  (!(cannotStart pod.cstats).1 && cfg.autoPauseEnabled && pendingCreate pod.cstats && cfg.maxSlowStart.isSome)

/-- stage 2: the cannot-start verdict `(cannotStart, reason, state)`. -/
def fsCS (cfg : FailCfg) (pod : Pod) (s : FailState) : Bool × String × FailState :=
  if (cannotStart pod.cstats).1 && cfg.maxSlowStart.isSome &&
      !decide (cfg.now > pod.startTime.getD 0 + cfg.maxSlowStart.getD 0) then (false, "Unknown", s)
  else if (cannotStart pod.cstats).1 then
    (true, (cannotStart pod.cstats).2,
      { s with cannotStartPodStatus := "Pod " ++ pod.name ++ " cannot start with reason: " ++ (cannotStart pod.cstats).2,
               cannotStartPodReason := (cannotStart pod.cstats).2 })
  else if cfg.autoPauseEnabled && pendingCreate pod.cstats && cfg.maxSlowStart.isSome then
    if cfg.now > pod.startTime.getD 0 + cfg.maxSlowStart.getD 0 then
      (true, "SlowStartTimeoutExceeded",
        { s with cannotStartPodStatus := "Pod " ++ pod.name ++ " cannot start with reason: SlowStartTimeoutExceeded",
                 cannotStartPodReason := "SlowStartTimeoutExceeded" })
    else (false, (cannotStart pod.cstats).2, s)
  else (false, (cannotStart pod.cstats).2, s)

/-- stage 3: the fail / unpause / pause decision. -/
def fsDecide (cfg : FailCfg) (restartCount : Int) (highReason : String) (cs : Bool) (csr : String)
    (s : FailState) : FailState :=
  let s := { s with cannotStart := cs }
  if s.isFailed then s
  else if cfg.autoFailEnabled && restartCount > cfg.autoFailMaxRestarts then
    { s with isFailed := true, failedReason := highReason }
  else if cfg.autoFailEnabled && (match cfg.maxRestartsDuration, cfg.restartCond with
                                  | some d, some (tr, up) => up - tr > d
                                  | _, _ => false) then
    { s with isFailed := true, failedReason := "RestartsTimeoutExceeded" }
  else if cfg.autoFailEnabled && (match cfg.startCond, cfg.canaryTimeout with
                                  | some st, some d => cfg.now - st > d
                                  | _, _ => false) then
    { s with isFailed := true, failedReason := "TimeoutExceeded" }
  else if cfg.isUnpaused then { s with isPaused := false, pausedReason := "" }
  else if cfg.autoPauseEnabled then
    if cs then { s with isPaused := true, pausedReason := csr }
    else if restartCount > cfg.autoPauseMaxRestarts then { s with isPaused := true, pausedReason := highReason }
    else s
  else s

theorem failStep_eq (cfg : FailCfg) (s : FailState) (pod : Pod) :
    failStep cfg s pod =
      if s.panicked then s
      else if fsNeedStart cfg pod && pod.startTime.isNone then { fsRestart s pod with panicked := true }
      else fsDecide cfg (highestRestart pod.cstats).1 (highestRestart pod.cstats).2
             (fsCS cfg pod (fsRestart s pod)).1 (fsCS cfg pod (fsRestart s pod)).2.1
             (fsCS cfg pod (fsRestart s pod)).2.2 := by
  rfl

/-- stage 1 touches the restart bookkeeping only. -/
theorem fsRestart_frame (s : FailState) (pod : Pod) :
    ∃ t st, fsRestart s pod = { s with newRestartTime := t, restartingPodStatus := st } := by
  unfold fsRestart
  split
  · split
    · exact ⟨_, _, rfl⟩
    · exact ⟨_, _, rfl⟩
  · exact ⟨_, _, rfl⟩

theorem fsRestart_isFailed (s : FailState) (pod : Pod) : (fsRestart s pod).isFailed = s.isFailed := by
  obtain ⟨t, st, h⟩ := fsRestart_frame s pod; rw [h]
theorem fsRestart_isPaused (s : FailState) (pod : Pod) : (fsRestart s pod).isPaused = s.isPaused := by
  obtain ⟨t, st, h⟩ := fsRestart_frame s pod; rw [h]
theorem fsRestart_panicked (s : FailState) (pod : Pod) : (fsRestart s pod).panicked = s.panicked := by
  obtain ⟨t, st, h⟩ := fsRestart_frame s pod; rw [h]

/-- stage 2 touches the cannot-start message and reason only. -/
theorem fsCS_frame (cfg : FailCfg) (pod : Pod) (s : FailState) :
    ∃ st r, (fsCS cfg pod s).2.2 = { s with cannotStartPodStatus := st, cannotStartPodReason := r } := by
  unfold fsCS
  cases ((cannotStart pod.cstats).1 && cfg.maxSlowStart.isSome &&
      !decide (cfg.now > pod.startTime.getD 0 + cfg.maxSlowStart.getD 0))
  · cases (cannotStart pod.cstats).1
    · cases (cfg.autoPauseEnabled && pendingCreate pod.cstats && cfg.maxSlowStart.isSome)
      · exact ⟨_, _, rfl⟩
      · by_cases h : cfg.now > pod.startTime.getD 0 + cfg.maxSlowStart.getD 0
        · rw [if_pos rfl, if_pos h]; exact ⟨_, _, rfl⟩
        · rw [if_pos rfl, if_neg h]; exact ⟨_, _, rfl⟩
    · exact ⟨_, _, rfl⟩
  · exact ⟨_, _, rfl⟩

theorem fsCS_isFailed (cfg : FailCfg) (pod : Pod) (s : FailState) :
    (fsCS cfg pod s).2.2.isFailed = s.isFailed := by
  obtain ⟨st, r, h⟩ := fsCS_frame cfg pod s; rw [h]
theorem fsCS_isPaused (cfg : FailCfg) (pod : Pod) (s : FailState) :
    (fsCS cfg pod s).2.2.isPaused = s.isPaused := by
  obtain ⟨st, r, h⟩ := fsCS_frame cfg pod s; rw [h]
theorem fsCS_panicked (cfg : FailCfg) (pod : Pod) (s : FailState) :
    (fsCS cfg pod s).2.2.panicked = s.panicked := by
  obtain ⟨st, r, h⟩ := fsCS_frame cfg pod s; rw [h]

/-- **non-panic ⇒ `startTime` is set wherever the specification looks at it**: when the iteration
does not dereference a nil `StartTime`, the cannot-start verdict of the code is the specification's
`podCannotStart`, or `podSlowCreate` while auto-pause is enabled. -/
theorem fsCS_verdict (cfg : FailCfg) (pod : Pod) (s : FailState)
    (hn : (fsNeedStart cfg pod && pod.startTime.isNone) = false) :
    (fsCS cfg pod s).1 =
      (podCannotStart cfg.maxSlowStart cfg.now pod ||
        (cfg.autoPauseEnabled && podSlowCreate cfg.maxSlowStart cfg.now pod)) := by
  unfold fsNeedStart at hn
  unfold fsCS podCannotStart podSlowCreate
  simp only [apply_ite (fun x : Bool × String × FailState => x.1)]
  generalize (cannotStart pod.cstats).1 = cs0 at hn ⊢
  generalize pendingCreate pod.cstats = pc at hn ⊢
  generalize cfg.autoPauseEnabled = ape at hn ⊢
  -- both sides are now Boolean expressions in `cs0`, `ape`, `pc` and the clock test
  cases hslow : cfg.maxSlowStart with
  | none => cases cs0 <;> cases ape <;> cases pc <;> rfl
  | some d =>
    cases hst : pod.startTime with
    | none =>
      rw [hslow, hst] at hn
      cases cs0 <;> cases ape <;> cases pc <;> first | rfl | cases hn
    | some t =>
      simp only [Option.getD_some]
      by_cases ha : cfg.now > t + d
      · rw [if_pos ha, decide_eq_true ha]
        cases cs0 <;> cases ape <;> cases pc <;> rfl
      · rw [if_neg ha, decide_eq_false ha]
        cases cs0 <;> cases ape <;> cases pc <;> rfl

def specCfg (cfg : FailCfg) : Spec.C06.Cfg :=
  { autoPauseEnabled := cfg.autoPauseEnabled, autoPauseMaxRestarts := cfg.autoPauseMaxRestarts,
    maxSlowStart := cfg.maxSlowStart, autoFailEnabled := cfg.autoFailEnabled,
    autoFailMaxRestarts := cfg.autoFailMaxRestarts, maxRestartsDuration := cfg.maxRestartsDuration,
    canaryTimeout := cfg.canaryTimeout }

/-- `lastUpdate - lastTransition` of the stored PodRestarting condition. -/
def cfgSpan (cfg : FailCfg) : Option Dur := cfg.restartCond.map (fun p => p.2 - p.1)
/-- time since the Canary condition's last transition. -/
def cfgAge (cfg : FailCfg) : Option Dur := cfg.startCond.map (fun st => cfg.now - st)

/-- the fail condition evaluated by stage 3 for a pod with `rc` restarts. -/
def failCond (cfg : FailCfg) (rc : Int) : Bool :=
  cfg.autoFailEnabled &&
  (decide (rc > cfg.autoFailMaxRestarts) ||
   (match cfg.maxRestartsDuration, cfgSpan cfg with | some d, some s => decide (s > d) | _, _ => false) ||
   (match cfg.canaryTimeout, cfgAge cfg with | some d, some a => decide (a > d) | _, _ => false))

theorem failCond_eq_failTrigger (cfg : FailCfg) (pod : Pod) :
    failCond cfg (highestRestart pod.cstats).1 = failTrigger (specCfg cfg) (cfgSpan cfg) (cfgAge cfg) pod := rfl

theorem fsDecide_panicked (cfg : FailCfg) (rc : Int) (hr : String) (cs : Bool) (csr : String) (s : FailState) :
    (fsDecide cfg rc hr cs csr s).panicked = s.panicked := by
  unfold fsDecide
  simp only [apply_ite FailState.panicked, ite_self]

theorem restartMatch_eq (cfg : FailCfg) :
    (match cfg.maxRestartsDuration, cfg.restartCond with
     | some d, some (tr, up) => decide (up - tr > d)
     | _, _ => false) =
    (match cfg.maxRestartsDuration, cfgSpan cfg with | some d, some s => decide (s > d) | _, _ => false) := by
  unfold cfgSpan
  cases cfg.maxRestartsDuration <;> rcases cfg.restartCond with _ | ⟨tr, up⟩ <;> rfl

theorem timeoutMatch_eq (cfg : FailCfg) :
    (match cfg.startCond, cfg.canaryTimeout with
     | some st, some d => decide (cfg.now - st > d)
     | _, _ => false) =
    (match cfg.canaryTimeout, cfgAge cfg with | some d, some a => decide (a > d) | _, _ => false) := by
  unfold cfgAge
  cases cfg.startCond <;> cases cfg.canaryTimeout <;> rfl

/-- the first four tests of stage 3 (failed before, or one of the three auto-fail triggers) all
leave the same value `x`: together they are one test. -/
theorem failCascade {α} (f a b1 b2 b3 : Bool) (x y : α) :
    (if f = true then x else if (a && b1) = true then x else if (a && b2) = true then x
      else if (a && b3) = true then x else y) =
      if (f || a && (b1 || b2 || b3)) = true then x else y := by
  cases f
  · cases a
    · rfl
    · cases b1 <;> cases b2 <;> cases b3 <;> rfl
  · rfl

theorem fsDecide_isFailed (cfg : FailCfg) (rc : Int) (hr : String) (cs : Bool) (csr : String) (s : FailState) :
    (fsDecide cfg rc hr cs csr s).isFailed = (s.isFailed || failCond cfg rc) := by
  unfold fsDecide failCond
  rw [← restartMatch_eq, ← timeoutMatch_eq]
  simp only [apply_ite FailState.isFailed, ite_self]
  cases s.isFailed
  · cases cfg.autoFailEnabled
    · rfl
    · generalize (match cfg.maxRestartsDuration, cfg.restartCond with
        | some d, some (tr, up) => decide (up - tr > d)
        | _, _ => false) = b2
      generalize (match cfg.startCond, cfg.canaryTimeout with
        | some st, some d => decide (cfg.now - st > d)
        | _, _ => false) = b3
      cases decide (rc > cfg.autoFailMaxRestarts) <;> cases b2 <;> cases b3 <;> rfl
  · rfl

/-- while not failed after the iteration: unpause wins, otherwise a trigger pauses. -/
theorem fsDecide_isPaused (cfg : FailCfg) (rc : Int) (hr : String) (cs : Bool) (csr : String) (s : FailState) :
    (fsDecide cfg rc hr cs csr s).isPaused =
      if (fsDecide cfg rc hr cs csr s).isFailed then s.isPaused
      else if cfg.isUnpaused then false
      else (s.isPaused || (cfg.autoPauseEnabled && (cs || decide (rc > cfg.autoPauseMaxRestarts)))) := by
  rw [fsDecide_isFailed]
  unfold fsDecide failCond
  rw [← restartMatch_eq, ← timeoutMatch_eq]
  simp only [apply_ite FailState.isPaused]
  rw [failCascade]
  -- both sides: `if failed then s.isPaused else …`; what is left is the unpause / pause tail
  congr 1
  cases cfg.isUnpaused
  · cases cfg.autoPauseEnabled
    · cases s.isPaused <;> rfl
    · cases cs
      · by_cases h : rc > cfg.autoPauseMaxRestarts
        · rw [if_neg Bool.false_ne_true, if_pos rfl, if_neg Bool.false_ne_true, if_pos h, decide_eq_true h]
          cases s.isPaused <;> rfl
        · rw [if_neg Bool.false_ne_true, if_pos rfl, if_neg Bool.false_ne_true, if_neg h, decide_eq_false h]
          cases s.isPaused <;> rfl
      · cases s.isPaused <;> rfl
  · rfl

/-! ### One iteration -/

theorem failStep_of_panicked (cfg : FailCfg) (s : FailState) (pod : Pod) (h : s.panicked = true) :
    failStep cfg s pod = s := by
  rw [failStep_eq, if_pos h]

theorem failStep_panicked_mono (cfg : FailCfg) (s : FailState) (pod : Pod)
    (h : (failStep cfg s pod).panicked = false) : s.panicked = false := by
  cases hs : s.panicked with
  | false => rfl
  | true => rw [failStep_of_panicked cfg s pod hs] at h; rw [hs] at h; exact h

/-- a non-panicking iteration did not need a missing `startTime`, and is stage 3 after stage 2. -/
theorem failStep_nonpanic (cfg : FailCfg) (s : FailState) (pod : Pod)
    (h : (failStep cfg s pod).panicked = false) :
    (fsNeedStart cfg pod && pod.startTime.isNone) = false ∧
    failStep cfg s pod =
      fsDecide cfg (highestRestart pod.cstats).1 (highestRestart pod.cstats).2
        (fsCS cfg pod (fsRestart s pod)).1 (fsCS cfg pod (fsRestart s pod)).2.1
        (fsCS cfg pod (fsRestart s pod)).2.2 := by
  have hs := failStep_panicked_mono cfg s pod h
  have hs' : ¬ s.panicked = true := by rw [hs]; decide
  rw [failStep_eq, if_neg hs'] at h ⊢
  cases hn : (fsNeedStart cfg pod && pod.startTime.isNone) with
  | true => rw [hn] at h; simp at h
  | false => exact ⟨rfl, by simp⟩

theorem failStep_isFailed (cfg : FailCfg) (s : FailState) (pod : Pod)
    (h : (failStep cfg s pod).panicked = false) :
    (failStep cfg s pod).isFailed =
      (s.isFailed || failTrigger (specCfg cfg) (cfgSpan cfg) (cfgAge cfg) pod) := by
  rw [(failStep_nonpanic cfg s pod h).2, fsDecide_isFailed, fsCS_isFailed, fsRestart_isFailed,
    failCond_eq_failTrigger]

theorem failStep_isPaused (cfg : FailCfg) (s : FailState) (pod : Pod)
    (h : (failStep cfg s pod).panicked = false) :
    (failStep cfg s pod).isPaused =
      if (failStep cfg s pod).isFailed then s.isPaused
      else if cfg.isUnpaused then false
      else (s.isPaused || pauseTrigger (specCfg cfg) cfg.now pod) := by
  obtain ⟨hn, he⟩ := failStep_nonpanic cfg s pod h
  rw [he, fsDecide_isPaused, fsCS_isPaused, fsRestart_isPaused, fsCS_verdict cfg pod _ hn]
  -- the pause trigger of the code is the specification's, up to the order of the three tests
  have ht : (cfg.autoPauseEnabled &&
        (podCannotStart cfg.maxSlowStart cfg.now pod ||
            cfg.autoPauseEnabled && podSlowCreate cfg.maxSlowStart cfg.now pod ||
          decide ((highestRestart pod.cstats).1 > cfg.autoPauseMaxRestarts))) =
      pauseTrigger (specCfg cfg) cfg.now pod := by
    unfold pauseTrigger specCfg podRestarts
    cases cfg.autoPauseEnabled
    · rfl
    · cases podCannotStart cfg.maxSlowStart cfg.now pod <;> cases podSlowCreate cfg.maxSlowStart cfg.now pod <;>
        cases decide ((highestRestart pod.cstats).1 > cfg.autoPauseMaxRestarts) <;> rfl
  rw [ht]

/-! ### The whole loop -/

theorem fold_of_panicked (cfg : FailCfg) (pods : List Pod) (s : FailState) (h : s.panicked = true) :
    pods.foldl (failStep cfg) s = s := by
  induction pods with
  | nil => rfl
  | cons p ps ih => rw [List.foldl_cons, failStep_of_panicked cfg s p h]; exact ih

theorem fold_panicked_mono (cfg : FailCfg) (pods : List Pod) (s : FailState)
    (h : (pods.foldl (failStep cfg) s).panicked = false) : s.panicked = false := by
  cases hs : s.panicked with
  | false => rfl
  | true => rw [fold_of_panicked cfg pods s hs, hs] at h; exact h

/-- a projection `f` of the loop state that every non-panicking iteration moves by `g` is moved by a
non-panicking loop by the fold of `g`. -/
theorem fold_proj {α} (cfg : FailCfg) (f : FailState → α) (g : α → Pod → α)
    (hstep : ∀ s p, (failStep cfg s p).panicked = false → f (failStep cfg s p) = g (f s) p)
    (pods : List Pod) (s : FailState) (h : (pods.foldl (failStep cfg) s).panicked = false) :
    f (pods.foldl (failStep cfg) s) = pods.foldl g (f s) := by
  induction pods generalizing s with
  | nil => rfl
  | cons p ps ih =>
    rw [List.foldl_cons] at h ⊢
    rw [ih _ h, hstep s p (fold_panicked_mono cfg ps _ h), List.foldl_cons]

/-- after a non-panicking loop: failed ⇔ failed before or some pod fires a fail trigger. -/
theorem fold_isFailed (cfg : FailCfg) (pods : List Pod) (s : FailState)
    (h : (pods.foldl (failStep cfg) s).panicked = false) :
    (pods.foldl (failStep cfg) s).isFailed =
      (s.isFailed || pods.any (failTrigger (specCfg cfg) (cfgSpan cfg) (cfgAge cfg))) := by
  rw [fold_proj cfg FailState.isFailed (fun b p => b || failTrigger (specCfg cfg) (cfgSpan cfg) (cfgAge cfg) p)
    (failStep_isFailed cfg) pods s h, foldl_or_any]

/-- after a non-panicking loop that ends not failed, over at least one pod: unpause wins, otherwise
paused ⇔ paused before or some pod fires a pause trigger.  (Over no pod the flag is unchanged.) -/
theorem fold_isPaused (cfg : FailCfg) (pods : List Pod) (s : FailState)
    (h : (pods.foldl (failStep cfg) s).panicked = false)
    (hf : (pods.foldl (failStep cfg) s).isFailed = false) :
    (pods.foldl (failStep cfg) s).isPaused =
      if pods.isEmpty then s.isPaused
      else (!cfg.isUnpaused && (s.isPaused || pods.any (pauseTrigger (specCfg cfg) cfg.now))) := by
  induction pods generalizing s with
  | nil => rfl
  | cons p ps ih =>
    rw [List.foldl_cons] at h hf ⊢
    have hp := fold_panicked_mono cfg ps _ h
    -- the loop ends not failed, so the first iteration does
    have hf1 : (failStep cfg s p).isFailed = false := by
      have := fold_isFailed cfg ps _ h
      rw [hf] at this
      cases hx : (failStep cfg s p).isFailed with
      | false => rfl
      | true => rw [hx] at this; simp at this
    have hstep := failStep_isPaused cfg s p hp
    rw [hf1] at hstep
    rw [ih _ h hf, hstep]
    simp only [List.isEmpty_cons, List.any_cons, Bool.false_eq_true, if_false]
    cases ps with
    | nil => cases cfg.isUnpaused <;> simp
    | cons q qs =>
      simp only [List.isEmpty_cons, Bool.false_eq_true, if_false]
      cases cfg.isUnpaused <;> simp [Bool.or_assoc]

/-- with auto-pause disabled and no manual unpause, the loop never changes the paused flag
(whether or not it ends failed). -/
theorem fold_isPaused_disabled (cfg : FailCfg) (pods : List Pod) (s : FailState)
    (h : (pods.foldl (failStep cfg) s).panicked = false)
    (hape : cfg.autoPauseEnabled = false) (hun : cfg.isUnpaused = false) :
    (pods.foldl (failStep cfg) s).isPaused = s.isPaused := by
  have hstep : ∀ s p, (failStep cfg s p).panicked = false → (failStep cfg s p).isPaused = s.isPaused := by
    intro s p hp
    rw [failStep_isPaused cfg s p hp, hun]
    unfold pauseTrigger specCfg
    simp only [hape, Bool.false_and, Bool.or_false, Bool.false_eq_true, if_false, ite_self]
  rw [fold_proj cfg FailState.isPaused (fun b _ => b) hstep pods s h]
  exact List.foldlRecOn pods _ (motive := (· = s.isPaused)) rfl (fun _ hb _ _ => hb)

/-! ### `manageCanaryPodFailures` -/

/-- the loop configuration built at the top of `manageCanaryPodFailures`. -/
def mkFailCfg (ape : Bool) (apm : Int) (slow : Option Dur) (afe : Bool) (afm : Int) (mrd cto : Option Dur)
    (paramsStatus st : ERSStatus) (unpaused : Bool) (now : Time) : FailCfg :=
  { autoPauseEnabled := ape, autoPauseMaxRestarts := apm, maxSlowStart := slow,
    autoFailEnabled := afe, autoFailMaxRestarts := afm, maxRestartsDuration := mrd,
    canaryTimeout := cto, isUnpaused := unpaused,
    restartCond := (findCond paramsStatus.conds "PodRestarting").map (fun rc => (rc.lastTransition, rc.lastUpdate)),
    startCond := (findCond st.conds "Canary").map (·.lastTransition), now := now }

/-- the initial loop state (an unpause is honoured even when there is no canary pod yet). -/
def initFailState (pods : List Pod) (failed0 paused0 : Bool) (reason0 : String) (unpaused : Bool) : FailState :=
  { isFailed := failed0, failedReason := "",
    isPaused := if pods.isEmpty && unpaused && !failed0 then false else paused0,
    pausedReason := if pods.isEmpty && unpaused && !failed0 then "" else reason0 }

/-- the condition list written at the end. -/
def finalConds (paramsStatus st : ERSStatus) (now : Time) (s : FailState) : List Cond :=
  let conds := updateCond st.conds now "Canary-Failed" (boolCond s.isFailed) s.failedReason "" false true
  let conds := updateCond conds now "Canary-Paused" (boolCond s.isPaused) s.pausedReason "" false true
  let lastRestart : Time :=
    match findCond paramsStatus.conds "PodRestarting" with | some rc => rc.lastUpdate | none => zeroTime
  let conds :=
    if !isZeroTime (s.newRestartTime) && s.newRestartTime > lastRestart then
      updateCond conds s.newRestartTime "PodRestarting" "True" s.cannotStartPodReason s.restartingPodStatus false true
    else conds
  updateCond conds now "PodCannotStart" (boolCond s.cannotStart) s.cannotStartPodReason s.cannotStartPodStatus false true

/-- a returning `manageCanaryPodFailures` dereferenced no nil pointer of the canary spec. -/
theorem mcpf_derefs {pods : List Pod} {canary : Option Canary} {paramsStatus st st' : ERSStatus}
    {failed0 paused0 : Bool} {reason0 : String} {unpaused : Bool} {now : Time} {s : FailState}
    (h : manageCanaryPodFailures pods canary paramsStatus st failed0 paused0 reason0 unpaused now = some (s, st')) :
    ∃ ape apm slow afe afm mrd cto, canaryDerefs canary = some (ape, apm, slow, afe, afm, mrd, cto) := by
  cases hd : canaryDerefs canary with
  | none => unfold manageCanaryPodFailures at h; rw [hd] at h; cases h
  | some v => exact ⟨v.1, v.2.1, v.2.2.1, v.2.2.2.1, v.2.2.2.2.1, v.2.2.2.2.2.1, v.2.2.2.2.2.2, rfl⟩

theorem mcpf_some {pods : List Pod} {canary : Option Canary} {paramsStatus st st' : ERSStatus}
    {failed0 paused0 : Bool} {reason0 : String} {unpaused : Bool} {now : Time} {s : FailState}
    {ape : Bool} {apm : Int} {slow : Option Dur} {afe : Bool} {afm : Int} {mrd cto : Option Dur}
    (hd : canaryDerefs canary = some (ape, apm, slow, afe, afm, mrd, cto))
    (h : manageCanaryPodFailures pods canary paramsStatus st failed0 paused0 reason0 unpaused now = some (s, st')) :
    s = pods.foldl (failStep (mkFailCfg ape apm slow afe afm mrd cto paramsStatus st unpaused now))
          (initFailState pods failed0 paused0 reason0 unpaused) ∧
    s.panicked = false ∧
    st'.conds = finalConds paramsStatus st now s := by
  simp only [manageCanaryPodFailures, hd, Option.ite_none_left_eq_some, Option.some.injEq, Prod.mk.injEq] at h
  obtain ⟨hp, rfl, rfl⟩ := h
  exact ⟨rfl, by simpa using hp, rfl⟩

theorem mcpf_conds {pods : List Pod} {canary : Option Canary} {paramsStatus st st' : ERSStatus}
    {failed0 paused0 : Bool} {reason0 : String} {unpaused : Bool} {now : Time} {s : FailState}
    (h : manageCanaryPodFailures pods canary paramsStatus st failed0 paused0 reason0 unpaused now = some (s, st')) :
    st'.conds = finalConds paramsStatus st now s := by
  obtain ⟨_, _, _, _, _, _, _, hd⟩ := mcpf_derefs h
  exact (mcpf_some hd h).2.2

theorem specCfg_mkFailCfg (ape : Bool) (apm : Int) (slow : Option Dur) (afe : Bool) (afm : Int)
    (mrd cto : Option Dur) (paramsStatus st : ERSStatus) (unpaused : Bool) (now : Time) :
    specCfg (mkFailCfg ape apm slow afe afm mrd cto paramsStatus st unpaused now) =
      { autoPauseEnabled := ape, autoPauseMaxRestarts := apm, maxSlowStart := slow, autoFailEnabled := afe,
        autoFailMaxRestarts := afm, maxRestartsDuration := mrd, canaryTimeout := cto } := rfl

theorem cfgSpan_mkFailCfg (ape : Bool) (apm : Int) (slow : Option Dur) (afe : Bool) (afm : Int)
    (mrd cto : Option Dur) (paramsStatus st : ERSStatus) (unpaused : Bool) (now : Time) :
    cfgSpan (mkFailCfg ape apm slow afe afm mrd cto paramsStatus st unpaused now) =
      (findCond paramsStatus.conds "PodRestarting").map (fun rc => rc.lastUpdate - rc.lastTransition) := by
  unfold cfgSpan mkFailCfg
  cases findCond paramsStatus.conds "PodRestarting" <;> rfl

theorem cfgAge_mkFailCfg (ape : Bool) (apm : Int) (slow : Option Dur) (afe : Bool) (afm : Int)
    (mrd cto : Option Dur) (paramsStatus st : ERSStatus) (unpaused : Bool) (now : Time) :
    cfgAge (mkFailCfg ape apm slow afe afm mrd cto paramsStatus st unpaused now) =
      (findCond st.conds "Canary").map (fun c => now - c.lastTransition) := by
  unfold cfgAge mkFailCfg
  cases findCond st.conds "Canary" <;> rfl

theorem finalConds_failed (paramsStatus st : ERSStatus) (now : Time) (s : FailState) :
    isCondTrue (finalConds paramsStatus st now s) "Canary-Failed" = s.isFailed := by
  unfold finalConds
  simp only []
  generalize (match findCond paramsStatus.conds "PodRestarting" with
    | some rc => rc.lastUpdate | none => zeroTime) = lr
  rw [isCondTrue_updateCond_other _ _ _ _ _ _ _ _ _ (by simp)]
  split
  · rw [isCondTrue_updateCond_other _ _ _ _ _ _ _ _ _ (by simp),
      isCondTrue_updateCond_other _ _ _ _ _ _ _ _ _ (by simp), isCondTrue_updateCond_same]
  · rw [isCondTrue_updateCond_other _ _ _ _ _ _ _ _ _ (by simp), isCondTrue_updateCond_same]

theorem finalConds_paused (paramsStatus st : ERSStatus) (now : Time) (s : FailState) :
    isCondTrue (finalConds paramsStatus st now s) "Canary-Paused" = s.isPaused := by
  unfold finalConds
  simp only []
  generalize (match findCond paramsStatus.conds "PodRestarting" with
    | some rc => rc.lastUpdate | none => zeroTime) = lr
  rw [isCondTrue_updateCond_other _ _ _ _ _ _ _ _ _ (by simp)]
  split
  · rw [isCondTrue_updateCond_other _ _ _ _ _ _ _ _ _ (by simp), isCondTrue_updateCond_same]
  · rw [isCondTrue_updateCond_same]

end Eds
