import EdsModel
import EdsSpec.C19
import EdsProofs.PodBuild
/-
  EdsProofs.Cli — what `SMap.set` leaves alone (entries, frame predicate) and the inversion of
  `cliRun`, used by EdsProps/C19.lean.  The lookup lemmas (`SMap.get?_set` …) are in
  EdsProofs/PodBuild.lean.

  `SMap.set` rewrites *every* entry carrying the key (via `map`) or appends one; `SMap.get?` reads
  the *first* entry.  The lemmas below hold for arbitrary lists (duplicates allowed); only the
  list-level predicate `Spec.C19.frameOk` needs a well-formedness hypothesis (see `frameOk_self`).
-/
namespace Eds
namespace CliP

/-! ### `get?` / `set` -/

theorem get?_nil (k : String) : SMap.get? [] k = none := rfl

theorem get_set (m : SMap) (key val k : String) :
    SMap.get? (SMap.set m key val) k = if k = key then some val else SMap.get? m k :=
  SMap.get?_set m key val k

theorem filter_map_upd_off (m : SMap) (key val : String) (keys : List String) (hk : keys.contains key = true) :
    (m.map (fun e => if e.k == key then { e with v := val } else e)).filter (fun e => !keys.contains e.k)
      = m.filter (fun e => !keys.contains e.k) := by
  induction m with
  | nil => rfl
  | cons e m ih =>
    rw [List.map_cons]
    by_cases he : (e.k == key) = true
    · have hek : e.k = key := by simpa using he
      have h1 : (!keys.contains e.k) = false := by rw [hek, hk]; rfl
      simp only [he, if_true, List.filter_cons, h1, Bool.false_eq_true, if_false]
      exact ih
    · have he' : (e.k == key) = false := by simpa using he
      simp only [he', Bool.false_eq_true, if_false, List.filter_cons]
      rw [ih]

theorem filter_set_off (m : SMap) (key val : String) (keys : List String) (hk : keys.contains key = true) :
    (SMap.set m key val).filter (fun e => !keys.contains e.k) = m.filter (fun e => !keys.contains e.k) := by
  unfold SMap.set
  split
  · exact filter_map_upd_off m key val keys hk
  · rw [List.filter_append]
    have hk' : key ∈ keys := by simpa using hk
    simp [hk']

/-- if `after` has the same off-`keys` entries as `before` and agrees with it on every off-`keys`
lookup, `frameOk before after keys` is the self-consistency of `before` off `keys`. -/
theorem frameOk_of_agree (before after : SMap) (keys : List String)
    (h1 : after.filter (fun e => !keys.contains e.k) = before.filter (fun e => !keys.contains e.k))
    (h2 : ∀ k, keys.contains k = false → SMap.get? after k = SMap.get? before k) :
    Spec.C19.frameOk before after keys = Spec.C19.frameOk before before keys := by
  unfold Spec.C19.frameOk
  rw [h1, List.all_filter, List.all_filter]
  congr 1
  refine List.all_congr rfl (fun e => ?_)
  cases hk : keys.contains e.k
  · rw [h2 _ hk]
  · rfl

theorem frameOk_self (m : SMap) (keys : List String) (hnd : (m.map (·.k)).Nodup) :
    Spec.C19.frameOk m m keys = true := by
  unfold Spec.C19.frameOk
  simp only [Bool.and_self, List.all_eq_true, beq_iff_eq]
  intro e he
  exact SMap.get?_of_mem_nodup hnd (List.mem_filter.1 he).1

/-! ### the annotation keys are pairwise distinct -/

theorem paused_ne_unpaused : K.canaryPausedAnnot ≠ K.canaryUnpausedAnnot := by
  simp [K.canaryPausedAnnot, K.canaryUnpausedAnnot]
theorem unpaused_ne_paused : K.canaryUnpausedAnnot ≠ K.canaryPausedAnnot := paused_ne_unpaused.symm

/-! ### inversion of `cliRun` -/

/-- the map a successful command produces. -/
def patchOf (cmd : CliCmd) (statusCanary : Option CanaryStatus) (ann : SMap) : SMap :=
  match cmd with
  | .canaryPause => SMap.set (SMap.set ann K.canaryPausedAnnot "true") K.canaryUnpausedAnnot "false"
  | .canaryUnpause => SMap.set (SMap.set ann K.canaryPausedAnnot "false") K.canaryUnpausedAnnot "true"
  | .canaryValidate =>
    match statusCanary with
    | some cs => SMap.set ann K.canaryValidAnnot cs.replicaSet
    | none => ann
  | .canaryFail => ann
  | .ruPause => SMap.set ann K.rollingUpdatePausedAnnot "true"
  | .ruUnpause => SMap.set ann K.rollingUpdatePausedAnnot "false"
  | .freeze => SMap.set ann K.rolloutFrozenAnnot "true"
  | .unfreeze => SMap.set ann K.rolloutFrozenAnnot "false"

open Spec.C19 in
/-- `cliRun` read backwards, by outcome: a refusal names the violated precondition or, when the
precondition holds, the object already is in the requested state; a patch is `patchOf`, produced
under the precondition and only when something changes; only `canary fail` touches a replica set,
the one `status.canary` names. -/
theorem cliRun_inv (cmd : CliCmd) (h : Bool) (sc : Option CanaryStatus) (ann : SMap) :
    match cliRun cmd h sc ann with
    | .refused why =>
      if precondition cmd h sc = true then alreadyInState cmd sc ann = true
      else why = "no-canary-strategy" ∨ why = "no-active-canary" ∨ why = "active-canary"
    | .patchAnnotations ann' =>
      cmd ≠ .canaryFail ∧ precondition cmd h sc = true ∧ alreadyInState cmd sc ann = false ∧
        ann' = patchOf cmd sc ann
    | .failErs name =>
      cmd = .canaryFail ∧ precondition cmd h sc = true ∧ sc.map (·.replicaSet) = some name := by
  generalize hr : cliRun cmd h sc ann = out
  cases cmd <;> cases sc <;> simp [cliRun] at hr <;> (repeat' split at hr) <;> subst hr <;>
    simp_all [precondition, alreadyInState, patchOf, Option.isSome_iff_ne_none]

theorem cliRun_patch {cmd : CliCmd} {h : Bool} {sc : Option CanaryStatus} {ann ann' : SMap}
    (hr : cliRun cmd h sc ann = .patchAnnotations ann') :
    ann' = patchOf cmd sc ann ∧ Spec.C19.precondition cmd h sc = true := by
  have := cliRun_inv cmd h sc ann
  rw [hr] at this
  exact ⟨this.2.2.2, this.2.1⟩

end CliP
end Eds
