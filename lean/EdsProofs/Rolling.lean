import EdsModel.Rolling
import EdsSpec.C03
import EdsProofs.Lists
/-
  Helper lemmas about the `ManageDeployment` model: what one step of the counting loop does to an entry
  of each category, the counters of the loop equal the filter-lengths of the specification, the creation
  candidates are the entries without pod, the deletion list is "unavailable first" within the limit
  of the budget kernel and holds outdated pods of targeted entries only; `manageDeployment_inv`: what a
  successful `ManageDeployment` returns.
-/
namespace Eds
open Spec.C03

theorem mem_nil_elim {α} {a : α} {l : List α} (hl : l = []) (h : a ∈ l) : False := by
  rw [hl] at h; cases h

theorem length_snoc_int {α} (l : List α) (a : α) : ((l ++ [a]).length : Int) = l.length + 1 := by simp

theorem length_filter_snoc {α} (p : α → Bool) (l : List α) (a : α) :
    (((l ++ [a]).filter p).length : Int) = (l.filter p).length + if p a then 1 else 0 := by
  rw [List.filter_append, List.length_append, List.filter_cons, List.filter_nil]
  split <;> simp

theorem classify_some_ne_noPod (tg : String) (wall : Time) (ni : NodeItem) (p : Pod) :
    classify tg wall (ni, some p) ≠ .noPod := by
  intro hc
  simp only [classify] at hc
  split at hc
  · cases hc
  · split at hc
    · split at hc <;> cases hc
    · cases hc

theorem classify_outdated {tg : String} {wall : Time} {ni : NodeItem} {p : Pod} {a : Bool}
    (h : classify tg wall (ni, some p) = .outdated a) :
    p.schedulerIssue wall = false ∧ comparePod tg p ni = false ∧ p.deletion = none ∧ p.available = a := by
  simp only [classify] at h
  split at h
  · cases h
  · rename_i hs
    split at h
    · rename_i hc
      split at h
      · rename_i hdel
        injection h with h
        refine ⟨by simpa using hs, by simpa using hc, by simpa using hdel, h⟩
      · cases h
    · cases h

/-- a bound, live, Ready pod is classified by the pod comparison alone. -/
theorem classify_settled (tg : String) (wall : Time) (ni : NodeItem) (p : Pod)
    (hb : p.nodeName ≠ "") (hd : p.deletion = none) (hr : p.ready = true) :
    classify tg wall (ni, some p) = if comparePod tg p ni then .upToDate true true else .outdated true := by
  have hsi : p.schedulerIssue wall = false := by
    unfold Pod.schedulerIssue Pod.scheduled
    rw [hd]
    simp [hb]
  unfold classify
  simp only [hsi, Bool.false_eq_true, if_false, Pod.available, hr, hd, Option.isNone_none, if_true]
  cases comparePod tg p ni <;> rfl

section CountStep
variable {tg : String} {wall : Time} (c : Counts) (ni : NodeItem) {pod : Pod}

theorem countStep_none :
    countStep tg wall c (ni, none) = { c with desired := c.desired + 1, toCreate := c.toCreate ++ [ni] } := rfl

theorem countStep_stuck (h : classify tg wall (ni, some pod) = .stuck) :
    countStep tg wall c (ni, some pod) = { c with desired := c.desired + 1, stuck := c.stuck + 1 } := by
  simp only [countStep, h]

theorem countStep_terminating (h : classify tg wall (ni, some pod) = .outdatedTerminating) :
    countStep tg wall c (ni, some pod) =
      { c with desired := c.desired + 1, allPods := c.allPods + 1, terminating := c.terminating + 1 } := by
  simp only [countStep, h]

theorem countStep_outdated_avail (h : classify tg wall (ni, some pod) = .outdated true) :
    countStep tg wall c (ni, some pod) =
      { c with desired := c.desired + 1, allPods := c.allPods + 1, oldAvailable := c.oldAvailable + 1,
               toDeleteAvail := c.toDeleteAvail ++ [(ni, pod)] } := by
  simp only [countStep, h]

theorem countStep_outdated_unavail (h : classify tg wall (ni, some pod) = .outdated false) :
    countStep tg wall c (ni, some pod) =
      { c with desired := c.desired + 1, allPods := c.allPods + 1, oldUnavailable := c.oldUnavailable + 1,
               toDeleteUnavail := c.toDeleteUnavail ++ [(ni, pod)] } := by
  simp only [countStep, h]

theorem countStep_upToDate {a r : Bool} (h : classify tg wall (ni, some pod) = .upToDate a r) :
    countStep tg wall c (ni, some pod) =
      { c with desired := c.desired + 1, allPods := c.allPods + 1, created := c.created + 1,
               available := c.available + (if a then 1 else 0), ready := c.ready + (if r then 1 else 0) } := by
  simp only [countStep, h]

end CountStep

/-- invariant of the counting fold relative to the processed prefix `es`. -/
structure CountInv (tg : String) (wall : Time) (es : List Entry) (c : Counts) : Prop where
  desired : c.desired = es.length
  stuck : c.stuck = nStuck tg wall es
  avail : c.available + c.oldAvailable = nAvail tg wall es
  oldU : c.oldUnavailable = c.toDeleteUnavail.length
  oldA : c.oldAvailable = c.toDeleteAvail.length
  oldUspec : c.oldUnavailable = nOutdatedUnavail tg wall es
  unavailAll : ∀ e ∈ c.toDeleteUnavail, e.2.available = false
  availAll : ∀ e ∈ c.toDeleteAvail, e.2.available = true
  createLen : (c.toCreate.length : Int) + c.allPods + c.stuck = c.desired
  availNonneg : 0 ≤ c.available

theorem countInv_step (tg : String) (wall : Time) (es : List Entry) (c : Counts) (e : Entry)
    (h : CountInv tg wall es c) : CountInv tg wall (es ++ [e]) (countStep tg wall c e) := by
  obtain ⟨ni, op⟩ := e
  -- the fields, here and in the tuples below, in the order of the structure
  obtain ⟨h1, h2, h3, h4, h5, h6, h7, h8, h9, h10⟩ := h
  -- `createLen` after a step that adds a creation candidate, a counted pod, a stuck pod
  have h9c : ((c.toCreate ++ [ni]).length : Int) + c.allPods + c.stuck = c.desired + 1 := by
    rw [length_snoc_int]; omega
  have h9p : (c.toCreate.length : Int) + (c.allPods + 1) + c.stuck = c.desired + 1 := by omega
  have h9s : (c.toCreate.length : Int) + c.allPods + (c.stuck + 1) = c.desired + 1 := by omega
  -- how the counts of the specification grow with the new entry
  have hL := length_snoc_int es (ni, op)
  have hS : nStuck tg wall (es ++ [(ni, op)]) = nStuck tg wall es + if isStuckNode tg wall (ni, op) then 1 else 0 :=
    length_filter_snoc _ _ _
  have hA : nAvail tg wall (es ++ [(ni, op)]) = nAvail tg wall es + if isAvailNode tg wall (ni, op) then 1 else 0 :=
    length_filter_snoc _ _ _
  have hU : nOutdatedUnavail tg wall (es ++ [(ni, op)])
      = nOutdatedUnavail tg wall es + if isOutdatedUnavail tg wall (ni, op) then 1 else 0 :=
    length_filter_snoc _ _ _
  cases op with
  | none =>
    simp only [isStuckNode, isAvailNode, isOutdatedUnavail, classify, ↓reduceIte, Bool.false_eq_true,
      Int.add_zero] at hS hA hU
    rw [countStep_none]
    exact ⟨by rw [hL, ← h1], hS ▸ h2, hA ▸ h3, h4, h5, hU ▸ h6, h7, h8, h9c, h10⟩
  | some pod =>
    cases hc : classify tg wall (ni, some pod) with
    | noPod => exact absurd hc (classify_some_ne_noPod tg wall ni pod)
    | stuck =>
      simp only [isStuckNode, isAvailNode, isOutdatedUnavail, hc, ↓reduceIte, Bool.false_eq_true,
        Int.add_zero] at hS hA hU
      rw [countStep_stuck c ni hc]
      exact ⟨by rw [hL, ← h1], by rw [hS, ← h2], hA ▸ h3, h4, h5, hU ▸ h6, h7, h8, h9s, h10⟩
    | outdatedTerminating =>
      simp only [isStuckNode, isAvailNode, isOutdatedUnavail, hc, ↓reduceIte, Bool.false_eq_true,
        Int.add_zero] at hS hA hU
      rw [countStep_terminating c ni hc]
      exact ⟨by rw [hL, ← h1], hS ▸ h2, hA ▸ h3, h4, h5, hU ▸ h6, h7, h8, h9p, h10⟩
    | upToDate a r =>
      have hav : isAvailNode tg wall (ni, some pod) = a := by cases a <;> simp only [isAvailNode, hc]
      simp only [isStuckNode, hav, isOutdatedUnavail, hc, ↓reduceIte, Bool.false_eq_true, Int.add_zero] at hS hA hU
      rw [countStep_upToDate c ni hc]
      exact ⟨by rw [hL, ← h1], hS ▸ h2, by rw [hA, ← h3, Int.add_right_comm], h4, h5, hU ▸ h6, h7, h8, h9p,
        Int.add_nonneg h10 (by split <;> decide)⟩
    | outdated a =>
      have hav := (classify_outdated hc).2.2.2
      cases a with
      | true =>
        simp only [isStuckNode, isAvailNode, isOutdatedUnavail, hc, ↓reduceIte, Bool.false_eq_true,
          Int.add_zero] at hS hA hU
        rw [countStep_outdated_avail c ni hc]
        exact ⟨by rw [hL, ← h1], hS ▸ h2, by rw [hA, ← h3, Int.add_assoc], h4, by rw [length_snoc_int, ← h5],
          hU ▸ h6, h7, List.forall_mem_append.mpr ⟨h8, List.forall_mem_singleton.mpr hav⟩, h9p, h10⟩
      | false =>
        simp only [isStuckNode, isAvailNode, isOutdatedUnavail, hc, ↓reduceIte, Bool.false_eq_true,
          Int.add_zero] at hS hA hU
        rw [countStep_outdated_unavail c ni hc]
        exact ⟨by rw [hL, ← h1], hS ▸ h2, hA ▸ h3, by rw [length_snoc_int, ← h4], h5, by rw [hU, ← h6],
          List.forall_mem_append.mpr ⟨h7, List.forall_mem_singleton.mpr hav⟩, h8, h9p, h10⟩

theorem countAll_inv (tg : String) (wall : Time) (es : List Entry) :
    CountInv tg wall es (countAll tg wall es) :=
  foldl_prefix_inv (I := CountInv tg wall) (by constructor <;> simp [nStuck, nAvail, nOutdatedUnavail])
    (fun done c e h => countInv_step tg wall done c e h) es

/-- nodes of the entries that have no pod, in order -/
def noneNodes (es : List (NodeItem × Option Pod)) : List NodeItem :=
  es.filterMap (fun e => match e.2 with | none => some e.1 | some _ => none)

theorem countStep_toCreate (tg : String) (wall : Time) (c : Counts) (e : NodeItem × Option Pod) :
    (countStep tg wall c e).toCreate = c.toCreate ++ noneNodes [e] := by
  obtain ⟨ni, o⟩ := e
  cases o with
  | none => rfl
  | some pod =>
    simp only [countStep, noneNodes, List.filterMap_cons, List.filterMap_nil, List.append_nil]
    split <;> rfl

theorem countAll_toCreate (tg : String) (wall : Time) (es : List (NodeItem × Option Pod)) :
    (countAll tg wall es).toCreate = noneNodes es :=
  foldl_prefix_inv (I := fun done (c : Counts) => c.toCreate = noneNodes done) rfl
    (fun done c e h => by
      rw [countStep_toCreate, h]
      exact (List.filterMap_append ..).symm) es

theorem mem_noneNodes {es : List (NodeItem × Option Pod)} {ni : NodeItem} :
    ni ∈ noneNodes es ↔ (ni, none) ∈ es := by
  unfold noneNodes
  rw [List.mem_filterMap]
  constructor
  · rintro ⟨⟨n, o⟩, he, h⟩
    cases o with
    | none => simp only [Option.some.injEq] at h; subst h; exact he
    | some _ => cases h
  · intro h; exact ⟨(ni, none), h, rfl⟩

theorem noneNodes_names_sublist (es : List (NodeItem × Option Pod)) :
    ((noneNodes es).map (·.node.name)).Sublist (es.map (·.1.node.name)) := by
  induction es with
  | nil => exact List.Sublist.refl _
  | cons e rest ih =>
    obtain ⟨ni, o⟩ := e
    cases o with
    | none => exact List.Sublist.cons_cons _ ih
    | some _ => exact List.Sublist.cons _ ih

theorem rollingPlan_create_sublist (c : Counts) (N ms mu mc : Int) (paused frozen : Bool) :
    (rollingPlan c N ms mu mc paused frozen).1.Sublist c.toCreate := by
  unfold rollingPlan
  simp only []
  split
  · exact List.take_sublist _ _
  · exact List.nil_sublist _

/-- number of available pods in a prefix of (unavailable ++ available). -/
theorem availDeleted_take (U A : List (NodeItem × Pod)) (n : Nat)
    (hU : ∀ e ∈ U, e.2.available = false) (hA : ∀ e ∈ A, e.2.available = true) :
    availDeleted ((U ++ A).take n) = min (n - U.length) A.length := by
  unfold availDeleted
  rw [List.take_append, List.filter_append,
    List.filter_eq_nil_iff.mpr (fun e he => by simp [hU e (List.mem_of_mem_take he)]),
    List.filter_eq_self.mpr (fun e he => hA e (List.mem_of_mem_take he)),
    List.nil_append, List.length_take]

theorem rollingPlan_delete (c : Counts) (N ms mu mc : Int) (paused frozen : Bool) :
    (rollingPlan c N ms mu mc paused frozen).2 =
      if !paused && !frozen then
        (c.toDeleteUnavail ++ c.toDeleteAvail).take
          (min (calcLimits { nbNodes := N, nbPods := c.allPods, nbAvailablesPod := c.available,
                             nbOldAvailablesPod := c.oldAvailable, nbCreatedPod := c.created,
                             nbUnresponsiveNodes := c.stuck, nbOldUnavailablePods := c.oldUnavailable,
                             maxPodCreation := mc, maxUnavailablePod := mu,
                             maxUnschedulablePod := ms }).2
               ((c.toDeleteUnavail ++ c.toDeleteAvail).length : Int)).toNat
      else [] := rfl

/-- the deletion limit of the kernel is not negative, not above `maxUnavailable`, and not above what
`maxUnavailable` leaves once the nodes without an available pod are counted — the outdated unavailable
pods come on top: deleting them takes no available pod away. -/
theorem calcLimits_snd (p : LimitParams) :
    0 ≤ (calcLimits p).2 ∧ (calcLimits p).2 ≤ max 0 p.maxUnavailablePod ∧
    (calcLimits p).2 ≤ max 0 (p.maxUnavailablePod
      - (p.nbNodes - min p.nbUnresponsiveNodes p.maxUnschedulablePod - p.nbAvailablesPod - p.nbOldAvailablesPod)
      + p.nbOldUnavailablePods) :=
  ⟨Int.le_max_left _ _,
   Int.max_le.mpr ⟨Int.le_max_left _ _, Int.le_trans (Int.min_le_right _ _) (Int.le_max_right _ _)⟩,
   Int.max_le.mpr ⟨Int.le_max_left _ _, Int.le_trans (Int.min_le_left _ _) (Int.le_max_right _ _)⟩⟩

theorem toNat_min_le {L len B : Int} (h : L ≤ max 0 B) : ((min L len).toNat : Int) ≤ max 0 B := by
  rw [Int.ofNat_toNat]
  exact Int.max_le.mpr ⟨Int.le_trans (Int.min_le_left _ _) h, Int.le_max_left _ _⟩

/-- the deletion list is a prefix of "unavailable candidates, then available ones"; the number `n` taken
obeys the two upper bounds of `calcLimits_snd`. -/
theorem rollingPlan_delete_take (c : Counts) (N ms mu mc : Int) (paused frozen : Bool) :
    ∃ n : Nat, (n : Int) ≤ max 0 mu ∧
      (n : Int) ≤ max 0 (mu - (N - min c.stuck ms - c.available - c.oldAvailable) + c.oldUnavailable) ∧
      (rollingPlan c N ms mu mc paused frozen).2 =
        if !paused && !frozen then (c.toDeleteUnavail ++ c.toDeleteAvail).take n else [] := by
  obtain ⟨_, h1, h2⟩ := calcLimits_snd
    { nbNodes := N, nbPods := c.allPods, nbAvailablesPod := c.available, nbOldAvailablesPod := c.oldAvailable,
      nbCreatedPod := c.created, nbUnresponsiveNodes := c.stuck, nbOldUnavailablePods := c.oldUnavailable,
      maxPodCreation := mc, maxUnavailablePod := mu, maxUnschedulablePod := ms }
  exact ⟨_, toNat_min_le h1, toNat_min_le h2, rollingPlan_delete c N ms mu mc paused frozen⟩

theorem plan_budget (tg : String) (wall : Time) (es : List Entry) (c : Counts)
    (h : CountInv tg wall es c) (ms mu mc : Int) (paused frozen : Bool) :
    availDeleted (rollingPlan c es.length ms mu mc paused frozen).2
      ≤ max 0 (mu - unavailableNodes tg wall es ms) := by
  obtain ⟨n, _, hn, hd⟩ := rollingPlan_delete_take c es.length ms mu mc paused frozen
  rw [hd]
  split
  · rw [availDeleted_take _ _ _ h.unavailAll h.availAll]
    -- the bound on `n` is what `maxUnavailable` leaves, plus the unavailable candidates
    replace hn : (n : Int) ≤ max 0 (mu - unavailableNodes tg wall es ms + c.toDeleteUnavail.length) := by
      have hx : mu - unavailableNodes tg wall es ms + c.toDeleteUnavail.length
          = mu - ((es.length : Int) - min c.stuck ms - c.available - c.oldAvailable) + c.oldUnavailable := by
        unfold unavailableNodes
        rw [← h.stuck, ← h.avail, ← h.oldU]
        generalize min c.stuck ms = s
        omega
      rwa [hx]
    have hm := Nat.min_le_left (n - c.toDeleteUnavail.length) c.toDeleteAvail.length
    generalize min (n - c.toDeleteUnavail.length) c.toDeleteAvail.length = m at hm ⊢
    omega
  · exact Int.le_max_left 0 _

theorem plan_cap (c : Counts) (N ms mu mc : Int) (paused frozen : Bool) :
    ((rollingPlan c N ms mu mc paused frozen).2.length : Int) ≤ max 0 mu := by
  obtain ⟨n, hn, _, hd⟩ := rollingPlan_delete_take c N ms mu mc paused frozen
  rw [hd]
  split
  · have := List.length_take_le n (c.toDeleteUnavail ++ c.toDeleteAvail)
    omega
  · exact Int.le_max_left 0 _

/-- unavailable first: if the plan deletes an available pod, it deletes every outdated,
non-terminating, unavailable one. -/
theorem plan_unavailable_first (tg : String) (wall : Time) (es : List Entry) (c : Counts)
    (h : CountInv tg wall es c) (ms mu mc : Int) (paused frozen : Bool)
    (hpos : 0 < availDeleted (rollingPlan c es.length ms mu mc paused frozen).2) :
    ((rollingPlan c es.length ms mu mc paused frozen).2.length : Int)
      - availDeleted (rollingPlan c es.length ms mu mc paused frozen).2
      ≥ nOutdatedUnavail tg wall es := by
  obtain ⟨n, _, _, hd⟩ := rollingPlan_delete_take c es.length ms mu mc paused frozen
  rw [hd] at hpos ⊢
  split at hpos
  · rename_i hc
    rw [availDeleted_take _ _ _ h.unavailAll h.availAll] at hpos
    rw [if_pos hc, availDeleted_take _ _ _ h.unavailAll h.availAll, ← h.oldUspec, h.oldU, List.length_take,
      List.length_append]
    omega
  · exact absurd hpos (by decide)

/-- the status conditions `ManageDeployment` returns. -/
def deploymentConds (p : StratParams) (now wall : Time) (cf : Bool) : List Cond :=
  if p.toCleanUp.isEmpty then rollingConds p now
  else updateCond (rollingConds p now) wall "PodsCleanupDone" (boolCond (!cf)) "" "" true false

/-- **Anatomy of a successful `ManageDeployment`**: the three strategy values resolve, the plan is
`rollingPlan` over the counters of the targeted entries, the clean-up is `cleanupTargets`, the status is
`NewStatus` with `deploymentConds`, "active" and those counters, and the two flags are read off the annotations. -/
theorem manageDeployment_inv (p : StratParams) (now wall : Time) (cf : Bool) (r : StratResult)
    (h : manageDeployment p now wall cf = .ok r) :
    let c := countAll p.ers.templateGeneration wall (targeted p)
    ∃ ms mu mc,
      resolveIntOrPercent p.strategy.rollingUpdate.maxPodSchedulerFailure (targeted p).length = some ms ∧
      resolveIntOrPercent p.strategy.rollingUpdate.maxUnavailable (targeted p).length = some mu ∧
      calculateMaxCreation p.strategy.rollingUpdate.slowStartAdditiveIncrease
        p.strategy.rollingUpdate.slowStartInterval p.strategy.rollingUpdate.maxParallelPodCreation
        (targeted p).length (rollingUpdateStartTime p.ers.status now) now = .ok mc ∧
      r.createE = (rollingPlan c (targeted p).length
                    ms mu mc (isRollingUpdatePaused p.edsAnnotations) (isRolloutFrozen p.edsAnnotations)).1 ∧
      r.deleteE = (rollingPlan c (targeted p).length
                    ms mu mc (isRollingUpdatePaused p.edsAnnotations) (isRolloutFrozen p.edsAnnotations)).2 ∧
      r.cleanupDeletes = cleanupTargets p.toCleanUp ∧
      r.newStatus = some { p.newStatus with
        conds := deploymentConds p now wall cf, status := "active", desired := c.desired, ready := c.ready,
        current := c.created, available := c.available, ignored := c.stuck } ∧
      r.isPaused = isRollingUpdatePaused p.edsAnnotations ∧ r.isFrozen = isRolloutFrozen p.edsAnnotations := by
  unfold manageDeployment at h
  simp only [] at h
  split at h
  · cases h
  · rename_i ms hms
    split at h
    · cases h
    · rename_i mu hmu
      split at h
      · cases h
      · cases h
      · rename_i mc hmc
        injection h with h
        subst h
        refine ⟨ms, mu, mc, hms, hmu, hmc, rfl, rfl, rfl, ?_, rfl, rfl⟩
        unfold deploymentConds rollingConds
        split <;> rfl

/-- every successful `manageDeployment` run is a `rollingPlan` over the counters of the targeted
entries with the resolved strategy values. -/
theorem manageDeployment_plan (p : StratParams) (now wall : Time) (cf : Bool) (r : StratResult)
    (h : manageDeployment p now wall cf = .ok r) :
    ∃ ms mu mc,
      resolveIntOrPercent p.strategy.rollingUpdate.maxPodSchedulerFailure (targeted p).length = some ms ∧
      resolveIntOrPercent p.strategy.rollingUpdate.maxUnavailable (targeted p).length = some mu ∧
      calculateMaxCreation p.strategy.rollingUpdate.slowStartAdditiveIncrease
        p.strategy.rollingUpdate.slowStartInterval p.strategy.rollingUpdate.maxParallelPodCreation
        (targeted p).length (rollingUpdateStartTime p.ers.status now) now = .ok mc ∧
      r.createE = (rollingPlan (countAll p.ers.templateGeneration wall (targeted p)) (targeted p).length
                    ms mu mc (isRollingUpdatePaused p.edsAnnotations) (isRolloutFrozen p.edsAnnotations)).1 ∧
      r.deleteE = (rollingPlan (countAll p.ers.templateGeneration wall (targeted p)) (targeted p).length
                    ms mu mc (isRollingUpdatePaused p.edsAnnotations) (isRolloutFrozen p.edsAnnotations)).2 := by
  obtain ⟨ms, mu, mc, h1, h2, h3, h4, h5, _⟩ := manageDeployment_inv p now wall cf r h
  exact ⟨ms, mu, mc, h1, h2, h3, h4, h5⟩

theorem manageDeployment_cleanup (p : StratParams) (now wall : Time) (cf : Bool) (r : StratResult)
    (h : manageDeployment p now wall cf = .ok r) : r.cleanupDeletes = cleanupTargets p.toCleanUp := by
  obtain ⟨_, _, _, _, _, _, _, _, h6, _⟩ := manageDeployment_inv p now wall cf r h
  exact h6

theorem manageDeployment_conds (p : StratParams) (now wall : Time) (cf : Bool) (r : StratResult) (st0 : ERSStatus)
    (h : manageDeployment p now wall cf = .ok r) (hs : r.newStatus = some st0) :
    st0.conds = deploymentConds p now wall cf := by
  obtain ⟨_, _, _, _, _, _, _, _, _, hs', _⟩ := manageDeployment_inv p now wall cf r h
  cases hs.symm.trans hs'
  rfl

/-- when the three strategy values resolve, `ManageDeployment` succeeds with the plan of
`rollingPlan`, the clean-up of `cleanupTargets` and a status whose conditions are `deploymentConds`. -/
theorem manageDeployment_ok (p : StratParams) (now wall : Time) (cf : Bool) (ms mu mc : Int)
    (hms : resolveIntOrPercent p.strategy.rollingUpdate.maxPodSchedulerFailure (targeted p).length = some ms)
    (hmu : resolveIntOrPercent p.strategy.rollingUpdate.maxUnavailable (targeted p).length = some mu)
    (hmc : calculateMaxCreation p.strategy.rollingUpdate.slowStartAdditiveIncrease
        p.strategy.rollingUpdate.slowStartInterval p.strategy.rollingUpdate.maxParallelPodCreation
        (targeted p).length (rollingUpdateStartTime p.ers.status now) now = .ok mc) :
    ∃ r st0, manageDeployment p now wall cf = .ok r ∧ r.newStatus = some st0 ∧
      st0.conds = deploymentConds p now wall cf ∧
      r.createE = (rollingPlan (countAll p.ers.templateGeneration wall (targeted p)) (targeted p).length
                    ms mu mc (isRollingUpdatePaused p.edsAnnotations) (isRolloutFrozen p.edsAnnotations)).1 ∧
      r.deleteE = (rollingPlan (countAll p.ers.templateGeneration wall (targeted p)) (targeted p).length
                    ms mu mc (isRollingUpdatePaused p.edsAnnotations) (isRolloutFrozen p.edsAnnotations)).2 ∧
      r.cleanupDeletes = cleanupTargets p.toCleanUp := by
  unfold targeted at hms hmu hmc
  unfold manageDeployment
  simp only [hms, hmu, hmc]
  refine ⟨_, _, rfl, rfl, ?_, rfl, rfl, rfl⟩
  unfold deploymentConds rollingConds
  split <;> rfl

/-- a pod the rolling update may replace: no scheduler issue, not comparing equal to what the replica
set would create on the node, not terminating. -/
def OutdatedPair (tg : String) (wall : Time) (x : NodeItem × Pod) : Prop :=
  x.2.schedulerIssue wall = false ∧ comparePod tg x.2 x.1 = false ∧ x.2.deletion = none

/-- one iteration of the counting loop adds to the two deletion lists nothing, or the entry's pod,
classified outdated. -/
theorem countStep_toDelete_mem (tg : String) (wall : Time) (c : Counts) (e : NodeItem × Option Pod)
    (x : NodeItem × Pod)
    (hx : x ∈ (countStep tg wall c e).toDeleteUnavail ++ (countStep tg wall c e).toDeleteAvail) :
    x ∈ c.toDeleteUnavail ++ c.toDeleteAvail ∨ (e = (x.1, some x.2) ∧ OutdatedPair tg wall x) := by
  obtain ⟨ni, o⟩ := e
  cases o with
  | none => exact Or.inl hx
  | some pod =>
    cases hc : classify tg wall (ni, some pod) with
    | outdated a =>
      obtain ⟨h1, h2, h3, _⟩ := classify_outdated hc
      have hnew : (ni, some pod) = (((ni, pod) : NodeItem × Pod).1, some ((ni, pod) : NodeItem × Pod).2) ∧
          OutdatedPair tg wall (ni, pod) := ⟨rfl, h1, h2, h3⟩
      cases a <;> simp only [countStep, hc, List.mem_append, List.mem_singleton] at hx ⊢
      · rcases hx with (hx | rfl) | hx
        · exact Or.inl (Or.inl hx)
        · exact Or.inr hnew
        · exact Or.inl (Or.inr hx)
      · rcases hx with hx | hx | rfl
        · exact Or.inl (Or.inl hx)
        · exact Or.inl (Or.inr hx)
        · exact Or.inr hnew
    | _ => simp only [countStep, hc] at hx; exact Or.inl hx

theorem countAll_toDelete_mem (tg : String) (wall : Time) (es : List (NodeItem × Option Pod))
    (x : NodeItem × Pod)
    (hx : x ∈ (countAll tg wall es).toDeleteUnavail ++ (countAll tg wall es).toDeleteAvail) :
    (x.1, some x.2) ∈ es ∧ OutdatedPair tg wall x :=
  foldl_prefix_inv
    (I := fun done (c : Counts) => x ∈ c.toDeleteUnavail ++ c.toDeleteAvail →
      (x.1, some x.2) ∈ done ∧ OutdatedPair tg wall x)
    (fun h => by cases h)
    (fun done c e ih h => by
      rcases countStep_toDelete_mem tg wall c e x h with h | ⟨rfl, ho⟩
      · exact ⟨List.mem_append_left _ (ih h).1, (ih h).2⟩
      · exact ⟨List.mem_append_right _ List.mem_cons_self, ho⟩) es hx

/-- the entries the active and unknown roles work on: those of the map off the canary nodes. -/
theorem mem_targeted {p : StratParams} {e : NodeItem × Option Pod} :
    e ∈ targeted p ↔ e ∈ p.byNode ∧ e.1.node.name ∉ p.canaryNodes := by
  simp [targeted, dropCanaryNodes]

theorem dropCanaryNodes_nil (l : List (NodeItem × Option Pod)) : dropCanaryNodes l [] = l :=
  List.filter_eq_self.mpr fun _ _ => rfl

theorem rollingPlan_delete_sub (c : Counts) (N ms mu mc : Int) (paused frozen : Bool) :
    ∀ x ∈ (rollingPlan c N ms mu mc paused frozen).2, x ∈ c.toDeleteUnavail ++ c.toDeleteAvail := by
  intro x hx
  rw [rollingPlan_delete] at hx
  split at hx
  · exact List.mem_of_mem_take hx
  · cases hx

/-- what the active role deletes for updating: kept pods of targeted (non-canary) entries, outdated. -/
theorem manageDeployment_delete_outdated (p : StratParams) (now wall : Time) (cf : Bool) (r : StratResult)
    (h : manageDeployment p now wall cf = .ok r) :
    ∀ x ∈ r.deleteE, (x.1, some x.2) ∈ targeted p ∧ OutdatedPair p.ers.templateGeneration wall x := by
  obtain ⟨ms, mu, mc, _, _, _, _, hdel⟩ := manageDeployment_plan p now wall cf r h
  intro x hx
  rw [hdel] at hx
  exact countAll_toDelete_mem _ _ _ x (rollingPlan_delete_sub _ _ _ _ _ _ _ x hx)

theorem manageDeployment_delete_mem (p : StratParams) (now wall : Time) (cf : Bool) (r : StratResult)
    (h : manageDeployment p now wall cf = .ok r) :
    ∀ x ∈ r.deleteE, (x.1, some x.2) ∈ targeted p :=
  fun x hx => (manageDeployment_delete_outdated p now wall cf r h x hx).1

theorem manageUnknown_conds (p : StratParams) (wall : Time) (st0 : ERSStatus)
    (hs : (manageUnknown p wall).newStatus = some st0) : st0.conds = p.newStatus.conds := by
  unfold manageUnknown at hs
  simp only [Option.some.injEq] at hs
  rw [← hs]

end Eds
