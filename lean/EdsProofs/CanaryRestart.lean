import EdsProofs.ErsRun
/-
  EdsProofs.CanaryRestart — the PodRestarting bookkeeping of `manageCanaryPodFailures`
  (strategy/canary.go), and what a whole sync of the replica-set controller does to the stored
  PodRestarting condition.

  * `observedRestart pods`  — the restart time one evaluation of `pods` observes: the loop variable
                              `newRestartTime` after the per-pod loop (`mcpf_newRestartTime`).  It is
                              the LATEST `lastState.terminated.finishedAt` among the container statuses
                              with a non-zero restart count of the evaluated pods whose highest restart
                              count is non-zero, or Go's zero time if there is none
                              (`observedRestart_spec`, `mostRecentRestart_spec`).  It is NOT the clock
                              `now`: the clock never enters the PodRestarting condition.
  * `restartView`, `recordView` — the (status, lastTransition, lastUpdate) projection of the stored
                              condition and the effect of `UpdateExtendedDaemonSetReplicaSetStatusCondition
                              (status, metav1.NewTime(newRestartTime), PodRestarting, True, …, false, true)`.
  * `finalConds_restartView` — the condition list `manageCanaryPodFailures` returns.
  * `recorded rs s`          — the time the sync `s` of replica set `rs` records, as a function of what the
                              sync reads; `restartView_step` — the stored condition after the sync.
-/
namespace Eds

/-! ### 1. The loop variable `newRestartTime` -/

/-- one iteration's update of `newRestartTime`. -/
def obsStep (acc : Time) (pod : Pod) : Time :=
  if (highestRestart pod.cstats).1 != 0 then
    if (mostRecentRestart pod.cstats).1 > acc then (mostRecentRestart pod.cstats).1 else acc
  else acc

/-- the restart time an evaluation of `pods` observes (`newRestartTime` after the loop). -/
def observedRestart (pods : List Pod) : Time := pods.foldl obsStep zeroTime

theorem fsRestart_newRestartTime (s : FailState) (pod : Pod) :
    (fsRestart s pod).newRestartTime = obsStep s.newRestartTime pod := by
  unfold fsRestart obsStep; split <;> (try split) <;> rfl

theorem failStep_newRestartTime (cfg : FailCfg) (s : FailState) (pod : Pod)
    (h : (failStep cfg s pod).panicked = false) :
    (failStep cfg s pod).newRestartTime = obsStep s.newRestartTime pod := by
  obtain ⟨st, r, hcs⟩ := fsCS_frame cfg pod (fsRestart s pod)
  rw [(failStep_nonpanic cfg s pod h).2, hcs, ← fsRestart_newRestartTime]
  unfold fsDecide
  simp only [apply_ite FailState.newRestartTime, ite_self]

/-- **`newRestartTime` of a returning `manageCanaryPodFailures` is `observedRestart` of the evaluated pods.** -/
theorem mcpf_newRestartTime {pods : List Pod} {canary : Option Canary} {paramsStatus st st' : ERSStatus}
    {failed0 paused0 : Bool} {reason0 : String} {unpaused : Bool} {now : Time} {s : FailState}
    (h : manageCanaryPodFailures pods canary paramsStatus st failed0 paused0 reason0 unpaused now = some (s, st')) :
    s.newRestartTime = observedRestart pods := by
  obtain ⟨_, _, _, _, _, _, _, hd⟩ := mcpf_derefs h
  obtain ⟨hs, hp, _⟩ := mcpf_some hd h
  rw [hs] at hp ⊢
  exact fold_proj _ FailState.newRestartTime obsStep (failStep_newRestartTime _) pods _ hp

/-! #### what `observedRestart` is -/

/-- a fold that only ever raises its key, to the value of a candidate: the key ends at least where it
began and at every candidate's value, and it is where it began or at some candidate's value. -/
theorem foldl_runningMax {α β} (key : β → Time) (cand : α → Time → Prop) (f : β → α → β)
    (hge : ∀ b a, key b ≤ key (f b a)) (hcand : ∀ b a v, cand a v → v ≤ key (f b a))
    (hval : ∀ b a, key (f b a) = key b ∨ cand a (key (f b a))) (l : List α) (b : β) :
    key b ≤ key (l.foldl f b) ∧ (∀ a ∈ l, ∀ v, cand a v → v ≤ key (l.foldl f b)) ∧
    (key (l.foldl f b) = key b ∨ ∃ a ∈ l, cand a (key (l.foldl f b))) := by
  induction l generalizing b with
  | nil => exact ⟨Int.le_refl _, (fun _ h => nomatch h), Or.inl rfl⟩
  | cons a l ih =>
    obtain ⟨h1, h2, h3⟩ := ih (f b a)
    refine ⟨Int.le_trans (hge b a) h1, ?_, ?_⟩
    · intro x hx v hv
      rcases List.mem_cons.mp hx with rfl | hx
      · exact Int.le_trans (hcand b x v hv) h1
      · exact h2 x hx v hv
    · rcases h3 with h | ⟨x, hx, hv⟩
      · rcases hval b a with h' | h'
        · exact Or.inl (h.trans h')
        · exact Or.inr ⟨a, List.mem_cons_self, h ▸ h'⟩
      · exact Or.inr ⟨x, List.mem_cons_of_mem _ hx, hv⟩

/-- a pod "shows a restart": its highest container restart count is non-zero. -/
def podRestarted (pod : Pod) : Bool := (highestRestart pod.cstats).1 != 0

/-- **What a sync observes.**  `observedRestart pods` is an upper bound of the most recent restart of
every evaluated pod that shows a restart, it is never below Go's zero time, and it is either the zero
time (nothing observed) or the most recent restart of such a pod. -/
theorem observedRestart_spec (pods : List Pod) :
    zeroTime ≤ observedRestart pods ∧
    (∀ p ∈ pods, podRestarted p = true → (mostRecentRestart p.cstats).1 ≤ observedRestart pods) ∧
    (observedRestart pods = zeroTime ∨
      ∃ p ∈ pods, podRestarted p = true ∧ observedRestart pods = (mostRecentRestart p.cstats).1) := by
  obtain ⟨h1, h2, h3⟩ := foldl_runningMax id
    (fun p v => podRestarted p = true ∧ v = (mostRecentRestart p.cstats).1) obsStep
    (fun acc p => by show acc ≤ obsStep acc p; unfold obsStep; split <;> (try split) <;> omega)
    (fun acc p v hv => by
      obtain ⟨hr, rfl⟩ := hv
      show _ ≤ obsStep acc p
      unfold obsStep
      rw [if_pos (show ((highestRestart p.cstats).1 != 0) = true from hr)]
      split <;> omega)
    (fun acc p => by
      unfold obsStep
      split
      · split
        · exact Or.inr ⟨‹_›, rfl⟩
        · exact Or.inl rfl
      · exact Or.inl rfl)
    pods zeroTime
  exact ⟨h1, fun p hp hr => h2 p hp _ ⟨hr, rfl⟩, h3⟩

/-- the step of `MostRecentRestart`. -/
def mrrStep (acc : Time × String) (s : ContainerStatus) : Time × String :=
  match s.lastTerm with
  | some t =>
    if s.restarts != 0 && t.finishedAt > acc.1 then
      (t.finishedAt, if t.reason != "" then t.reason else "Unknown")
    else acc
  | none => acc

theorem mostRecentRestart_eq (cs : List ContainerStatus) : mostRecentRestart cs = cs.foldl mrrStep (zeroTime, "") := rfl

/-- **`MostRecentRestart`** is the latest `finishedAt` of the last termination among the container
statuses with a non-zero restart count (zero time if none). -/
theorem mostRecentRestart_spec (cs : List ContainerStatus) :
    (∀ c ∈ cs, ∀ t, c.lastTerm = some t → c.restarts ≠ 0 → t.finishedAt ≤ (mostRecentRestart cs).1) ∧
    ((mostRecentRestart cs).1 = zeroTime ∨
      ∃ c ∈ cs, ∃ t, c.lastTerm = some t ∧ c.restarts ≠ 0 ∧ (mostRecentRestart cs).1 = t.finishedAt) := by
  have hstep : ∀ (acc : Time × String) (c : ContainerStatus),
      ((mrrStep acc c).1 = acc.1 ∧ ∀ t, c.lastTerm = some t → c.restarts ≠ 0 → t.finishedAt ≤ acc.1) ∨
      (∃ t, c.lastTerm = some t ∧ c.restarts ≠ 0 ∧ (mrrStep acc c).1 = t.finishedAt ∧ acc.1 < t.finishedAt) := by
    intro acc c
    unfold mrrStep
    cases hl : c.lastTerm with
    | none => exact Or.inl ⟨rfl, fun t ht => nomatch ht⟩
    | some t =>
      by_cases hr : c.restarts = 0
      · exact Or.inl ⟨by simp [hr], fun t' _ h => absurd hr h⟩
      · by_cases hgt : t.finishedAt > acc.1
        · exact Or.inr ⟨t, rfl, hr, by simp [hr, hgt], hgt⟩
        · exact Or.inl ⟨by simp [hgt], fun t' ht' _ => by cases ht'; omega⟩
  obtain ⟨-, h2, h3⟩ := foldl_runningMax Prod.fst
    (fun c v => ∃ t, c.lastTerm = some t ∧ c.restarts ≠ 0 ∧ v = t.finishedAt) mrrStep
    (fun acc c => by rcases hstep acc c with ⟨h, _⟩ | ⟨t, _, _, h, hlt⟩ <;> rw [h] <;> omega)
    (fun acc c v hv => by
      obtain ⟨t, ht, hr, rfl⟩ := hv
      rcases hstep acc c with ⟨h, hle⟩ | ⟨t', ht', _, h, _⟩
      · rw [h]; exact hle t ht hr
      · rw [h, ht] at *; cases ht'; exact Int.le_refl _)
    (fun acc c => by
      rcases hstep acc c with ⟨h, _⟩ | ⟨t, ht, hr, h, _⟩
      · exact Or.inl h
      · exact Or.inr ⟨t, ht, hr, h⟩)
    cs (zeroTime, "")
  rw [mostRecentRestart_eq]
  exact ⟨fun c hc t ht hr => h2 c hc _ ⟨t, ht, hr, rfl⟩, h3⟩

/-! ### 2. The stored condition -/

/-- what the failure triggers and `IsCanaryDeploymentEnded` read of a PodRestarting condition. -/
abbrev RView := Option (String × Time × Time)

/-- (status, lastTransition, lastUpdate) of the first condition of type PodRestarting. -/
def restartView (conds : List Cond) : RView :=
  (findCond conds "PodRestarting").map (fun c => (c.status, c.lastTransition, c.lastUpdate))

/-- effect of recording the restart time `t` (condition update with status True, `supportLastUpdate`):
a missing condition is created with both stamps `t`; a condition that was not True transitions (both
stamps `t`); a True condition keeps its `lastTransition` and gets `lastUpdate = t`. -/
def recordView (t : Time) : RView → RView
  | none => some ("True", t, t)
  | some (status, tr, _) => if status != "True" then some ("True", t, t) else some (status, tr, t)

theorem restartView_congr {cs cs' : List Cond} (h : findCond cs' "PodRestarting" = findCond cs "PodRestarting") :
    restartView cs' = restartView cs := by
  unfold restartView; rw [h]

theorem restartView_updateCond_other (cs : List Cond) (now : Time) (t' status reason desc : String)
    (w sl : Bool) (hne : t' ≠ "PodRestarting") :
    restartView (updateCond cs now t' status reason desc w sl) = restartView cs :=
  restartView_congr (findCond_updateCond_other cs now "PodRestarting" t' status reason desc w sl hne)

theorem restartView_record (cs : List Cond) (t : Time) (reason desc : String) :
    restartView (updateCond cs t "PodRestarting" "True" reason desc false true) = recordView t (restartView cs) := by
  unfold restartView
  rw [findCond_updateCond_same]
  cases hfc : findCond cs "PodRestarting" with
  | none => rfl
  | some c =>
    simp only [Option.map_some, recordView, beq_self_eq_true, if_true]
    by_cases hs : c.status = "True"
    · simp [hs]
    · simp [hs]

/-- `LastUpdateTime` of a view, or the zero time. -/
def viewLast : RView → Time
  | some (_, _, up) => up
  | none => zeroTime

/-- `lastRestartTime` as `manageCanaryPodFailures` computes it from `params.NewStatus`. -/
def storedLast (paramsStatus : ERSStatus) : Time :=
  match findCond paramsStatus.conds "PodRestarting" with | some rc => rc.lastUpdate | none => zeroTime

theorem storedLast_eq (paramsStatus : ERSStatus) :
    storedLast paramsStatus = viewLast (restartView paramsStatus.conds) := by
  unfold storedLast restartView viewLast
  cases findCond paramsStatus.conds "PodRestarting" <;> rfl

theorem finalConds_eq (paramsStatus st : ERSStatus) (now : Time) (s : FailState) :
    finalConds paramsStatus st now s =
      updateCond
        (if (!isZeroTime s.newRestartTime && decide (s.newRestartTime > storedLast paramsStatus)) = true then
          updateCond
            (updateCond (updateCond st.conds now "Canary-Failed" (boolCond s.isFailed) s.failedReason "" false true)
              now "Canary-Paused" (boolCond s.isPaused) s.pausedReason "" false true)
            s.newRestartTime "PodRestarting" "True" s.cannotStartPodReason s.restartingPodStatus false true
         else
          updateCond (updateCond st.conds now "Canary-Failed" (boolCond s.isFailed) s.failedReason "" false true)
            now "Canary-Paused" (boolCond s.isPaused) s.pausedReason "" false true)
        now "PodCannotStart" (boolCond s.cannotStart) s.cannotStartPodReason s.cannotStartPodStatus false true := rfl

/-- **The condition list `manageCanaryPodFailures` returns**: the PodRestarting condition is rewritten
iff the loop observed a restart (`newRestartTime` non-zero) strictly after the stored `lastUpdate`. -/
theorem finalConds_restartView (paramsStatus st : ERSStatus) (now : Time) (s : FailState) :
    restartView (finalConds paramsStatus st now s) =
      if s.newRestartTime ≠ zeroTime ∧ s.newRestartTime > viewLast (restartView paramsStatus.conds) then
        recordView s.newRestartTime (restartView st.conds)
      else restartView st.conds := by
  rw [finalConds_eq, storedLast_eq]
  rw [restartView_updateCond_other _ _ _ _ _ _ _ _ (by simp)]
  by_cases hc : s.newRestartTime ≠ zeroTime ∧ s.newRestartTime > viewLast (restartView paramsStatus.conds)
  · have hb : (!isZeroTime s.newRestartTime &&
        decide (s.newRestartTime > viewLast (restartView paramsStatus.conds))) = true := by
      simp [isZeroTime, hc.1, hc.2]
    rw [if_pos hb, if_pos hc, restartView_record,
      restartView_updateCond_other _ _ _ _ _ _ _ _ (by simp),
      restartView_updateCond_other _ _ _ _ _ _ _ _ (by simp)]
  · have hb : ¬ (!isZeroTime s.newRestartTime &&
        decide (s.newRestartTime > viewLast (restartView paramsStatus.conds))) = true := by
      intro hb
      simp only [isZeroTime, Bool.and_eq_true, Bool.not_eq_true', beq_eq_false_iff_ne, ne_eq,
        decide_eq_true_eq] at hb
      exact hc hb
    rw [if_neg hb, if_neg hc,
      restartView_updateCond_other _ _ _ _ _ _ _ _ (by simp),
      restartView_updateCond_other _ _ _ _ _ _ _ _ (by simp)]

/-! ### 3. The canary strategy and the whole sync -/

/-- the pods the canary role evaluates: the scan's `podsToCheckForRestarts` (pods kept on a canary
node that are not terminating and match the replica set's template). -/
def canaryChecked (p : StratParams) : List Pod :=
  (p.canaryNodes.foldl (canaryScanStep p.ers.templateGeneration p.byNode) {}).toCheck

/-- the call of `manageCanaryPodFailures` inside `manageCanaryStatus`. -/
def canaryFail (p : StratParams) (now : Time) : Option (FailState × ERSStatus) :=
  manageCanaryPodFailures (canaryChecked p) p.strategy.canary p.newStatus
    { p.newStatus with status := "canary" } (isCanaryFailed (some p.ers))
    (isCanaryPaused p.edsAnnotations (some p.ers)).1 (isCanaryPaused p.edsAnnotations (some p.ers)).2
    (isCanaryUnpaused p.edsAnnotations) now

/-- `manageCanaryStatus` panics when `manageCanaryPodFailures` does … -/
theorem manageCanaryStatus_eq_none {p : StratParams} {now : Time} (h : canaryFail p now = none) :
    manageCanaryStatus p now = none := by
  unfold canaryFail canaryChecked at h
  unfold manageCanaryStatus
  simp only [h]

/-- … and otherwise returns its flag, and a status with the conditions it wrote. -/
theorem manageCanaryStatus_of_fail {p : StratParams} {now : Time} {fs : FailState} {st' : ERSStatus}
    (h : canaryFail p now = some (fs, st')) :
    ∃ r st0, manageCanaryStatus p now = some r ∧ r.isFailed = fs.isFailed ∧ r.newStatus = some st0 ∧
      st0.conds = st'.conds := by
  unfold canaryFail canaryChecked at h
  unfold manageCanaryStatus
  simp only [h]
  exact ⟨_, _, rfl, rfl, rfl, rfl⟩

theorem manageCanaryStatus_some (p : StratParams) (now : Time) (r : StratResult)
    (h : manageCanaryStatus p now = some r) :
    ∃ fs st', canaryFail p now = some (fs, st') ∧ r.isFailed = fs.isFailed ∧
      ∃ st0, r.newStatus = some st0 ∧ st0.conds = st'.conds := by
  cases hcf : canaryFail p now with
  | none => rw [manageCanaryStatus_eq_none hcf] at h; cases h
  | some v =>
    obtain ⟨r', st0, h', hf, hs, hc⟩ := manageCanaryStatus_of_fail hcf
    rw [h] at h'
    cases h'
    exact ⟨v.1, v.2, rfl, hf, st0, hs, hc⟩

/-- the `FailState` the sync `s` of `rs` computes when it is a full run in the canary role whose
`manageCanaryPodFailures` returns; `none` otherwise (no owner, owner not defaulted, gated by
LastFullSync, node listing failed, another role, nil dereference). -/
def canaryFailOf (rs : ERS) (s : Sync) : Option FailState :=
  match ersOwner rs s.st with
  | none => none
  | some d =>
    if !isDefaulted d.strategy d.templateName then none
    else if ersGated d rs s.now then none
    else match ersNodeItems d rs s.st with
      | none => none
      | some items =>
        if ersRole d rs.name == "canary" then
          (canaryFail (ersParams s.released d rs items (ersPods d s.st) s.now) s.now).map (·.1)
        else none

/-- the pods that sync evaluates (when it evaluates any). -/
def canaryCheckedOf (rs : ERS) (s : Sync) : List Pod :=
  match ersOwner rs s.st with
  | none => []
  | some d =>
    match ersNodeItems d rs s.st with
    | none => []
    | some items => canaryChecked (ersParams s.released d rs items (ersPods d s.st) s.now)

/-- **The time a sync records**: `some t` iff the sync evaluates the canary pods, observes the restart
time `t ≠ zero time` and `t` is strictly after the stored `PodRestarting.lastUpdate`
(`lastRestartTime rs`, zero time without a stored condition). -/
def recorded (rs : ERS) (s : Sync) : Option Time :=
  match canaryFailOf rs s with
  | some fs =>
    if fs.newRestartTime ≠ zeroTime ∧ fs.newRestartTime > lastRestartTime rs then some fs.newRestartTime else none
  | none => none

theorem lastRestartTime_eq (rs : ERS) : lastRestartTime rs = viewLast (restartView rs.status.conds) := by
  unfold lastRestartTime restartView viewLast
  cases findCond rs.status.conds "PodRestarting" <;> rfl

/-- `canaryFailOf rs s = some fs` spelled out. -/
theorem canaryFailOf_eq_some_iff {rs : ERS} {s : Sync} {fs : FailState} :
    canaryFailOf rs s = some fs ↔
      ∃ d items st', ersOwner rs s.st = some d ∧ isDefaulted d.strategy d.templateName = true ∧
        ersGated d rs s.now = false ∧ ersNodeItems d rs s.st = some items ∧ ersRole d rs.name = "canary" ∧
        canaryFail (ersParams s.released d rs items (ersPods d s.st) s.now) s.now = some (fs, st') := by
  unfold canaryFailOf
  constructor
  · intro h
    cases ho : ersOwner rs s.st with
    | none => rw [ho] at h; cases h
    | some d =>
      rw [ho] at h
      cases hd : isDefaulted d.strategy d.templateName with
      | false => simp [hd] at h
      | true =>
        cases hg : ersGated d rs s.now with
        | true => simp [hd, hg] at h
        | false =>
          cases hi : ersNodeItems d rs s.st with
          | none => simp [hd, hg, hi] at h
          | some items =>
            by_cases hr : ersRole d rs.name = "canary"
            · cases hcf : canaryFail (ersParams s.released d rs items (ersPods d s.st) s.now) s.now with
              | none => simp [hd, hg, hi, hr, hcf] at h
              | some v =>
                simp only [hd, hg, hi, hr, hcf, Bool.not_true, Bool.false_eq_true, if_false, beq_self_eq_true,
                  if_true, Option.map_some, Option.some.injEq] at h
                exact ⟨d, items, v.2, rfl, hd, hg, hi, hr, by rw [hcf, ← h]⟩
            · simp [hd, hg, hi, hr] at h
  · rintro ⟨d, items, st', ho, hd, hg, hi, hr, hcf⟩
    simp only [ho, hd, hg, hi, hr, hcf, Bool.not_true, Bool.false_eq_true, if_false, beq_self_eq_true, if_true,
      Option.map_some]

/-- the recorded time is the observed restart time of the evaluated pods. -/
theorem canaryFailOf_newRestartTime (rs : ERS) (s : Sync) (fs : FailState) (h : canaryFailOf rs s = some fs) :
    fs.newRestartTime = observedRestart (canaryCheckedOf rs s) := by
  obtain ⟨d, items, st', ho, _, _, hi, _, hcf⟩ := canaryFailOf_eq_some_iff.mp h
  unfold canaryCheckedOf
  rw [ho]
  simp only [hi]
  exact mcpf_newRestartTime hcf

theorem restartView_ersParams (released : String → Bool) (d : EDS) (rs : ERS) (items : List NodeItem)
    (pods : List Pod) (now : Time) :
    restartView (ersParams released d rs items pods now).newStatus.conds = restartView rs.status.conds :=
  restartView_congr ((preConds_updated _ _ _).findCond_eq (by simp))

/-- the tail of a full run leaves the PodRestarting condition as the strategy returned it. -/
theorem restartView_ersFinish (rs : ERS) (role : String) (freq : Dur) (sp : StratParams) (r : StratResult)
    (adds removes : List String) (se : Bool) (st0 : ERSStatus) (aff : Bool) (now : Time) :
    restartView ((ersFinish rs role freq sp r adds removes se st0 aff now).statusUpdate.getD rs.status).conds =
      restartView st0.conds :=
  restartView_congr (ersFinish_findCond _ _ _ _ _ _ _ _ _ _ _ _ (by simp))

/-- a full run leaves the PodRestarting condition as the strategy returned it. -/
theorem restartView_fullRun {d : EDS} {rs : ERS} {s : Sync} {items : List NodeItem} {r : StratResult}
    {adds removes : List String} {se : Bool} {st0 : ERSStatus}
    (F : FullRun d rs s.st s.released s.aff s.now (s.run rs) items r adds removes se st0) :
    restartView (stepErs rs s).status.conds = restartView st0.conds := by
  show restartView ((s.run rs).statusUpdate.getD rs.status).conds = _
  rw [F.eq]
  exact restartView_ersFinish _ _ _ _ _ _ _ _ _ _ _

/-- outside the canary role the strategy leaves the PodRestarting condition as stored. -/
theorem FullRun.restartView_of_not_canary {d : EDS} {rs : ERS} {st : ErsStore} {released : String → Bool}
    {aff : Bool} {now : Time} {w : ErsWrites} {items : List NodeItem} {r : StratResult}
    {adds removes : List String} {se : Bool} {st0 : ERSStatus}
    (F : FullRun d rs st released aff now w items r adds removes se st0) (hr : ersRole d rs.name ≠ "canary") :
    restartView st0.conds = restartView rs.status.conds := by
  rw [← restartView_ersParams released d rs items (ersPods d st) now]
  rcases ersRole_cases d rs.name with hr' | hr' | hr'
  · rcases F.active hr' with ⟨hok, _⟩ | ⟨_, hre, _⟩
    · exact restartView_congr (manageDeployment_findCond _ _ _ _ _ _ hok F.status "PodRestarting" (by simp)
        (by simp) (by simp) (by simp))
    · rw [ersErrResult_conds (hre ▸ F.status)]
      exact restartView_congr ((rollingConds_updated _ _).findCond_eq (by simp))
  · exact absurd hr' hr
  · rw [manageUnknown_conds _ _ _ ((F.unknown hr').1 ▸ F.status)]

/-- **One sync and the stored PodRestarting condition.**  Whatever the sync is (any role, gated or
not, failing or not): the condition is left exactly as it was unless the sync records a time `t`, in
which case it is updated with `t` as described by `recordView`. -/
theorem restartView_step (rs : ERS) (s : Sync) :
    restartView (stepErs rs s).status.conds =
      match recorded rs s with
      | none => restartView rs.status.conds
      | some t => recordView t (restartView rs.status.conds) := by
  unfold recorded
  cases hcfo : canaryFailOf rs s with
  | some fs =>
    -- a full run in the canary role: the condition is the one `manageCanaryPodFailures` wrote
    obtain ⟨d, items, st', ho, hd, hg, hi, hr, hcf⟩ := canaryFailOf_eq_some_iff.mp hcfo
    obtain ⟨r0, st0, hm, -, hs0, hc⟩ := manageCanaryStatus_of_fail hcf
    have hs := ersStrategy_canary_of (rs := rs) (labelled := (canaryLabelled d.name rs s.st).map (·.name)) hm
    rw [← hr] at hs
    show restartView ((s.run rs).statusUpdate.getD rs.status).conds = _
    unfold Sync.run
    rw [reconcileErs_eq rs s.st s.released s.aff s.now d ho, ersBody_eq_run s.released s.aff hd hg hi,
      ersRun_of_strategy s.aff hs hs0, restartView_ersFinish, hc, mcpf_conds hcf, finalConds_restartView]
    simp only []
    rw [show restartView ({ (ersParams s.released d rs items (ersPods d s.st) s.now).newStatus with
        status := "canary" } : ERSStatus).conds = _ from
          restartView_ersParams s.released d rs items (ersPods d s.st) s.now, lastRestartTime_eq]
    split <;> rfl
  | none =>
    -- nothing recorded: the sync is no full run, or one in another role
    simp only []
    rcases stepErs_cases rs s with h | ⟨d, _, _, h⟩ | ⟨d, items, r, adds, removes, se, st0, ho, F⟩
    · rw [h]
    · rw [h]; exact restartView_congr (ersNotDefaulted_findCond rs s.now _ (by simp))
    · rw [restartView_fullRun F]
      refine F.restartView_of_not_canary fun hr => ?_
      obtain ⟨r0, hm, _⟩ := F.canary hr
      obtain ⟨fs, st', hcf, _⟩ := manageCanaryStatus_some _ _ _ hm
      have := canaryFailOf_eq_some_iff.mpr ⟨d, items, st', ho, F.defaulted, F.notGated, F.hitems, hr, hcf⟩
      rw [hcfo] at this
      cases this

end Eds
