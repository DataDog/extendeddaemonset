import EdsModel.Generated.DecStrategy
import EdsProofs.BridgeCanaryStatus
import EdsProofs.BridgeDeployment
import EdsProofs.BridgeUnknown
import EdsModel.ReconcileErs
/-
  EdsProofs.BridgeStrategy — the role switch of the replica-set reconciler, `applyStrategy` (controllers/
  extendeddaemonsetreplicaset/controller.go, a method of the reconciler), and the canary role as a whole,
  `ManageCanaryDeployment` (strategy/canary.go), translated on every run (EdsModel/Generated/DecStrategy.lean), against the
  model: `preConds` and the three strategies as `reconcileErs` (EdsModel/ReconcileErs.lean) composes them.

  API steps (opaque, their results parameters): `ensureCanaryPodLabels` (an API loop: `labelsErr`), `deletePodSlice` inside
  `cleanupPods` (`errs`), and those of `ManageDeployment` (BridgeDeployment).  `reconcileErs` is stated for API calls that
  all succeed: there `labelsErr = none`, `errs = []`.
-/
namespace Eds.Bridge
open Eds

/-! ### `ManageCanaryDeployment` -/

theorem manageCanaryStatus_newStatus {p : StratParams} {now : Time} {r : StratResult}
    (h : Eds.manageCanaryStatus p now = some r) : ∃ st, r.newStatus = some st := by
  unfold Eds.manageCanaryStatus at h
  simp only [] at h
  split at h
  · cases h
  · simp only [Option.some.injEq] at h
    subst h
    exact ⟨_, rfl⟩

/-- the `*Result` of the canary role: `manageCanaryStatus`'s, then the unscheduled nodes, the `PodsCleanupDone` condition
(when there is something to clean; it follows `len(errs) == 0`) and a prompt requeue when a label or clean-up call
failed. -/
def canaryDeployResult (p : StratParams) (r : StratResult) (wall2 : Time) (labelsErr : Option String)
    (errs : List (Option String)) : GResult :=
  { canaryResultOf r with
    unscheduledNodes := unscheduledNodes p.unscheduled,
    newStatus := r.newStatus.map fun st =>
      if p.toCleanUp.isEmpty then st else
        { st with conds := updateCond st.conds wall2 "PodsCleanupDone" (boolCond errs.isEmpty) "" "" true false },
    result := if labelsErr.isSome || (Go.newAggregate errs).isSome then { requeue := true, requeueAfter := sec }
              else { requeue := r.requeue, requeueAfter := r.requeueAfter } }

/-- **`ManageCanaryDeployment`**: under the hypotheses of `src_manageCanaryStatus`, non-nil unscheduled pods and
`PodToCleanUp` empty exactly when the model's is: the translated function panics exactly when the model's
`manageCanaryStatus` does, returns no error, and returns `canaryDeployResult`. -/
theorem src_manageCanaryDeployment (D : GEds) (P : GParams) (p : StratParams) (nilSlice : Bool)
    (hA : D.annotations = p.edsAnnotations)
    (hstrat : P.strategy = some p.strategy) (hns : P.newStatus = some p.newStatus) (hrs : P.replicaset = some p.ers)
    (hcn : P.canaryNodes = p.canaryNodes)
    (hm : MapsRel P.nodeByName P.podByNodeName p.byNode) (hwfm : MapPodsWF P.podByNodeName)
    (gsU : List GPod) (hU : P.unscheduledPods = gsU.map some) (hUrel : PodsRel gsU p.unscheduled)
    (hCl : P.podToCleanUp.isEmpty = p.toCleanUp.isEmpty)
    (w1 w2 : Time) (labelsErr : Option String) (errs : List (Option String)) :
    Generated.Decisions.manageCanaryDeployment (some D) (some P) nilSlice w1 w2 labelsErr errs =
      match Eds.manageCanaryStatus p w1 with
      | none => none
      | some r => some (some (canaryDeployResult p r w2 labelsErr errs), none) := by
  unfold Generated.Decisions.manageCanaryDeployment
  simp only [Option.bind_some]
  rw [src_manageCanaryStatus D.annotations P p w1 nilSlice hstrat hns hrs hcn hA.symm hm hwfm]
  cases hmc : Eds.manageCanaryStatus p w1 with
  | none => simp
  | some r =>
    obtain ⟨st, hst⟩ := manageCanaryStatus_newStatus hmc
    simp only [Option.bind_some, src_requeuePromptly, hU, src_manageUnscheduledPodNodes gsU p.unscheduled hUrel nilSlice,
      canaryResultOf, hst, canaryDeployResult, Option.map_some]
    cases labelsErr <;> cases hag : Go.newAggregate errs <;> cases hce : p.toCleanUp.isEmpty <;>
      simp [hag, src_cleanupPods, hCl, hce]

/-! ### `applyStrategy` -/

/-- the model's parameters after the condition updates of the role switch (what `reconcileErs` passes to the strategy). -/
def withPreConds (role : String) (p : StratParams) (now : Time) : StratParams :=
  { p with newStatus := { p.newStatus with conds := preConds role p.newStatus.conds now } }

def goWithPreConds (role : String) (P : GParams) (p : StratParams) (now : Time) : GParams :=
  { P with newStatus := some (withPreConds role p now).newStatus }

theorem bind_triple {α β γ : Type} (x : Option (α × β × γ)) :
    (Option.bind (Option.bind x fun r => some (r.2.1, r.2.2, r.1)) fun y => some (y.2.2, y.1, y.2.1)) = x := by
  cases x with
  | none => rfl
  | some v => rfl

/-- **the active role**: `applyStrategy` sets `Canary`, `Canary-Paused`, `Canary-Failed` to false in `params.NewStatus`
and runs `ManageDeployment` — the model's `manageDeployment` on the parameters with `preConds "active"`. -/
theorem src_applyStrategy_active {D : GEds} {P : GParams} {p : StratParams} (h : DeployRel D P p)
    (hrole : P.replicaSetStatus = "active")
    (now : Time) (nilSlice : Bool) {w1 w2 : Int → Int} {wall : Time} (hw1 : ∀ i, w1 i = wall) (hw2 : ∀ i, w2 i = wall)
    (w4 w5 w6 w7 : Time) (w8 w9 : Int → Int) (errs : List (Option String)) (apiErr : Option String) (apiRq : Bool)
    (a4 : Option String) (a5 : List (Option String)) :
    Generated.Decisions.applyStrategy (some D) now (some P) nilSlice w1 w2 wall w4 w5 w6 w7 w8 w9 errs apiErr apiRq a4 a5 =
      deployOut (goWithPreConds "active" P p now) (withPreConds "active" p now) now w4 errs apiErr apiRq
        (Eds.manageDeployment (withPreConds "active" p now) now wall (!errs.isEmpty)) := by
  have h1 : DeployRel D (goWithPreConds "active" P p now) (withPreConds "active" p now) :=
    { ann := h.ann, strategy := h.strategy, newStatus := rfl, replicaset := h.replicaset, canaryNodes := h.canaryNodes,
      maps := h.maps, nodup := h.nodup, unscheduled := h.unscheduled, cleanup := h.cleanup }
  have hb := src_manageDeployment_rel h1 now nilSlice hw1 hw2 w4 errs apiErr apiRq
  unfold Generated.Decisions.applyStrategy
  simp only [Option.bind_some, hrole, h.newStatus, src_updateERSCondition, beq_self_eq_true, if_true]
  unfold goWithPreConds withPreConds preConds at hb
  simp only [beq_self_eq_true, if_true, hrole] at hb
  rw [hb]
  unfold goWithPreConds withPreConds preConds
  simp only [beq_self_eq_true, if_true, hrole]
  generalize deployOut _ _ now w4 errs apiErr apiRq _ = x
  cases x with
  | none => rfl
  | some v => rfl

/-- **the unknown role**: `Canary` and `Active` set to false, then `ManageUnknown`. -/
theorem src_applyStrategy_unknown (D : GEds) (P : GParams) (p : StratParams) (hN : P.newStatus = some p.newStatus)
    (hR : P.replicaset = some p.ers) (hC : P.canaryNodes = p.canaryNodes)
    (hm : MapsRel P.nodeByName P.podByNodeName p.byNode) (hrole : P.replicaSetStatus = "unknown")
    (now : Time) (nilSlice : Bool) (w1 w2 : Int → Int) (w3 w4 w5 w6 w7 : Time) {w8 w9 : Int → Int} {wall : Time}
    (hw8 : ∀ i, w8 i = wall) (hw9 : ∀ i, w9 i = wall)
    (errs : List (Option String)) (apiErr : Option String) (apiRq : Bool) (a4 : Option String) (a5 : List (Option String)) :
    Generated.Decisions.applyStrategy (some D) now (some P) nilSlice w1 w2 w3 w4 w5 w6 w7 w8 w9 errs apiErr apiRq a4 a5 =
      some (some (stratResultOf (Eds.manageUnknown (withPreConds "unknown" p now) wall)), none,
            some (paramsAfterDrop (goWithPreConds "unknown" P p now))) := by
  have hb := src_manageUnknown (goWithPreConds "unknown" P p now) (withPreConds "unknown" p now) rfl hR hC hm nilSlice w7 w8 w9
    wall hw8 hw9
  unfold Generated.Decisions.applyStrategy
  simp only [Option.bind_some, hrole, hN, src_updateERSCondition]
  have e1 : ("unknown" == "active") = false := by decide
  have e2 : ("unknown" == "canary") = false := by decide
  simp only [e1, e2, Bool.false_eq_true, if_false, beq_self_eq_true, if_true]
  unfold goWithPreConds withPreConds preConds at hb
  simp only [e1, e2, Bool.false_eq_true, if_false, hrole] at hb
  rw [hb]
  unfold goWithPreConds withPreConds preConds
  simp only [e1, e2, Bool.false_eq_true, if_false, Option.bind_some, hrole]

/-- **the canary role**: `Canary` set to true and `Active` to false, then `ManageCanaryDeployment`; `params` is left with
these two conditions updated. -/
theorem src_applyStrategy_canary (D : GEds) (P : GParams) (p : StratParams)
    (hA : D.annotations = p.edsAnnotations)
    (hstrat : P.strategy = some p.strategy) (hns : P.newStatus = some p.newStatus) (hrs : P.replicaset = some p.ers)
    (hcn : P.canaryNodes = p.canaryNodes)
    (hm : MapsRel P.nodeByName P.podByNodeName p.byNode) (hwfm : MapPodsWF P.podByNodeName)
    (gsU : List GPod) (hU : P.unscheduledPods = gsU.map some) (hUrel : PodsRel gsU p.unscheduled)
    (hCl : P.podToCleanUp.isEmpty = p.toCleanUp.isEmpty) (hrole : P.replicaSetStatus = "canary")
    (now : Time) (nilSlice : Bool) (w1 w2 : Int → Int) (w3 w4 w5 w6 w7 : Time) (w8 w9 : Int → Int)
    (errs : List (Option String)) (apiErr : Option String) (apiRq : Bool) (a4 : Option String) (a5 : List (Option String)) :
    Generated.Decisions.applyStrategy (some D) now (some P) nilSlice w1 w2 w3 w4 w5 w6 w7 w8 w9 errs apiErr apiRq a4 a5 =
      match Eds.manageCanaryStatus (withPreConds "canary" p now) w5 with
      | none => none
      | some r => some (some (canaryDeployResult p r w6 a4 a5), none, some (goWithPreConds "canary" P p now)) := by
  have hb := src_manageCanaryDeployment D (goWithPreConds "canary" P p now) (withPreConds "canary" p now) nilSlice hA hstrat
    rfl hrs hcn hm hwfm gsU hU hUrel hCl w5 w6 a4 a5
  unfold Generated.Decisions.applyStrategy
  simp only [Option.bind_some, hrole, hns, src_updateERSCondition]
  have e1 : ("canary" == "active") = false := by decide
  simp only [e1, Bool.false_eq_true, if_false, beq_self_eq_true, if_true]
  unfold goWithPreConds withPreConds preConds at hb
  simp only [e1, Bool.false_eq_true, if_false, beq_self_eq_true, if_true, hrole] at hb
  rw [hb]
  unfold goWithPreConds withPreConds preConds
  simp only [e1, Bool.false_eq_true, if_false, beq_self_eq_true, if_true, hrole]
  cases Eds.manageCanaryStatus _ w5 with
  | none => rfl
  | some r => rfl

/-- **any other role string**: nothing is done, the result is nil (`Reconcile` would dereference it — the role comes from
`retrieveReplicaSetStatus`, which only returns the three above: `src_retrieveReplicaSetStatus`). -/
theorem src_applyStrategy_other (D : GEds) (P : GParams) (h1 : P.replicaSetStatus ≠ "active")
    (h2 : P.replicaSetStatus ≠ "canary") (h3 : P.replicaSetStatus ≠ "unknown")
    (now : Time) (nilSlice : Bool) (w1 w2 : Int → Int) (w3 w4 w5 w6 w7 : Time) (w8 w9 : Int → Int)
    (errs : List (Option String)) (apiErr : Option String) (apiRq : Bool) (a4 : Option String) (a5 : List (Option String)) :
    Generated.Decisions.applyStrategy (some D) now (some P) nilSlice w1 w2 w3 w4 w5 w6 w7 w8 w9 errs apiErr apiRq a4 a5 =
      some (none, none, some P) := by
  unfold Generated.Decisions.applyStrategy
  simp [h1, h2, h3]

/-! ### Non-vacuity: the instance of BridgeDeployment (`dGoParams`: three nodes, `n3` a canary node) through the role switch -/

def dGoParamsRole (role : String) : GParams := { dGoParams with replicaSetStatus := role }

theorem dDeployRelRole (role : String) : DeployRel dEds (dGoParamsRole role) dModelParams :=
  { ann := dDeployRel.ann, strategy := dDeployRel.strategy, newStatus := dDeployRel.newStatus,
    replicaset := dDeployRel.replicaset, canaryNodes := dDeployRel.canaryNodes, maps := dDeployRel.maps,
    nodup := dDeployRel.nodup, unscheduled := dDeployRel.unscheduled, cleanup := dDeployRel.cleanup }

/-- the active role on the instance: the pod of `n2` to create, that of `n1` to delete, a requeue, no error; of the six
conditions the switch and `ManageDeployment` update only `Active = True` is written (a false condition that does not exist yet
is not created). -/
theorem ex_applyStrategy_active :
    goSummary (Generated.Decisions.applyStrategy (some dEds) 100 (some (dGoParamsRole "active")) false (fun _ => 100)
        (fun _ => 100) 100 900000000000 0 0 0 (fun _ => 0) (fun _ => 0) [] none false none []) =
      some ([some "n2"], [some "n1"], true, none) ∧
    ((Generated.Decisions.applyStrategy (some dEds) 100 (some (dGoParamsRole "active")) false (fun _ => 100)
        (fun _ => 100) 100 900000000000 0 0 0 (fun _ => 0) (fun _ => 0) [] none false none []).bind fun o =>
      o.1.bind fun r => r.newStatus.map fun s => s.conds.map fun c => (c.type, c.status)) =
      some [("Active", "True")] := by
  rw [src_applyStrategy_active (dDeployRelRole "active") rfl 100 false (fun _ => rfl) (fun _ => rfl)]
  decide +kernel

/-- the unknown role on the instance: no pod is up to date, nothing to do, `Desired = 0`. -/
theorem ex_applyStrategy_unknown :
    (Generated.Decisions.applyStrategy (some dEds) 100 (some (dGoParamsRole "unknown")) false (fun _ => 100)
        (fun _ => 100) 100 0 0 0 0 (fun _ => 100) (fun _ => 100) [] none false none []).map (fun o =>
      (o.1.bind fun r => r.newStatus.map fun s => (s.status, s.desired, s.current), o.2.1)) =
      some (some ("unknown", 0, 0), none) := by
  rw [src_applyStrategy_unknown dEds (dGoParamsRole "unknown") dModelParams rfl rfl rfl dDeployRel.maps rfl 100 false _ _
    100 0 0 0 0 (fun _ => rfl) (fun _ => rfl)]
  decide +kernel

end Eds.Bridge
