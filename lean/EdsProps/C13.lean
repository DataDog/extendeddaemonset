import EdsProofs.ReconcileEds
import EdsProofs.PodBuild
/-
  C13 — One replica set per template, faithful to it, never collected while in use.

  * `C13_create_only_if_none`   a replica set is created only when no own one carries the hash of
                                spec.template;
  * `C13_created_faithful`      the created one records that hash (generation and annotation) and
                                carries the name label of the daemonset;
  * `C13_reuse`                 re-applying / reverting to a template that still has its replica set
                                creates nothing;
  * `C13_cleanup_safe`          a deleted replica set is own, neither current nor up to date, not
                                already being deleted and reports no pods
                                (`C13_active_never_deleted`, `C13_uptodate_never_deleted`);
  * `C13_at_most_one`           history invariant: the hash annotations of the own replica sets stay
                                pairwise distinct across any reconcile, for every spec.template
                                (`C13_at_most_one_history`: by induction over any interleaving of
                                reconciles — with arbitrary spec / status / annotation edits of the
                                daemonset in between — and status updates of the replica sets);
  * `C13_spec_never_written`    the reconcile never modifies an existing replica set.

  The store transition of this file, `applyEdsWrites`, is `Cluster.applyErsList` with the clock at 0
  (`applyEdsWrites_eq`); the lemmas on what the writes do to the own replica sets (`mem_applyErsList`,
  `ownErs_applyErsList`, `own_forall_applyErsList`, `own_nodup_applyErsList`) are stated for
  `Cluster.applyErsList` and stand here because the history theorems of EdsProps/L3.lean use the same ones.
-/
namespace Eds

/-! ### Creation -/

/-- **Create only if none.** A replica set is created only if no own replica set carries the hash
of the current spec.template. -/
theorem C13_create_only_if_none (d : EDS) (all : List ERS) (pods : List Pod) (nodes : List Node) (now : Time)
    (m : String) (n : NewErs) (h : (reconcileEds d all pods nodes now m).created = some n) :
    upToDateOf d (ownErs d all) = none ∧
    ∀ e ∈ ownErs d all, SMap.get? e.annotations K.templateHashAnnot ≠ some d.templateHash := by
  have h1 := (reconcileEds_created_iff d all pods nodes now m n h).1
  exact ⟨h1, (upToDateOf_eq_none_iff d _).1 h1⟩

/-- **The created replica set is faithful to the template**: it records the hash of spec.template
both as its generation and as its hash annotation (whatever the daemonset's own annotations say), and
carries the daemonset's name label (even when the daemonset's own labels define that key). -/
theorem C13_created_faithful (d : EDS) (all : List ERS) (pods : List Pod) (nodes : List Node) (now : Time)
    (m : String) (n : NewErs) (h : (reconcileEds d all pods nodes now m).created = some n) :
    n.templateGeneration = d.templateHash ∧
    SMap.get? n.annotations K.templateHashAnnot = some d.templateHash ∧
    SMap.get? n.labels K.edsNameLabel = some d.name ∧
    n.ns = d.ns ∧
    (∀ k, k ≠ K.templateHashAnnot → SMap.get? n.annotations k = SMap.get? d.annotations k) ∧
    (∀ k, k ≠ K.edsNameLabel → SMap.get? n.labels k = SMap.get? d.labels k) := by
  have h2 := (reconcileEds_created_iff d all pods nodes now m n h).2.1
  subst h2
  refine ⟨rfl, ?_, ?_, rfl, ?_, ?_⟩
  · exact SMap.get?_set_self _ _ _
  · exact SMap.get?_set_self _ _ _
  · intro k hk; exact SMap.get?_set_other _ _ _ _ hk
  · intro k hk; exact SMap.get?_set_other _ _ _ _ hk

/-- **Reuse.** If some own replica set carries the hash of spec.template nothing is created:
re-applying a template, or reverting to an earlier one whose replica set still exists, reuses it. -/
theorem C13_reuse (d : EDS) (all : List ERS) (pods : List Pod) (nodes : List Node) (now : Time) (m : String)
    (e : ERS) (he : e ∈ ownErs d all)
    (hh : SMap.get? e.annotations K.templateHashAnnot = some d.templateHash) :
    (reconcileEds d all pods nodes now m).created = none := by
  cases hcr : (reconcileEds d all pods nodes now m).created with
  | none => rfl
  | some n =>
    exact absurd hh ((C13_create_only_if_none d all pods nodes now m n hcr).2 e he)

/-- … and the one selected as up to date is such a replica set (the last listed one). -/
theorem C13_reuse_selects (d : EDS) (all : List ERS) (u : ERS) (h : upToDateOf d (ownErs d all) = some u) :
    u ∈ ownErs d all ∧ SMap.get? u.annotations K.templateHashAnnot = some d.templateHash := by
  unfold upToDateOf at h
  obtain ⟨h1, h2⟩ := lastWhere_mem h
  exact ⟨h1, by simpa using h2⟩

/-! ### Clean-up -/

/-- **Clean-up is safe.** Every deleted name is the name of an own replica set that is neither the
current nor the up-to-date one of this reconcile, is not already being deleted and reports no pods at all
(the four counters sum to zero). -/
theorem C13_cleanup_safe (d : EDS) (all : List ERS) (pods : List Pod) (nodes : List Node) (now : Time)
    (m : String) (nm : String) (h : nm ∈ (reconcileEds d all pods nodes now m).deletedErs) :
    ∃ u, upToDateOf d (ownErs d all) = some u ∧
    ∃ e ∈ ownErs d all, e.name = nm ∧
      nm ≠ (currentOf d (ownErs d all) u now).1.name ∧ nm ≠ u.name ∧ e.deleted = false ∧
      e.status.available + e.status.current + e.status.desired + e.status.ready = 0 := by
  obtain ⟨_, _, u, hu, hr⟩ := reconcileEds_main d all pods nodes now m (Or.inl (List.ne_nil_of_mem h))
  rw [hr, edsMain_deleted] at h
  obtain ⟨e, he, hn, h1, h2, h3, h4, _⟩ := mem_cleanupTargetsERS h
  exact ⟨u, hu, e, he, hn, h1, h2, h3, h4⟩

/-- with non-negative counters (they are counts of pods) each of them is zero. -/
theorem C13_cleanup_zero_each (e : ERS)
    (hn : 0 ≤ e.status.available ∧ 0 ≤ e.status.current ∧ 0 ≤ e.status.desired ∧ 0 ≤ e.status.ready)
    (h : e.status.available + e.status.current + e.status.desired + e.status.ready = 0) :
    e.status.available = 0 ∧ e.status.current = 0 ∧ e.status.desired = 0 ∧ e.status.ready = 0 := by
  omega

/-- **The (new) active replica set is never deleted**: if the reconcile writes a status, the replica
set that status names as active is not among the deleted ones. -/
theorem C13_active_never_deleted (d : EDS) (all : List ERS) (pods : List Pod) (nodes : List Node) (now : Time)
    (m : String) (st : EDSStatus) (hst : (reconcileEds d all pods nodes now m).statusUpdate = some st) :
    st.activeReplicaSet ∉ (reconcileEds d all pods nodes now m).deletedErs := by
  obtain ⟨_, _, u, _, hmain⟩ := reconcileEds_main d all pods nodes now m (Or.inr (by rw [hst]; simp))
  rw [hmain] at hst ⊢
  rw [edsMain_deleted, edsMain_statusUpdate_active hst]
  intro hmem
  obtain ⟨_, _, _, h1, _⟩ := mem_cleanupTargetsERS hmem
  exact h1 rfl

/-- a deleted name is neither that of the selected current nor that of the up-to-date replica set. -/
theorem deleted_ne_selected {d : EDS} {all : List ERS} {pods : List Pod} {nodes : List Node} {now : Time}
    {m : String} {u : ERS} (hu : upToDateOf d (ownErs d all) = some u) {nm : String}
    (h : nm ∈ (reconcileEds d all pods nodes now m).deletedErs) :
    nm ≠ (currentOf d (ownErs d all) u now).1.name ∧ nm ≠ u.name := by
  obtain ⟨u', hu', _, _, _, h1, h2, _⟩ := C13_cleanup_safe d all pods nodes now m nm h
  cases hu.symm.trans hu'
  exact ⟨h1, h2⟩

/-- the selected current replica set is never deleted, whether or not a status is written. -/
theorem C13_current_never_deleted (d : EDS) (all : List ERS) (pods : List Pod) (nodes : List Node) (now : Time)
    (m : String) (u : ERS) (hu : upToDateOf d (ownErs d all) = some u) :
    (currentOf d (ownErs d all) u now).1.name ∉ (reconcileEds d all pods nodes now m).deletedErs :=
  fun hmem => (deleted_ne_selected hu hmem).1 rfl

/-- **The up-to-date replica set is never deleted.** -/
theorem C13_uptodate_never_deleted (d : EDS) (all : List ERS) (pods : List Pod) (nodes : List Node) (now : Time)
    (m : String) (u : ERS) (hu : upToDateOf d (ownErs d all) = some u) :
    u.name ∉ (reconcileEds d all pods nodes now m).deletedErs :=
  fun hmem => (deleted_ne_selected hu hmem).2 rfl

/-- a replica set that still reports pods is never deleted. -/
theorem C13_in_use_never_deleted (d : EDS) (all : List ERS) (pods : List Pod) (nodes : List Node) (now : Time)
    (m : String) (e : ERS) (he : e ∈ ownErs d all) (hnd : ((ownErs d all).map (·.name)).Nodup)
    (huse : e.status.available + e.status.current + e.status.desired + e.status.ready ≠ 0) :
    e.name ∉ (reconcileEds d all pods nodes now m).deletedErs := by
  intro hmem
  obtain ⟨_, _, e', he', hn, _, _, _, hz⟩ := C13_cleanup_safe d all pods nodes now m _ hmem
  have : e' = e := eq_of_nodup_map (·.name) hnd he' he hn
  subst this
  exact huse hz

/-! ### The store transition and the history invariant -/

/-- the hash annotations of the daemonset's own replica sets are pairwise distinct: at most one own
replica set per template hash (and at most one without the annotation). -/
def hashesNodup (d : EDS) (all : List ERS) : Prop :=
  ((ownErs d all).map (fun e => SMap.get? e.annotations K.templateHashAnnot)).Nodup

/-- every own replica set records a template hash. -/
def allHashed (d : EDS) (all : List ERS) : Prop :=
  ∀ e ∈ ownErs d all, (SMap.get? e.annotations K.templateHashAnnot).isSome = true

/-- the object the API server stores for a create request. -/
def ersOfNew (d : EDS) (n : NewErs) (name : String) : ERS :=
  { name := name, ns := n.ns, uid := "", labels := n.labels, annotations := n.annotations, creation := 0,
    deleted := false, ownerEds := some n.ownerEds, selector := none,
    templateGeneration := n.templateGeneration, template := d.template,
    status := { status := "", desired := 0, current := 0, ready := 0, available := 0, ignored := 0, conds := [] } }

/-- the effect of the reconcile's writes on the replica sets in the store: the deleted names (in the
daemonset's namespace — `client.Delete` addresses namespace/name) disappear, the created one appears
under the name the API server generates. Nothing else changes. -/
def applyEdsWrites (d : EDS) (all : List ERS) (w : EdsWrites) (newName : String) : List ERS :=
  all.filter (fun e => !(e.ns == d.ns && w.deletedErs.contains e.name)) ++
    (match w.created with
     | some n => [ersOfNew d n newName]
     | none => [])

theorem ownErs_append (d : EDS) (l1 l2 : List ERS) : ownErs d (l1 ++ l2) = ownErs d l1 ++ ownErs d l2 := by
  unfold ownErs; exact List.filter_append ..

theorem ownErs_filter (d : EDS) (p : ERS → Bool) (l : List ERS) :
    ownErs d (l.filter p) = (ownErs d l).filter p := by
  unfold ownErs
  rw [List.filter_filter, List.filter_filter]
  congr 1
  funext e
  exact Bool.and_comm _ _

/-! `applyEdsWrites` is the replica-set transition of the cluster machine (`Cluster.applyErsList`,
EdsModel/Cluster.lean) with the clock at 0; what the writes do to the store is proved for that one. -/

theorem applyEdsWrites_eq (d : EDS) (all : List ERS) (w : EdsWrites) (newName : String) :
    applyEdsWrites d all w newName = Cluster.applyErsList d all w newName 0 := by
  unfold Cluster.applyErsList applyEdsWrites
  cases w.created <;> rfl

/-- an old replica set whose name is not deleted is still there, unchanged. -/
theorem mem_applyErsList_of_not_deleted (d : EDS) (all : List ERS) (wr : EdsWrites) (nn : String) (now : Time)
    (e : ERS) (he : e ∈ all) (hk : e.ns ≠ d.ns ∨ e.name ∉ wr.deletedErs) :
    e ∈ Cluster.applyErsList d all wr nn now := by
  unfold Cluster.applyErsList
  apply List.mem_append_left
  rw [List.mem_filter]
  refine ⟨he, ?_⟩
  rcases hk with hk | hk <;> simp [hk]

/-- a replica set of the new list is an old one that was not deleted, or the created one. -/
theorem mem_applyErsList (d : EDS) (all : List ERS) (wr : EdsWrites) (nn : String) (now : Time) (e : ERS)
    (h : e ∈ Cluster.applyErsList d all wr nn now) :
    (e ∈ all ∧ (e.ns ≠ d.ns ∨ e.name ∉ wr.deletedErs)) ∨
    ∃ n, wr.created = some n ∧ e = Cluster.ersOfNewAt d n nn now := by
  unfold Cluster.applyErsList at h
  rcases List.mem_append.1 h with h | h
  · left
    rw [List.mem_filter] at h
    refine ⟨h.1, ?_⟩
    have h2 := h.2
    simp only [Bool.not_eq_true', Bool.and_eq_false_iff, beq_eq_false_iff_ne, ne_eq] at h2
    rcases h2 with h2 | h2
    · exact Or.inl h2
    · right; simpa using h2
  · cases hc : wr.created with
    | none => simp [hc] at h
    | some n =>
      simp only [hc, List.mem_singleton] at h
      exact Or.inr ⟨n, rfl, h⟩

/-- **The reconcile never rewrites an existing replica set**: `EdsWrites` has no such write; every
replica set after the writes is either an unchanged old one or the created one. -/
theorem C13_spec_never_written (d : EDS) (all : List ERS) (w : EdsWrites) (newName : String) (e : ERS)
    (h : e ∈ applyEdsWrites d all w newName) :
    e ∈ all ∨ ∃ n, w.created = some n ∧ e = ersOfNew d n newName :=
  (mem_applyErsList d all w newName 0 e (applyEdsWrites_eq d all w newName ▸ h)).imp And.left id

/-- … and every old replica set that was not deleted is still there, unchanged. -/
theorem C13_survivors_unchanged (d : EDS) (all : List ERS) (w : EdsWrites) (newName : String) (e : ERS)
    (he : e ∈ all) (hk : e.ns ≠ d.ns ∨ e.name ∉ w.deletedErs) :
    e ∈ applyEdsWrites d all w newName :=
  applyEdsWrites_eq d all w newName ▸ mem_applyErsList_of_not_deleted d all w newName 0 e he hk

/-- the replica set stored for the reconcile's create request is the daemonset's own … -/
theorem ersOfNewAt_own (d : EDS) (nn : String) (now : Time) :
    ownErs d [Cluster.ersOfNewAt d (newReplicaSetFromInstance d) nn now] =
      [Cluster.ersOfNewAt d (newReplicaSetFromInstance d) nn now] := by
  have : SMap.get? (SMap.set d.labels K.edsNameLabel d.name) K.edsNameLabel = some d.name :=
    SMap.get?_set_self _ _ _
  simp [ownErs, Cluster.ersOfNewAt, this, newReplicaSetFromInstance]

/-- … and carries the hash of spec.template. -/
theorem ersOfNewAt_hash (d : EDS) (nn : String) (now : Time) :
    SMap.get? (Cluster.ersOfNewAt d (newReplicaSetFromInstance d) nn now).annotations K.templateHashAnnot =
      some d.templateHash :=
  SMap.get?_set_self _ _ _

/-- the own replica sets after the writes: the surviving own ones, then the created one (a sub-write
creates only what the reconcile planned: `hc`). -/
theorem ownErs_applyErsList (d : EDS) (all : List ERS) (wr : EdsWrites) (nn : String) (now : Time)
    (hc : ∀ n, wr.created = some n → n = newReplicaSetFromInstance d) :
    ownErs d (Cluster.applyErsList d all wr nn now) =
      (ownErs d all).filter (fun e => !(e.ns == d.ns && wr.deletedErs.contains e.name)) ++
      (match wr.created with
       | some _ => [Cluster.ersOfNewAt d (newReplicaSetFromInstance d) nn now]
       | none => []) := by
  unfold Cluster.applyErsList
  rw [ownErs_append, ownErs_filter]
  congr 1
  cases hcr : wr.created with
  | none => rfl
  | some n =>
    cases hc n hcr
    exact ersOfNewAt_own d nn now

/-- a property of single replica sets that holds of the created one is kept, on the own replica sets,
by the writes. -/
theorem own_forall_applyErsList {d : EDS} {all : List ERS} {wr : EdsWrites} {nn : String} {now : Time}
    {φ : ERS → Prop} (hc : ∀ n, wr.created = some n → n = newReplicaSetFromInstance d)
    (hnew : φ (Cluster.ersOfNewAt d (newReplicaSetFromInstance d) nn now)) (h : ∀ e ∈ ownErs d all, φ e) :
    ∀ e ∈ ownErs d (Cluster.applyErsList d all wr nn now), φ e := by
  rw [ownErs_applyErsList d all wr nn now hc]
  intro e he
  rcases List.mem_append.1 he with he | he
  · exact h e (List.mem_filter.1 he).1
  · cases hcr : wr.created with
    | none => rw [hcr] at he; cases he
    | some n =>
      rw [hcr] at he
      rw [List.mem_singleton.1 he]; exact hnew

/-- a key `ψ` stays duplicate-free on the own replica sets when the key of a created one is new. -/
theorem own_nodup_applyErsList {β} (ψ : ERS → β) {d : EDS} {all : List ERS} {wr : EdsWrites} {nn : String}
    {now : Time} (hc : ∀ n, wr.created = some n → n = newReplicaSetFromInstance d)
    (hnew : ∀ n, wr.created = some n →
      ψ (Cluster.ersOfNewAt d (newReplicaSetFromInstance d) nn now) ∉ (ownErs d all).map ψ)
    (h : ((ownErs d all).map ψ).Nodup) :
    ((ownErs d (Cluster.applyErsList d all wr nn now)).map ψ).Nodup := by
  rw [ownErs_applyErsList d all wr nn now hc, List.map_append]
  have hkept := List.Sublist.map ψ (List.filter_sublist (l := ownErs d all)
    (p := fun e => !(e.ns == d.ns && wr.deletedErs.contains e.name)))
  cases hcr : wr.created with
  | none => simpa using h.sublist hkept
  | some n => exact nodup_concat.mpr ⟨fun hmem => hnew n hcr (hkept.subset hmem), h.sublist hkept⟩

/-- **At most one replica set per template (step).** If the hash annotations of the own replica
sets are pairwise distinct they still are after the writes of a reconcile — for every spec.template
the daemonset may hold at that moment (`d` is arbitrary). -/
theorem C13_at_most_one (d : EDS) (all : List ERS) (pods : List Pod) (nodes : List Node) (now : Time)
    (m : String) (newName : String) (h : hashesNodup d all) :
    hashesNodup d (applyEdsWrites d all (reconcileEds d all pods nodes now m) newName) := by
  unfold hashesNodup
  rw [applyEdsWrites_eq]
  refine own_nodup_applyErsList _ (fun n hn => (reconcileEds_created_iff d all pods nodes now m n hn).2.1)
    (fun n hn hmem => ?_) h
  rw [ersOfNewAt_hash] at hmem
  obtain ⟨e, he, hh⟩ := List.mem_map.1 hmem
  exact (C13_create_only_if_none d all pods nodes now m n hn).2 e he hh

/-- the companion invariant: every own replica set records a hash. -/
theorem C13_all_hashed (d : EDS) (all : List ERS) (pods : List Pod) (nodes : List Node) (now : Time)
    (m : String) (newName : String) (h : allHashed d all) :
    allHashed d (applyEdsWrites d all (reconcileEds d all pods nodes now m) newName) := by
  unfold allHashed
  rw [applyEdsWrites_eq]
  exact own_forall_applyErsList (fun n hn => (reconcileEds_created_iff d all pods nodes now m n hn).2.1)
    (by rw [ersOfNewAt_hash]; rfl) h

/-- for every template hash at most one own replica set carries it. -/
theorem C13_at_most_one_per_hash (d : EDS) (all : List ERS) (h : hashesNodup d all) (e1 e2 : ERS)
    (h1 : e1 ∈ ownErs d all) (h2 : e2 ∈ ownErs d all)
    (hh : SMap.get? e1.annotations K.templateHashAnnot = SMap.get? e2.annotations K.templateHashAnnot) :
    e1 = e2 :=
  eq_of_nodup_map _ h h1 h2 hh

/-- what may happen to the store between two looks at it, as far as this daemonset's replica sets are
concerned: a reconcile of the daemonset in ANY state with the same name and namespace (any
spec.template, strategy, annotations, status: arbitrary user edits and status writes in between),
or a change that keeps the namespace, labels and annotations of every replica set (the status
updates of the replica-set controller). -/
inductive Reach (name ns : String) : List ERS → List ERS → Prop where
  | refl (all) : Reach name ns all all
  | reconcile {all all'} (d : EDS) (pods : List Pod) (nodes : List Node) (now : Time) (m newName : String) :
      Reach name ns all all' → d.name = name → d.ns = ns →
      Reach name ns all (applyEdsWrites d all' (reconcileEds d all' pods nodes now m) newName)
  | statusChange {all all'} (f : ERS → ERS) :
      Reach name ns all all' →
      (∀ e, (f e).ns = e.ns ∧ (f e).labels = e.labels ∧ (f e).annotations = e.annotations) →
      Reach name ns all (all'.map f)

theorem ownErs_congr (d d' : EDS) (all : List ERS) (hn : d.name = d'.name) (hns : d.ns = d'.ns) :
    ownErs d all = ownErs d' all := by
  unfold ownErs; rw [hn, hns]

theorem hashesNodup_congr (d d' : EDS) (all : List ERS) (hn : d.name = d'.name) (hns : d.ns = d'.ns) :
    hashesNodup d all ↔ hashesNodup d' all := by
  unfold hashesNodup; rw [ownErs_congr d d' all hn hns]

theorem ownErs_map (d : EDS) (f : ERS → ERS) (all : List ERS)
    (hf : ∀ e, (f e).ns = e.ns ∧ (f e).labels = e.labels ∧ (f e).annotations = e.annotations) :
    ownErs d (all.map f) = (ownErs d all).map f := by
  unfold ownErs
  rw [List.filter_map]
  congr 1
  apply List.filter_congr
  intro e _
  simp [Function.comp, (hf e).1, (hf e).2.1]

/-- **At most one replica set per template (history).** Along any sequence of template edits,
reconciles and replica-set status updates, the own replica sets keep pairwise distinct template
hashes: starting from a store with at most one replica set per template, there is never a second one
for any template — including templates that were abandoned and later restored. -/
theorem C13_at_most_one_history (d : EDS) (all all' : List ERS) (hr : Reach d.name d.ns all all')
    (h : hashesNodup d all) : hashesNodup d all' := by
  induction hr with
  | refl => exact h
  | reconcile d' pods nodes now m newName _ hn hns ih =>
    rw [hashesNodup_congr d d' _ hn.symm hns.symm]
    apply C13_at_most_one
    rw [← hashesNodup_congr d d' _ hn.symm hns.symm]
    exact ih
  | statusChange f _ hf ih =>
    unfold hashesNodup at ih ⊢
    rw [ownErs_map d f _ hf, List.map_map]
    have : ((fun e => SMap.get? e.annotations K.templateHashAnnot) ∘ f) =
        (fun e => SMap.get? e.annotations K.templateHashAnnot) := by
      funext e; simp [Function.comp, (hf e).2.2]
    rw [this]; exact ih

/-- from an empty store: never two own replica sets with the same template hash. -/
theorem C13_at_most_one_from_empty (d : EDS) (all' : List ERS) (hr : Reach d.name d.ns [] all')
    (e1 e2 : ERS) (h1 : e1 ∈ ownErs d all') (h2 : e2 ∈ ownErs d all')
    (hh : SMap.get? e1.annotations K.templateHashAnnot = SMap.get? e2.annotations K.templateHashAnnot) :
    e1 = e2 :=
  C13_at_most_one_per_hash d all'
    (C13_at_most_one_history d [] all' hr (by unfold hashesNodup ownErs; exact List.nodup_nil)) e1 e2 h1 h2 hh

end Eds

/-! ### Examples (non-vacuity; fixtures in `EdsProofs/ReconcileEds.lean`) -/
namespace Eds.ExReconcile

/- a template change (`h3` has no replica set) creates one, faithful to the template -/
example : (reconcileEds { dStable with templateHash := "h3" } store2 [] [] minute "auto").created =
    some { ns := "ns", generateName := "ds-", labels := [⟨K.edsNameLabel, "ds"⟩],
           annotations := [⟨K.templateHashAnnot, "h3"⟩], templateGeneration := "h3", ownerEds := "ds" } := by decide +kernel
/- reverting to `h2`, whose replica set still exists, creates nothing and selects it as up to date -/
example : (reconcileEds { dStable with templateHash := "h2" } store2 [] [] minute "auto").created = none := by decide +kernel
example : (upToDateOf { dStable with templateHash := "h2" } (ownErs dStable store2)).map (·.name) = some "ds-b" := by decide +kernel
/- re-applying the current template: nothing created, nothing written -/
example : (reconcileEds dStable store2 [] [] minute "auto").created = none := by decide +kernel
/- the store after the template change holds one replica set per template -/
example : ((applyEdsWrites { dStable with templateHash := "h3" } store2
      (reconcileEds { dStable with templateHash := "h3" } store2 [] [] minute "auto") "ds-x").map
      (fun e => (e.name, SMap.get? e.annotations K.templateHashAnnot))) =
    [("ds-a", some "h1"), ("ds-b", some "h2"), ("ds-x", some "h3")] := by decide +kernel
/- replica sets of another namespace or daemonset are not the daemonset's own -/
example : ownErs dStable [{ rs "ds-a" "h1" 3 [] with ns := "other" },
    { rs "ds-c" "h1" 3 [] with labels := [⟨K.edsNameLabel, "ds2"⟩] }] = [] := by decide +kernel
/- the deletion test reads the SUM of the four counters (see `C13_cleanup_zero_each`) -/
example : shouldDeleteERS 0 { rs "x" "h" 0 [] with
    status := { status := "", desired := 0, current := 1, ready := 0, available := -1, ignored := 0, conds := [] } }
    = true := by decide +kernel

end Eds.ExReconcile
