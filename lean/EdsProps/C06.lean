import EdsProofs.CanaryS
/-
  C06 — A canary is marked failed / paused exactly when an auto-fail / auto-pause trigger fires.

  Subject: `manageCanaryPodFailures` (and its caller `manageCanaryStatus`) of strategy/canary.go, as
  modelled in EdsModel/CanaryS.lean; specification predicates: EdsSpec/C06.lean.

  Quantification: every list of evaluated pods (any length — including the empty list where stated —,
  any order, any container statuses / start times), every canary configuration for which the Go code
  does not dereference a nil pointer (`canaryDerefs … = some …`: autoPause/autoFail blocks and their
  `enabled` / `maxRestarts` present, as the defaulting webhook guarantees; the three durations are
  free `Option`s), every stored condition list, every previous failed / paused flag, every clock value.

  The hypothesis `manageCanaryPodFailures … = some (s, st')` says the Go function returned instead of
  panicking: the code dereferences `pod.Status.StartTime` when a slow-start limit is configured and the
  pod cannot start (or, with auto-pause enabled, is still creating its containers); the model returns
  `none` there.  Under that hypothesis `startTime` is set wherever the specification's
  `podCannotStart` / `podSlowCreate` look at it (lemma `fsCS_verdict`).
-/
namespace Eds
open Spec.C06

section
variable (pods : List Pod) (canary : Option Canary) (paramsStatus st st' : ERSStatus)
  (failed0 paused0 : Bool) (reason0 : String) (unpaused : Bool) (now : Time) (s : FailState)
  (ape : Bool) (apm : Int) (slow : Option Dur) (afe : Bool) (afm : Int) (mrd cto : Option Dur)

/-- **Failed ⇔ trigger.**  After the sync the canary is failed iff it was failed before or some
evaluated pod fires an auto-fail trigger (restart count, restart span, canary timeout).  Holds for
every pod list, the empty one included (`expectFailed … [] = failed0`). -/
theorem C06_failed_iff
    (hd : canaryDerefs canary = some (ape, apm, slow, afe, afm, mrd, cto))
    (h : manageCanaryPodFailures pods canary paramsStatus st failed0 paused0 reason0 unpaused now = some (s, st')) :
    s.isFailed =
      expectFailed
        { autoPauseEnabled := ape, autoPauseMaxRestarts := apm, maxSlowStart := slow, autoFailEnabled := afe,
          autoFailMaxRestarts := afm, maxRestartsDuration := mrd, canaryTimeout := cto }
        failed0
        ((findCond paramsStatus.conds "PodRestarting").map (fun rc => rc.lastUpdate - rc.lastTransition))
        ((findCond st.conds "Canary").map (fun c => now - c.lastTransition))
        pods := by
  obtain ⟨hs, hp, _⟩ := mcpf_some hd h
  rw [hs] at hp ⊢
  rw [fold_isFailed _ _ _ hp, specCfg_mkFailCfg, cfgSpan_mkFailCfg, cfgAge_mkFailCfg]
  rfl

theorem C06_failed_sticky
    (hd : canaryDerefs canary = some (ape, apm, slow, afe, afm, mrd, cto))
    (h : manageCanaryPodFailures pods canary paramsStatus st failed0 paused0 reason0 unpaused now = some (s, st'))
    (hf : failed0 = true) : s.isFailed = true := by
  rw [C06_failed_iff pods canary paramsStatus st st' failed0 paused0 reason0 unpaused now s
    ape apm slow afe afm mrd cto hd h, hf]
  rfl

/-- **Paused ⇔ trigger**, for a pod list of any length (in the loop the unpause is applied per pod; the code's
separate override for the empty list, finding F3, makes the statement hold there too): while not failed, a
manual unpause wins; otherwise the canary is paused iff it was paused before or some pod fires an auto-pause
trigger (restart count, cannot-start, slow container creation). -/
theorem C06_paused_iff_any_length
    (hd : canaryDerefs canary = some (ape, apm, slow, afe, afm, mrd, cto))
    (h : manageCanaryPodFailures pods canary paramsStatus st failed0 paused0 reason0 unpaused now = some (s, st'))
    (hnf : s.isFailed = false) :
    s.isPaused =
      expectPaused
        { autoPauseEnabled := ape, autoPauseMaxRestarts := apm, maxSlowStart := slow, autoFailEnabled := afe,
          autoFailMaxRestarts := afm, maxRestartsDuration := mrd, canaryTimeout := cto }
        paused0 unpaused now pods := by
  obtain ⟨hs, hp, _⟩ := mcpf_some hd h
  rw [hs] at hp hnf ⊢
  rw [fold_isPaused _ _ _ hp hnf, specCfg_mkFailCfg]
  cases pods with
  | nil =>
    -- no pod: not failed after means not failed before, so the override applies iff `unpaused`
    have hf0 : failed0 = false := hnf
    subst hf0
    cases unpaused <;> cases paused0 <;> rfl
  | cons p ps =>
    simp only [List.isEmpty_cons, Bool.false_eq_true, if_false, initFailState, Bool.false_and]
    rfl

/-- **Paused ⇔ trigger** (while not failed, over at least one evaluated pod). -/
theorem C06_paused_iff
    (hd : canaryDerefs canary = some (ape, apm, slow, afe, afm, mrd, cto))
    (h : manageCanaryPodFailures pods canary paramsStatus st failed0 paused0 reason0 unpaused now = some (s, st'))
    (hnf : s.isFailed = false) (_hne : pods ≠ []) :
    s.isPaused =
      expectPaused
        { autoPauseEnabled := ape, autoPauseMaxRestarts := apm, maxSlowStart := slow, autoFailEnabled := afe,
          autoFailMaxRestarts := afm, maxRestartsDuration := mrd, canaryTimeout := cto }
        paused0 unpaused now pods :=
  C06_paused_iff_any_length pods canary paramsStatus st st' failed0 paused0 reason0 unpaused now s
    ape apm slow afe afm mrd cto hd h hnf

/-- **Unpausing never un-fails**: the failed flag does not depend on the `unpaused` argument. -/
theorem C06_unpause_never_unfails (unpaused₁ unpaused₂ : Bool) (s₁ s₂ : FailState) (st₁ st₂ : ERSStatus)
    (h₁ : manageCanaryPodFailures pods canary paramsStatus st failed0 paused0 reason0 unpaused₁ now = some (s₁, st₁))
    (h₂ : manageCanaryPodFailures pods canary paramsStatus st failed0 paused0 reason0 unpaused₂ now = some (s₂, st₂)) :
    s₁.isFailed = s₂.isFailed := by
  obtain ⟨ape, apm, slow, afe, afm, mrd, cto, hd⟩ := mcpf_derefs h₁
  rw [C06_failed_iff pods canary paramsStatus st st₁ failed0 paused0 reason0 unpaused₁ now s₁
        ape apm slow afe afm mrd cto hd h₁,
      C06_failed_iff pods canary paramsStatus st st₂ failed0 paused0 reason0 unpaused₂ now s₂
        ape apm slow afe afm mrd cto hd h₂]

/-- with auto-pause disabled and no manual unpause the loop never touches the paused flag, failed or
not. -/
theorem C06_disabled_never_pause_strong
    (hd : canaryDerefs canary = some (ape, apm, slow, afe, afm, mrd, cto))
    (h : manageCanaryPodFailures pods canary paramsStatus st failed0 paused0 reason0 unpaused now = some (s, st'))
    (hape : ape = false) (hun : unpaused = false) : s.isPaused = paused0 := by
  obtain ⟨hs, hp, _⟩ := mcpf_some hd h
  rw [hs] at hp ⊢
  rw [fold_isPaused_disabled _ _ _ hp hape hun]
  subst hun
  simp [initFailState]

/-- **Disabled triggers never fire.**  With auto-fail disabled the failed flag is unchanged; with
auto-pause disabled and no manual unpause the paused flag is unchanged (`s.isFailed = false` is not
needed for that half: `C06_disabled_never_pause_strong`). -/
theorem C06_disabled_never_fire
    (hd : canaryDerefs canary = some (ape, apm, slow, afe, afm, mrd, cto))
    (h : manageCanaryPodFailures pods canary paramsStatus st failed0 paused0 reason0 unpaused now = some (s, st')) :
    (afe = false → s.isFailed = failed0) ∧
    (ape = false → unpaused = false → s.isFailed = false → s.isPaused = paused0) := by
  constructor
  · intro hafe
    rw [C06_failed_iff pods canary paramsStatus st st' failed0 paused0 reason0 unpaused now s
      ape apm slow afe afm mrd cto hd h]
    subst hafe
    -- no pod fires a trigger
    unfold expectFailed failTrigger
    simp only [Bool.false_and]
    rw [List.any_eq_false.mpr (fun _ _ => Bool.false_ne_true), Bool.or_false]
  · intro hape hun _
    exact C06_disabled_never_pause_strong pods canary paramsStatus st st' failed0 paused0 reason0 unpaused now s
      ape apm slow afe afm mrd cto hd h hape hun

/-- **The Canary-Failed condition is written**: it reads true in the returned status iff the
returned flag is set. -/
theorem C06_condition_failed_written
    (h : manageCanaryPodFailures pods canary paramsStatus st failed0 paused0 reason0 unpaused now = some (s, st')) :
    isCondTrue st'.conds "Canary-Failed" = s.isFailed := by
  rw [mcpf_conds h, finalConds_failed]

/-- **The Canary-Paused condition is written.** -/
theorem C06_condition_paused_written
    (h : manageCanaryPodFailures pods canary paramsStatus st failed0 paused0 reason0 unpaused now = some (s, st')) :
    isCondTrue st'.conds "Canary-Paused" = s.isPaused := by
  rw [mcpf_conds h, finalConds_paused]

/-- **Manual unpause with no pod to evaluate** (finding F3): a previous pause is still lifted. -/
theorem C06_empty_unpause_override
    (h : manageCanaryPodFailures [] canary paramsStatus st false paused0 reason0 true now = some (s, st')) :
    s.isPaused = false := by
  obtain ⟨_, _, _, _, _, _, _, hd⟩ := mcpf_derefs h
  rw [(mcpf_some hd h).1]
  rfl

end

/-- **A paused or failed canary creates no pod.** -/
theorem C06_blocks_creation (p : StratParams) (now : Time) (r : StratResult)
    (h : manageCanaryStatus p now = some r) (hb : r.isPaused = true ∨ r.isFailed = true) :
    r.createE = [] := by
  unfold manageCanaryStatus at h
  simp only [] at h
  split at h
  · exact absurd h (by simp)
  · injection h with h
    subst h
    simp only [] at hb ⊢
    rcases hb with hb | hb <;> simp [hb]

/-- **C08: a canary resumes on unpause** (full statement, including the case with no evaluable pod):
after a sync that read the unpaused annotation and did not end failed, the canary is not paused, so
its Canary-Paused condition is false and pods are created again on canary nodes lacking one. -/
theorem C08_canary_resumes_on_unpause (p : StratParams) (now : Time) (r : StratResult)
    (h : manageCanaryStatus p now = some r) (hu : isCanaryUnpaused p.edsAnnotations = true)
    (hnf : r.isFailed = false) : r.isPaused = false := by
  unfold manageCanaryStatus at h
  simp only [] at h
  split at h
  · exact absurd h (by simp)
  · rename_i s st hm
    injection h with h
    subst h
    simp only [] at hnf ⊢
    obtain ⟨ape, apm, slow, afe, afm, mrd, cto, hd⟩ := mcpf_derefs hm
    rw [C06_paused_iff_any_length _ _ _ _ _ _ _ _ _ _ _ ape apm slow afe afm mrd cto hd hm hnf, hu]
    rfl

/-! ### Non-vacuity: the hypotheses are satisfiable, and the triggers do fire.
Auto-pause at > 2 restarts, auto-fail at > 5 restarts, evaluated at `now = 20 min`. -/

def exCanary06 (slow : Option Dur) : Canary :=
  { replicas := some ⟨"int", 1⟩, duration := some (10 * minute), nodeSelector := none,
    antiAffinityKeys := [],
    autoPause := some { enabled := some true, maxRestarts := some 2, maxSlowStartDuration := slow },
    autoFail := some { enabled := some true, maxRestarts := some 5, maxRestartsDuration := none,
                       canaryTimeout := none },
    noRestartsDuration := none, validationMode := "auto" }

def exPod06 (name : String) (restarts : Int) (waiting : Option String) (start : Option Time) : Pod :=
  { name := name, ns := "d", labels := [], annotations := [], owners := [], creation := 0, deletion := none,
    gracePeriod := none, nodeName := name, affOther := "", affRequired := none, tolerations := [],
    containers := [], phase := "Running", startTime := start, conds := [],
    cstats := [{ name := "c", restarts := restarts, waiting := waiting, lastTerm := none }] }

def exSt06 : ERSStatus :=
  { status := "canary", desired := 0, current := 0, ready := 0, available := 0, ignored := 0, conds := [] }

def exRun (pods : List Pod) (slow : Option Dur) (failed0 paused0 unpaused : Bool) :=
  manageCanaryPodFailures pods (some (exCanary06 slow)) exSt06 exSt06 failed0 paused0 "" unpaused (20 * minute)

/-- the dereference hypothesis is satisfiable. -/
example : canaryDerefs (some (exCanary06 none)) = some (true, 2, none, true, 5, none, none) := rfl
/-- two healthy pods: the function returns, nothing fires. -/
example : (exRun [exPod06 "a" 0 none (some 0), exPod06 "b" 0 none (some 0)] none false false false).map
    (fun r => (r.1.isFailed, r.1.isPaused)) = some (false, false) := by decide +kernel
/-- 6 restarts > 5 on the *second* pod: failed (and, being failed, not paused). -/
example : (exRun [exPod06 "a" 0 none (some 0), exPod06 "b" 6 none (some 0)] none false false false).map
    (fun r => (r.1.isFailed, r.1.isPaused)) = some (true, false) := by decide +kernel
/-- 3 restarts > 2 on the first pod: paused, not failed. -/
example : (exRun [exPod06 "a" 3 none (some 0), exPod06 "b" 0 none (some 0)] none false false false).map
    (fun r => (r.1.isFailed, r.1.isPaused)) = some (false, true) := by decide +kernel
/-- cannot-start past the 1-minute slow-start limit: paused; within the limit (limit 30 min): not. -/
example : (exRun [exPod06 "a" 0 (some "ImagePullBackOff") (some 0)] (some minute) false false false).map
    (fun r => (r.1.isFailed, r.1.isPaused)) = some (false, true) := by decide +kernel
example : (exRun [exPod06 "a" 0 (some "ImagePullBackOff") (some 0)] (some (30 * minute)) false false false).map
    (fun r => (r.1.isFailed, r.1.isPaused)) = some (false, false) := by decide +kernel
/-- still creating containers past the slow-start limit: paused. -/
example : (exRun [exPod06 "a" 0 (some "ContainerCreating") (some 0)] (some minute) false false false).map
    (fun r => (r.1.isFailed, r.1.isPaused)) = some (false, true) := by decide +kernel
/-- a manual unpause lifts a previous pause but never a failure (`C06_failed_sticky`,
`C06_unpause_never_unfails`). -/
example : (exRun [exPod06 "a" 0 none (some 0)] none false true true).map
    (fun r => (r.1.isFailed, r.1.isPaused)) = some (false, false) := by decide +kernel
example : (exRun [exPod06 "a" 0 none (some 0)] none true true true).map
    (fun r => (r.1.isFailed, r.1.isPaused)) = some (true, true) := by decide +kernel
/-- the `= some` hypothesis is a real restriction: a pod that cannot start and has no `startTime`,
with a slow-start limit configured, is a nil dereference in Go (`none` in the model). -/
example : (exRun [exPod06 "a" 0 (some "ImagePullBackOff") none] (some minute) false false false) = none := by decide +kernel
/-- no pod, previously paused, manual unpause (`C06_empty_unpause_override`). -/
example : (exRun [] none false true true).map
    (fun r => (r.1.isFailed, r.1.isPaused)) = some (false, false) := by decide +kernel

def exErs06 : ERS :=
  { name := "new", ns := "d", uid := "new", labels := [], annotations := [], creation := 0, deleted := false,
    ownerEds := some "d", selector := none, templateGeneration := "2",
    template := { labels := [], annotations := [], nodeSelector := [], affOther := "", affRequired := none,
                  tolerations := [], containers := [] },
    status := exSt06 }
def exNode06 : NodeItem := { node := { name := "n1", labels := [], annotations := [], taints := [] }, setting := none }
def exParams06 (ann : SMap) : StratParams :=
  { edsName := "d", edsAnnotations := ann,
    strategy := { rollingUpdate := ⟨none, none, none, none, none⟩, canary := some (exCanary06 none),
                  reconcileFrequency := none },
    ers := exErs06, newStatus := exSt06, canaryNodes := ["n1"], byNode := [(exNode06, none)],
    toCleanUp := [], unscheduled := [] }

/-- one canary node without a pod — created when running, not created while paused (`C06_blocks_creation`). -/
example : (manageCanaryStatus (exParams06 []) 0).map (fun r => (r.isPaused, r.isFailed, r.podsToCreate))
    = some (false, false, ["n1"]) := by decide +kernel
example : (manageCanaryStatus (exParams06 [⟨K.canaryPausedAnnot, "true"⟩]) 0).map
    (fun r => (r.isPaused, r.isFailed, r.podsToCreate)) = some (true, false, []) := by decide +kernel
end Eds
