import EdsProofs.Cluster
import EdsProps.C05
import EdsProps.C12b
import EdsProps.C15
import EdsProps.C16
/-
  L3 — history invariants of the WHOLE cluster (EdsModel/Cluster.lean), by induction over ARBITRARY
  operation sequences: reconciles of the daemonset controller and of the replica-set controller,
  node / pod / spec changes by the environment and clock ticks, in any order and number.

  `step` applies every planned write of a reconcile; `stepF f` applies the subset the fault pattern `f`
  lets through.  Unless said otherwise a step theorem is proved for `stepF f` with `f` arbitrary and
  restated for `step = stepF {}`; the lifted forms are over `run` (all ops succeed) and `runF` (a fault
  pattern per step), through `run_inv` / `runF_inv`.  Side conditions on the operations of a run are
  stated with `RunOk C w ops` (`C w op` holds for each op in the world it is applied to).  All invariants
  and side conditions are decidable on concrete runs (instances below), which is how the examples at the
  end check non-vacuity.

  a. C13 one replica set per template
       `L3_hashesNodup_stepF/_step`, `L3_allHashed_…`, `L3_annotGen_…`   Inv w → Inv (stepF f w op), NO side condition
       `L3_namesNodup_stepF/_step`                                       needs `OpFresh w op` (newName not an own name)
       `L3_one_per_template(_faults)`, `L3_all_hashed(_faults)`, `L3_annot_gen(_faults)`, `L3_names_nodup(_faults)`
       `L3_at_most_one_per_hash`, `L3_one_per_template_from_empty`
  b. C13 never deletes in-use
       `L3_survives_or_cleanup`            only the daemonset reconcile's clean-up removes replica sets
       `L3_active_never_removed`           the replica set named active AFTER any step survived it   [no hypothesis]
       `L3_uptodate_never_removed`         the own replica set matching spec's hash AFTER the step   [HashesNodup, AnnotGen]
       `L3_selected_uptodate_never_removed` [no hypothesis], `L3_never_deletes_in_use` (history form)
       NOT true under faults (example `wPromo`): status update failing after the clean-up succeeded.
  c. C15/C04 canary node list
       `L3_canaryNodup_stepF/_step`, `L3_canary_nodup(_faults)`   Nodup along any run; NO condition on node names
       `L3_canary_bound_stepF/_step`   new length ≤ max (old length) (request resolved against targeted nodes)
       `L3_canary_bound`               history form with a uniform bound K
  d. C05 promotion only by the rule
       `L3_promotion_stepF/_step`, `L3_promotion_history(_faults)`   [WF = NamesNodup ∧ SchemaOk; ops: OpFresh ∧ OpSchema]
  e. C12 frame
       `L3_foreign_pods_untouched`, `L3_foreign_pod_stays` [PodKeysUnique], `L3_eds_reconcile_writes_no_pod`,
       `L3_created_pods_owned`
  f. who writes what, roles
       `L3_status_written_only_by_eds_reconcile`, `L3_role_changes_only_at_eds_reconcile`,
       (`stepF_eds_frame`, `stepF_status_frame` of EdsProofs/Cluster.lean),
       `L3_ers_written_only_by_own_reconcile`, `L3_role_unique(_history)`,
       `L3_roles_distinct_after_write_partial` (the unconditional invariant is false: `exStaleCanary`)
  g. C01 one live pod per node with the daemonset object evolving (uses invariant c for C01b's `hc`)
       `L3_one_per_node_step`, `L3_one_per_node`   [C01Inv; ops: OpEnvC01]
-/
namespace Eds
open Cluster Spec.C05

/-! ## Runs: lifting a step invariant to every operation sequence -/

/-- side condition `C` holds for every operation of the run, in the world it is applied to. -/
def RunOk (C : World → Op → Prop) : World → List Op → Prop
  | _, [] => True
  | w, op :: ops => C w op ∧ RunOk C (step w op) ops

def RunOkF (C : World → Op → Prop) : World → List (Faults × Op) → Prop
  | _, [] => True
  | w, x :: ops => C w x.2 ∧ RunOkF C (stepF x.1 w x.2) ops

/-- the side conditions are decidable on concrete runs (used by the examples). -/
instance RunOk.dec {C : World → Op → Prop} [∀ w op, Decidable (C w op)] :
    ∀ (w : World) (ops : List Op), Decidable (RunOk C w ops)
  | _, [] => isTrue trivial
  | w, op :: ops => @instDecidableAnd _ _ inferInstance (RunOk.dec (step w op) ops)

instance RunOkF.dec {C : World → Op → Prop} [∀ w op, Decidable (C w op)] :
    ∀ (w : World) (ops : List (Faults × Op)), Decidable (RunOkF C w ops)
  | _, [] => isTrue trivial
  | w, x :: ops => @instDecidableAnd _ _ inferInstance (RunOkF.dec (stepF x.1 w x.2) ops)

/-- induction over arbitrary operation sequences, with faults. -/
theorem runF_inv {P : World → Prop} {C : World → Op → Prop}
    (hstep : ∀ f w op, P w → C w op → P (stepF f w op)) :
    ∀ (ops : List (Faults × Op)) (w : World), P w → RunOkF C w ops → P (runF w ops) :=
  foldl_inv _ (fun w x _ h hok => ⟨hstep x.1 w x.2 h hok.1, hok.2⟩)

theorem run_inv {P : World → Prop} {C : World → Op → Prop}
    (hstep : ∀ w op, P w → C w op → P (step w op)) :
    ∀ (ops : List Op) (w : World), P w → RunOk C w ops → P (run w ops) :=
  foldl_inv step (fun w op _ h hok => ⟨hstep w op h hok.1, hok.2⟩)

theorem run_append (w : World) (l1 l2 : List Op) : run w (l1 ++ l2) = run (run w l1) l2 := by
  unfold run; rw [List.foldl_append]

/-- an admissible run splits into an admissible prefix and an admissible rest from the world reached. -/
theorem RunOk_split {C : World → Op → Prop} (ops ops' : List Op) (w : World)
    (h : RunOk C w (ops ++ ops')) : RunOk C w ops ∧ RunOk C (run w ops) ops' := by
  induction ops generalizing w with
  | nil => exact ⟨trivial, h⟩
  | cons x ops ih =>
    obtain ⟨h1, h2⟩ := ih _ h.2
    exact ⟨⟨h.1, h1⟩, h2⟩

theorem RunOk_append {C : World → Op → Prop} (ops : List Op) (op : Op) (w : World)
    (h : RunOk C w (ops ++ [op])) : RunOk C w ops ∧ C (run w ops) op :=
  ⟨(RunOk_split ops [op] w h).1, (RunOk_split ops [op] w h).2.1⟩

theorem RunOk.mono {C C' : World → Op → Prop} (hC : ∀ w op, C w op → C' w op) :
    ∀ {w : World} {ops : List Op}, RunOk C w ops → RunOk C' w ops
  | _, [], _ => trivial
  | _, _ :: _, h => ⟨hC _ _ h.1, RunOk.mono hC h.2⟩

/-- the same for a step invariant without side condition on the operations. -/
theorem runF_inv_all {P : World → Prop} (hstep : ∀ f w op, P w → P (stepF f w op))
    (ops : List (Faults × Op)) (w : World) (h : P w) : P (runF w ops) :=
  List.foldlRecOn ops _ h (fun w h x _ => hstep x.1 w x.2 h)

theorem run_inv_all {P : World → Prop} (hstep : ∀ w op, P w → P (step w op))
    (ops : List Op) (w : World) (h : P w) : P (run w ops) :=
  List.foldlRecOn ops step h (fun w h op _ => hstep w op h)

/-! ## a. C13: one replica set per template, along any run -/

/-- the hash annotations of the daemonset's own replica sets are pairwise distinct. -/
def HashesNodup (w : World) : Prop := hashesNodup w.eds w.erss
/-- every own replica set records a template hash. -/
def AllHashed (w : World) : Prop := allHashed w.eds w.erss
/-- the recorded hash is the replica set's template generation. -/
def AnnotGen (w : World) : Prop :=
  ∀ e ∈ w.own, SMap.get? e.annotations K.templateHashAnnot = some e.templateGeneration
/-- the own replica sets have pairwise distinct names. -/
def NamesNodup (w : World) : Prop := (w.own.map (·.name)).Nodup

instance (w : World) : Decidable (HashesNodup w) :=
  inferInstanceAs (Decidable (((ownErs w.eds w.erss).map (fun e => SMap.get? e.annotations K.templateHashAnnot)).Nodup))
instance (w : World) : Decidable (AllHashed w) :=
  inferInstanceAs (Decidable (∀ e ∈ ownErs w.eds w.erss, (SMap.get? e.annotations K.templateHashAnnot).isSome = true))
instance (w : World) : Decidable (AnnotGen w) :=
  inferInstanceAs (Decidable (∀ e ∈ w.own, SMap.get? e.annotations K.templateHashAnnot = some e.templateGeneration))
instance (w : World) : Decidable (NamesNodup w) := inferInstanceAs (Decidable ((w.own.map (·.name)).Nodup))

/-- the freshness side condition: the name the API server gives a created replica set is not the
name of an existing own replica set. -/
def OpFresh (w : World) : Op → Prop
  | .reconcileEds nn _ => nn ∉ w.own.map (·.name)
  | _ => True

instance (w : World) (op : Op) : Decidable (OpFresh w op) :=
  match op with
  | .reconcileEds nn _ => inferInstanceAs (Decidable (nn ∉ w.own.map (·.name)))
  | .reconcileErs _ _ _ => isTrue trivial
  | .setNodes _ => isTrue trivial
  | .kubelet _ => isTrue trivial
  | .userSpec _ _ _ _ => isTrue trivial
  | .tick _ => isTrue trivial

theorem HashesNodup_iff (w : World) :
    HashesNodup w ↔ (w.own.map (fun e => SMap.get? e.annotations K.templateHashAnnot)).Nodup := Iff.rfl

theorem map_status_frame {β} (g : ERS → ERS) (hg : ∀ e, g e = { e with status := (g e).status })
    (φ : ERS → β) (hφ : ∀ e st, φ { e with status := st } = φ e) (l : List ERS) :
    (l.map g).map φ = l.map φ := by
  rw [List.map_map]
  apply List.map_congr_left
  intro e _
  simp only [Function.comp]
  rw [hg e, hφ]

/-- a property of single replica sets that does not read the status and holds of every replica set the
daemonset controller creates is kept, on the own replica sets, by every step. -/
theorem own_forall_stepF {φ : ERS → Prop} (hφ : ∀ e st, φ e → φ { e with status := st })
    (f : Faults) (w : World) (op : Op)
    (hnew : ∀ nn, φ (ersOfNewAt w.eds (newReplicaSetFromInstance w.eds) nn w.now))
    (h : ∀ e ∈ w.own, φ e) : ∀ e ∈ (stepF f w op).own, φ e := by
  rcases own_stepF f w op with ⟨nn, m, wr, _, hsub, hown⟩ | ⟨g, hg, hown⟩
  · rw [hown]
    exact own_forall_applyErsList (fun n hn => (hsub.created_some hn).1) (hnew nn) h
  · rw [hown]
    intro e he
    obtain ⟨e0, he0, rfl⟩ := List.mem_map.1 he
    rw [hg e0]; exact hφ _ _ (h e0 he0)

/-- a key `ψ` of replica sets that does not read the status stays duplicate-free on the own replica sets,
provided the key of a replica set created while no own one carries the spec's hash is new. -/
theorem own_nodup_stepF {β} (ψ : ERS → β) (hψ : ∀ e st, ψ { e with status := st } = ψ e)
    (f : Faults) (w : World) (op : Op)
    (hnew : ∀ nn m, op = .reconcileEds nn m →
      (∀ e ∈ w.own, SMap.get? e.annotations K.templateHashAnnot ≠ some w.eds.templateHash) →
      ψ (ersOfNewAt w.eds (newReplicaSetFromInstance w.eds) nn w.now) ∉ w.own.map ψ)
    (h : (w.own.map ψ).Nodup) : ((stepF f w op).own.map ψ).Nodup := by
  rcases own_stepF f w op with ⟨nn, m, wr, hop, hsub, hown⟩ | ⟨g, hg, hown⟩
  · rw [hown]
    exact own_nodup_applyErsList ψ (fun n hn => (hsub.created_some hn).1)
      (fun n hn => hnew nn m hop (hsub.created_some hn).2) h
  · rw [hown, map_status_frame g hg ψ hψ]
    exact h

/-- **C13 (step, any fault pattern): at most one own replica set per template hash.**  No freshness
condition is needed: the invariant speaks about hashes, not names. -/
theorem L3_hashesNodup_stepF (f : Faults) (w : World) (op : Op) (h : HashesNodup w) :
    HashesNodup (stepF f w op) :=
  own_nodup_stepF (fun e => SMap.get? e.annotations K.templateHashAnnot) (fun _ _ => rfl) f w op
    (fun nn _ _ hnone hmem => by
      rw [ersOfNewAt_hash] at hmem
      obtain ⟨e, he, hh⟩ := List.mem_map.1 hmem
      exact hnone e he hh) h

theorem L3_allHashed_stepF (f : Faults) (w : World) (op : Op) (h : AllHashed w) :
    AllHashed (stepF f w op) :=
  own_forall_stepF (φ := fun e => (SMap.get? e.annotations K.templateHashAnnot).isSome = true)
    (fun _ _ h => h) f w op (fun nn => by rw [ersOfNewAt_hash]; rfl) h

theorem L3_annotGen_stepF (f : Faults) (w : World) (op : Op) (h : AnnotGen w) :
    AnnotGen (stepF f w op) :=
  own_forall_stepF (φ := fun e => SMap.get? e.annotations K.templateHashAnnot = some e.templateGeneration)
    (fun _ _ h => h) f w op (fun _ => ersOfNewAt_hash _ _ _) h

/-- **names stay distinct** given fresh names for created replica sets. -/
theorem L3_namesNodup_stepF (f : Faults) (w : World) (op : Op) (h : NamesNodup w) (hf : OpFresh w op) :
    NamesNodup (stepF f w op) :=
  own_nodup_stepF (·.name) (fun _ _ => rfl) f w op (fun nn m hop _ => by subst hop; exact hf) h

/-! the same when every API call succeeds -/

theorem L3_hashesNodup_step (w : World) (op : Op) (h : HashesNodup w) : HashesNodup (step w op) :=
  stepF_ok w op ▸ L3_hashesNodup_stepF {} w op h
theorem L3_allHashed_step (w : World) (op : Op) (h : AllHashed w) : AllHashed (step w op) :=
  stepF_ok w op ▸ L3_allHashed_stepF {} w op h
theorem L3_annotGen_step (w : World) (op : Op) (h : AnnotGen w) : AnnotGen (step w op) :=
  stepF_ok w op ▸ L3_annotGen_stepF {} w op h
theorem L3_namesNodup_step (w : World) (op : Op) (h : NamesNodup w) (hf : OpFresh w op) :
    NamesNodup (step w op) :=
  stepF_ok w op ▸ L3_namesNodup_stepF {} w op h hf

/-! ### lifted forms -/

/-- **C13 (history): one replica set per template, for ALL operation sequences** — reconciles of
both controllers, node / pod / spec changes and clock ticks in any order and number. -/
theorem L3_one_per_template (w : World) (ops : List Op) (h : HashesNodup w) : HashesNodup (run w ops) :=
  run_inv_all L3_hashesNodup_step ops w h

/-- … even when any subset of the planned writes of any reconcile fails. -/
theorem L3_one_per_template_faults (w : World) (ops : List (Faults × Op)) (h : HashesNodup w) :
    HashesNodup (runF w ops) :=
  runF_inv_all L3_hashesNodup_stepF ops w h

theorem L3_all_hashed (w : World) (ops : List Op) (h : AllHashed w) : AllHashed (run w ops) :=
  run_inv_all L3_allHashed_step ops w h

theorem L3_all_hashed_faults (w : World) (ops : List (Faults × Op)) (h : AllHashed w) : AllHashed (runF w ops) :=
  runF_inv_all L3_allHashed_stepF ops w h

theorem L3_annot_gen (w : World) (ops : List Op) (h : AnnotGen w) : AnnotGen (run w ops) :=
  run_inv_all L3_annotGen_step ops w h

theorem L3_annot_gen_faults (w : World) (ops : List (Faults × Op)) (h : AnnotGen w) : AnnotGen (runF w ops) :=
  runF_inv_all L3_annotGen_stepF ops w h

/-- **names stay distinct along any run with fresh names** (`RunOk OpFresh`: at each daemonset
reconcile of the run the name the API server hands out is not the name of an own replica set of the
world at that moment). -/
theorem L3_names_nodup (w : World) (ops : List Op) (h : NamesNodup w) (hf : RunOk OpFresh w ops) :
    NamesNodup (run w ops) :=
  run_inv L3_namesNodup_step ops w h hf

theorem L3_names_nodup_faults (w : World) (ops : List (Faults × Op)) (h : NamesNodup w)
    (hf : RunOkF OpFresh w ops) : NamesNodup (runF w ops) :=
  runF_inv L3_namesNodup_stepF ops w h hf

/-- at any point of any run: two own replica sets with the same template hash are the same object. -/
theorem L3_at_most_one_per_hash (w : World) (ops : List Op) (h : HashesNodup w) (e1 e2 : ERS)
    (h1 : e1 ∈ (run w ops).own) (h2 : e2 ∈ (run w ops).own)
    (hh : SMap.get? e1.annotations K.templateHashAnnot = SMap.get? e2.annotations K.templateHashAnnot) :
    e1 = e2 :=
  C13_at_most_one_per_hash _ _ (L3_one_per_template w ops h) e1 e2 h1 h2 hh

/-- a world without replica sets satisfies the three hash invariants. -/
theorem hashInv_of_no_erss (w : World) (h : w.erss = []) : HashesNodup w ∧ AllHashed w ∧ AnnotGen w := by
  refine ⟨?_, ?_, ?_⟩
  · unfold HashesNodup hashesNodup; rw [h]; exact List.nodup_nil
  · unfold AllHashed allHashed; rw [h]; intro e he; cases he
  · unfold AnnotGen World.own; rw [h]; intro e he; cases he

/-- from a world without replica sets no hypothesis is left. -/
theorem L3_one_per_template_from_empty (w : World) (ops : List Op) (h : w.erss = []) :
    HashesNodup (run w ops) ∧ AllHashed (run w ops) ∧ AnnotGen (run w ops) :=
  ⟨L3_one_per_template w ops (hashInv_of_no_erss w h).1, L3_all_hashed w ops (hashInv_of_no_erss w h).2.1,
    L3_annot_gen w ops (hashInv_of_no_erss w h).2.2⟩

/-! ## b. C13: a replica set in use is never removed -/

/-- `e` is still in the world, up to its status. -/
def Survives (e : ERS) (w' : World) : Prop := ∃ e' ∈ w'.erss, e' = { e with status := e'.status }

/-- **only the daemonset reconcile's clean-up removes replica sets**: a replica set survives a step
unless it was named in `deletedErs` of a daemonset reconcile. -/
theorem L3_survives_or_cleanup (w : World) (op : Op) (e : ERS) (he : e ∈ w.erss) :
    Survives e (step w op) ∨
    ∃ nn m, op = .reconcileEds nn m ∧ e.ns = w.eds.ns ∧ e.name ∈ (edsWrites w m).deletedErs := by
  cases op with
  | reconcileEds nn m =>
    by_cases hk : e.ns = w.eds.ns ∧ e.name ∈ (edsWrites w m).deletedErs
    · exact Or.inr ⟨nn, m, rfl, hk⟩
    · exact Or.inl ⟨e, mem_applyErsList_of_not_deleted _ _ _ _ _ _ he (Decidable.not_and_iff_not_or_not.1 hk), rfl⟩
  | reconcileErs name rel aff =>
    simp only [step]
    cases findErs w name with
    | none => exact Or.inl ⟨e, he, rfl⟩
    | some rs => exact Or.inl ⟨setStatusOf rs _ e, List.mem_map_of_mem he, setStatusOf_eq rs _ e⟩
  | _ => exact Or.inl ⟨e, he, rfl⟩

theorem L3_removed_only_by_cleanup (w : World) (op : Op) (e : ERS) (he : e ∈ w.erss)
    (h : ¬ Survives e (step w op)) :
    ∃ nn m, op = .reconcileEds nn m ∧ e.ns = w.eds.ns ∧ e.name ∈ (edsWrites w m).deletedErs :=
  (L3_survives_or_cleanup w op e he).resolve_left h

/-- the active replica set named by the status AFTER a daemonset reconcile is not among the names
that reconcile deletes. -/
theorem L3_active_not_deleted (w : World) (nn m : String) :
    (step w (.reconcileEds nn m)).eds.status.activeReplicaSet ∉ (edsWrites w m).deletedErs := by
  intro hmem
  obtain ⟨_, _, u, hu, hr⟩ := reconcileEds_main w.eds w.erss w.pods w.nodes w.now m (Or.inl (List.ne_nil_of_mem hmem))
  rw [step_main_active w nn m u hr] at hmem
  exact C13_current_never_deleted w.eds w.erss w.pods w.nodes w.now m u hu hmem

/-- the template hash in spec after a daemonset reconcile is the hash annotation of an own replica
set that the reconcile does not delete — under the hash invariants. -/
theorem L3_uptodate_not_deleted (w : World) (nn m : String) (hh : HashesNodup w) (hg : AnnotGen w)
    (e : ERS) (he : e ∈ w.own)
    (hm : SMap.get? e.annotations K.templateHashAnnot = some (step w (.reconcileEds nn m)).eds.templateHash) :
    e.name ∉ (edsWrites w m).deletedErs := by
  intro hmem
  obtain ⟨_, _, u, hu, hr⟩ := reconcileEds_main w.eds w.erss w.pods w.nodes w.now m (Or.inl (List.ne_nil_of_mem hmem))
  have hum := C13_reuse_selects w.eds w.erss u hu
  have hcm := currentOf_mem w.eds w.own u w.now hum.1
  -- the hash in spec is still the one `u` carries, or became the generation of the current replica set
  rcases step_main_templateHash w nn m u hr with hc | hc
  · have : e = u := C13_at_most_one_per_hash _ _ hh e u he hum.1 (by rw [hm, hc, hum.2])
    exact C13_uptodate_never_deleted w.eds w.erss w.pods w.nodes w.now m u hu (this ▸ hmem)
  · have : e = (currentOf w.eds w.own u w.now).1 :=
      C13_at_most_one_per_hash _ _ hh e _ he hcm (by rw [hm, hc, hg _ hcm])
    exact C13_current_never_deleted w.eds w.erss w.pods w.nodes w.now m u hu (this ▸ hmem)

theorem mem_own {w : World} {e : ERS} (h : e ∈ w.own) : e ∈ w.erss := (List.mem_filter.1 h).1
theorem own_ns {w : World} {e : ERS} (h : e ∈ w.own) : e.ns = w.eds.ns := by
  have := (List.mem_filter.1 h).2
  simp only [Bool.and_eq_true, beq_iff_eq] at this
  exact this.1

/-- **C13 (step): the replica set the status names as active AFTER a step survived that step** — for
every operation, no hypothesis. -/
theorem L3_active_never_removed (w : World) (op : Op) (e : ERS) (he : e ∈ w.erss)
    (h : e.name = (step w op).eds.status.activeReplicaSet) : Survives e (step w op) := by
  rcases L3_survives_or_cleanup w op e he with hs | ⟨nn, m, rfl, _, hd⟩
  · exact hs
  · rw [h] at hd
    exact absurd hd (L3_active_not_deleted w nn m)

/-- **C13 (step): the own replica set whose hash annotation matches spec.template AFTER a step
survived that step** (after a rollback that is the restored one) — under the hash invariants. -/
theorem L3_uptodate_never_removed (w : World) (op : Op) (hh : HashesNodup w) (hg : AnnotGen w)
    (e : ERS) (he : e ∈ w.own)
    (hm : SMap.get? e.annotations K.templateHashAnnot = some (step w op).eds.templateHash) :
    Survives e (step w op) := by
  rcases L3_survives_or_cleanup w op e (mem_own he) with hs | ⟨nn, m, rfl, _, hd⟩
  · exact hs
  · exact absurd hd (L3_uptodate_not_deleted w nn m hh hg e he hm)

/-- without any invariant: the replica set the reconcile selected as up to date survives. -/
theorem L3_selected_uptodate_never_removed (w : World) (op : Op) (u : ERS)
    (hu : upToDateOf w.eds w.own = some u) : Survives u (step w op) := by
  have hum := C13_reuse_selects w.eds w.erss u hu
  rcases L3_survives_or_cleanup w op u (mem_own hum.1) with hs | ⟨nn, m, rfl, _, hd⟩
  · exact hs
  · exact absurd hd (C13_uptodate_never_deleted w.eds w.erss w.pods w.nodes w.now m u hu)

/-- **C13 (history): never deletes in-use.**  At every step of every run from a world satisfying the
hash invariants, the replica set named active after the step and the own replica set matching the
spec's template hash after the step are not removed by the step. -/
theorem L3_never_deletes_in_use (w0 : World) (ops : List Op) (op : Op) (hh : HashesNodup w0) (hg : AnnotGen w0)
    (e : ERS) (he : e ∈ (run w0 ops).own)
    (huse : e.name = (step (run w0 ops) op).eds.status.activeReplicaSet ∨
      SMap.get? e.annotations K.templateHashAnnot = some (step (run w0 ops) op).eds.templateHash) :
    Survives e (step (run w0 ops) op) := by
  rcases huse with h | h
  · exact L3_active_never_removed _ op e (mem_own he) h
  · exact L3_uptodate_never_removed _ op (L3_one_per_template w0 ops hh) (L3_annot_gen w0 ops hg) e he h

/-! ## c. C15 / C04: the canary node list -/

def CanaryNodup (w : World) : Prop := (canaryNodesOf w.eds.status).Nodup

instance (w : World) : Decidable (CanaryNodup w) :=
  inferInstanceAs (Decidable ((canaryNodesOf w.eds.status).Nodup))

/-- the request of the running canary resolved against the nodes its template targets (0 when
there is no canary strategy, no up-to-date replica set, or the request does not resolve). -/
def requestOf (w : World) : Int :=
  match w.eds.strategy.canary, upToDateOf w.eds w.own with
  | some c, some u => (resolveIntOrPercent c.replicas (targetedCount u.template w.nodes)).getD 0
  | _, _ => 0

/-- the canary node list after a step (any fault pattern): empty, unchanged, or the result of
`selectNodes` on the previous list. -/
theorem stepF_nodes_cases (f : Faults) (w : World) (op : Op) :
    canaryNodesOf (stepF f w op).eds.status = [] ∨
    canaryNodesOf (stepF f w op).eds.status = canaryNodesOf w.eds.status ∨
    ∃ u c sel short, upToDateOf w.eds w.own = some u ∧ w.eds.strategy.canary = some c ∧
      selectNodes u.template c (targetedCount u.template w.nodes) (canaryNodesOf w.eds.status)
        (ownPods w.eds w.pods) w.nodes = .ok (sel, short) ∧
      canaryNodesOf (stepF f w op).eds.status = sel := by
  by_cases hop : ∃ nn m, op = .reconcileEds nn m
  · obtain ⟨nn, m, rfl⟩ := hop
    rcases stepF_reconcileEds_status f w nn m with h | h
    · rw [h]; exact Or.inr (Or.inl rfl)
    · cases hcs : (stepF f w (.reconcileEds nn m)).eds.status.canary with
      | none => exact Or.inl (canaryNodesOf_none hcs)
      | some cs =>
        rw [canaryNodesOf_some hcs]
        obtain ⟨u, hu, h' | ⟨c, sel, short, hc, hsel, h'⟩⟩ :=
          reconcileEds_canary_nodes w.eds w.erss w.pods w.nodes w.now m _ cs h hcs
        · exact Or.inr (Or.inl h')
        · exact Or.inr (Or.inr ⟨u, c, sel, short, hu, hc, hsel, h'⟩)
  · rw [stepF_status_frame f w op (fun nn m hc => hop ⟨nn, m, hc⟩)]
    exact Or.inr (Or.inl rfl)

/-- **C15 (step, any fault pattern): `status.canary.nodes` stays duplicate-free.**  No condition on
the node names is needed (`C15_distinct` has none). -/
theorem L3_canaryNodup_stepF (f : Faults) (w : World) (op : Op) (h : CanaryNodup w) :
    CanaryNodup (stepF f w op) := by
  unfold CanaryNodup at h ⊢
  rcases stepF_nodes_cases f w op with h' | h' | ⟨u, c, sel, short, _, _, hsel, h'⟩
  · rw [h']; exact List.nodup_nil
  · rw [h']; exact h
  · rw [h']; exact C15_distinct hsel h

theorem L3_canaryNodup_step (w : World) (op : Op) (h : CanaryNodup w) : CanaryNodup (step w op) :=
  stepF_ok w op ▸ L3_canaryNodup_stepF {} w op h

/-- **C15 (history): `status.canary.nodes` is duplicate-free along every run**, whatever the node
lists the environment installs (duplicate node names included). -/
theorem L3_canary_nodup (w : World) (ops : List Op) (h : CanaryNodup w) : CanaryNodup (run w ops) :=
  run_inv_all L3_canaryNodup_step ops w h

theorem L3_canary_nodup_faults (w : World) (ops : List (Faults × Op)) (h : CanaryNodup w) :
    CanaryNodup (runF w ops) :=
  runF_inv_all L3_canaryNodup_stepF ops w h

/-- **C15 (step, any fault pattern): the controller never grows the canary node list beyond
max(previous length, resolved request).** -/
theorem L3_canary_bound_stepF (f : Faults) (w : World) (op : Op) :
    ((canaryNodesOf (stepF f w op).eds.status).length : Int) ≤
      max ((canaryNodesOf w.eds.status).length : Int) (requestOf w) := by
  rcases stepF_nodes_cases f w op with h' | h' | ⟨u, c, sel, short, hu, hc, hsel, h'⟩
  · rw [h']; simp only [List.length_nil]; omega
  · rw [h']; omega
  · rw [h']
    obtain ⟨nb, hr, _⟩ := Sel.selectNodes_ok hsel
    have hb := (C15_never_exceeds hsel (k := nb) hr).2.2
    have hreq : requestOf w = nb := by
      unfold requestOf; rw [hc, hu]; simp only []; rw [hr]; rfl
    rw [hreq]; omega

theorem L3_canary_bound_step (w : World) (op : Op) :
    ((canaryNodesOf (step w op).eds.status).length : Int) ≤
      max ((canaryNodesOf w.eds.status).length : Int) (requestOf w) :=
  stepF_ok w op ▸ L3_canary_bound_stepF {} w op

/-- **C15 (history): a bound on the canary node list along a run.**  If the list starts with at most
`K` names and at every step of the run the resolved request is at most `K`, the list never has more
than `K` names. -/
theorem L3_canary_bound (K : Int) (w : World) (ops : List Op)
    (h : ((canaryNodesOf w.eds.status).length : Int) ≤ K)
    (hreq : RunOk (fun w _ => requestOf w ≤ K) w ops) :
    ((canaryNodesOf (run w ops).eds.status).length : Int) ≤ K :=
  run_inv (P := fun w => ((canaryNodesOf w.eds.status).length : Int) ≤ K)
    (fun w op h hc => by
      have := L3_canary_bound_step w op
      omega) ops w h hreq


/-! ## d. C05: promotion only by the rule, as a history property -/

/-- the CRD schema's enum on `validationMode` (the empty string = not set yet). -/
def modeOk (s : Strategy) : Prop :=
  ∀ c, s.canary = some c → c.validationMode = "" ∨ c.validationMode = "auto" ∨ c.validationMode = "manual"

def SchemaOk (w : World) : Prop := modeOk w.eds.strategy

/-- the side condition that keeps the schema: user edits respect the enum, the controller's default
mode flag is one of its values. -/
def OpSchema (_ : World) : Op → Prop
  | .reconcileEds _ m => m = "" ∨ m = "auto" ∨ m = "manual"
  | .userSpec _ _ s _ => modeOk s
  | _ => True

/-- executable form of `modeOk`. -/
def modeOkB (s : Strategy) : Bool :=
  match s.canary with
  | none => true
  | some c => c.validationMode == "" || c.validationMode == "auto" || c.validationMode == "manual"

theorem modeOk_iff (s : Strategy) : modeOk s ↔ modeOkB s = true := by
  unfold modeOk modeOkB
  cases s.canary with
  | none => simp
  | some c => simp [or_assoc]

instance (s : Strategy) : Decidable (modeOk s) := decidable_of_iff _ (modeOk_iff s).symm
instance (w : World) : Decidable (SchemaOk w) := inferInstanceAs (Decidable (modeOk w.eds.strategy))

instance (w : World) (op : Op) : Decidable (OpSchema w op) :=
  match op with
  | .reconcileEds _ m => inferInstanceAs (Decidable (m = "" ∨ m = "auto" ∨ m = "manual"))
  | .reconcileErs _ _ _ => isTrue trivial
  | .setNodes _ => isTrue trivial
  | .kubelet _ => isTrue trivial
  | .userSpec _ _ s _ => inferInstanceAs (Decidable (modeOk s))
  | .tick _ => isTrue trivial

theorem modeOk_defaultSpec (s : Strategy) (m : String) (h : modeOk s) (hm : m = "" ∨ m = "auto" ∨ m = "manual") :
    modeOk (defaultSpec s m).1 := by
  intro c hc
  unfold defaultSpec at hc
  simp only [Option.map_eq_some_iff] at hc
  obtain ⟨c0, hc0, rfl⟩ := hc
  unfold defaultCanary
  simp only []
  split
  · exact hm
  · exact h c0 hc0

theorem L3_schemaOk_stepF (f : Faults) (w : World) (op : Op) (h : SchemaOk w) (ho : OpSchema w op) :
    SchemaOk (stepF f w op) := by
  unfold SchemaOk at h ⊢
  cases op with
  | reconcileEds nn m =>
    show modeOk (applyEdsObj _ _ _).strategy
    rw [applyEdsObj_strategy]
    rcases (EdsSub.mask f (edsWrites w m)).defaulted with hd | hd
    · rw [hd]; exact h
    · rw [hd]
      unfold edsWrites
      rcases reconcileEds_defaulted w.eds w.erss w.pods w.nodes w.now m with hd' | hd'
      · rw [hd']; exact h
      · rw [hd']; exact modeOk_defaultSpec _ _ h ho
  | userSpec _ _ s _ => exact ho
  | reconcileErs name rel aff =>
    rw [stepF_eds_frame f w (.reconcileErs name rel aff) (fun _ _ h => nomatch h) (fun _ _ _ _ h => nomatch h)]
    exact h
  | _ => exact h

theorem L3_schemaOk_step (w : World) (op : Op) (h : SchemaOk w) (ho : OpSchema w op) : SchemaOk (step w op) :=
  stepF_ok w op ▸ L3_schemaOk_stepF {} w op h ho

/-- **C05 (step, any fault pattern).**  If a daemonset reconcile changes `status.activeReplicaSet`
from the name of an own replica set `a` to the name of a different own replica set `u`, the promotion
rule of the property statement held for `u` in the pre-state: explicit validation, or auto mode with
the canary duration elapsed, no recent restart, not paused, not failed (or no canary strategy). -/
theorem L3_promotion_stepF (f : Faults) (w : World) (nn m : String) (hs : SchemaOk w) (hn : NamesNodup w)
    (a u : ERS) (ha : a ∈ w.own) (hu : u ∈ w.own)
    (hact : w.eds.status.activeReplicaSet = a.name)
    (hact' : (stepF f w (.reconcileEds nn m)).eds.status.activeReplicaSet = u.name)
    (hne : a.name ≠ u.name) :
    promotionAllowed w.eds.strategy.canary w.eds.annotations u w.now = true := by
  -- the status changed, so it is the one the reconcile planned, in `edsMain`
  rcases stepF_reconcileEds_status f w nn m with hsame | hsu
  · rw [hsame] at hact'; exact absurd (hact.symm.trans hact') hne
  · obtain ⟨hdef, hval, u0, hu0, hmain⟩ :=
      reconcileEds_main w.eds w.erss w.pods w.nodes w.now m (Or.inr fun h => nomatch hsu.symm.trans h)
    unfold edsWrites at hsu
    rw [hmain] at hsu
    have hstc := edsMain_statusUpdate _ _ _ _ _ _ _ hsu
    unfold edsUpd at hstc
    rw [hstc, updateInstance_activeReplicaSet] at hact'
    -- its current replica set is not the active `a`: the selection promoted the up-to-date one, `u`
    have hla : lastWhere (fun e => e.name == w.eds.status.activeReplicaSet) (ownErs w.eds w.erss) = some a :=
      lastWhere_name_of_nodup hn ha _ hact.symm
    obtain ⟨hcur, rq, hsel⟩ := currentOf_promote _ _ _ _ _ hla (by rw [hact']; exact fun h => hne h.symm)
    have : u0 = u := eq_of_nodup_map (·.name) (show ((ownErs w.eds w.erss).map (·.name)).Nodup from hn)
      (C13_reuse_selects w.eds w.erss u0 hu0).1 hu (by rw [← hact', hcur])
    subst this
    apply C05_only_if _ _ a u0 w.now rq ?_ ?_ hsel
    · intro c hc
      rcases hs c hc with h | h | h
      · exact absurd h (isDefaulted_mode_ne _ _ c hdef hc)
      · exact Or.inl h
      · exact Or.inr h
    · intro c hc hman
      exact C16_validate_ok_manual_no_duration _ c hval hc hman

theorem L3_promotion_step (w : World) (nn m : String) (hs : SchemaOk w) (hn : NamesNodup w)
    (a u : ERS) (ha : a ∈ w.own) (hu : u ∈ w.own)
    (hact : w.eds.status.activeReplicaSet = a.name)
    (hact' : (step w (.reconcileEds nn m)).eds.status.activeReplicaSet = u.name)
    (hne : a.name ≠ u.name) :
    promotionAllowed w.eds.strategy.canary w.eds.annotations u w.now = true :=
  L3_promotion_stepF {} w nn m hs hn a u ha hu hact (stepF_ok w _ ▸ hact') hne

/-- well-formedness used by the history form: distinct names of the own replica sets, schema. -/
def WF (w : World) : Prop := NamesNodup w ∧ SchemaOk w
def OpOk (w : World) (op : Op) : Prop := OpFresh w op ∧ OpSchema w op

instance (w : World) : Decidable (WF w) := inferInstanceAs (Decidable (_ ∧ _))
instance (w : World) (op : Op) : Decidable (OpOk w op) := inferInstanceAs (Decidable (_ ∧ _))

theorem L3_WF_stepF (f : Faults) (w : World) (op : Op) (h : WF w) (ho : OpOk w op) : WF (stepF f w op) :=
  ⟨L3_namesNodup_stepF f w op h.1 ho.1, L3_schemaOk_stepF f w op h.2 ho.2⟩

theorem L3_WF_step (w : World) (op : Op) (h : WF w) (ho : OpOk w op) : WF (step w op) :=
  stepF_ok w op ▸ L3_WF_stepF {} w op h ho

theorem L3_WF_run (w : World) (ops : List Op) (h : WF w) (ho : RunOk OpOk w ops) : WF (run w ops) :=
  run_inv L3_WF_step ops w h ho

theorem L3_WF_runF (w : World) (ops : List (Faults × Op)) (h : WF w) (ho : RunOkF OpOk w ops) : WF (runF w ops) :=
  runF_inv L3_WF_stepF ops w h ho

/-- **C05 (history).**  In any run from a well-formed world (fresh names for created replica sets,
validation modes from the schema's enum), whenever a daemonset reconcile changes
`status.activeReplicaSet` from an existing own replica set `a` to a different existing own replica
set `u`, the promotion rule held for `u` at that moment. -/
theorem L3_promotion_history (w0 : World) (ops : List Op) (nn m : String) (h0 : WF w0)
    (hops : RunOk OpOk w0 ops) (a u : ERS)
    (ha : a ∈ (run w0 ops).own) (hu : u ∈ (run w0 ops).own)
    (hact : (run w0 ops).eds.status.activeReplicaSet = a.name)
    (hact' : (run w0 (ops ++ [.reconcileEds nn m])).eds.status.activeReplicaSet = u.name)
    (hne : a.name ≠ u.name) :
    promotionAllowed (run w0 ops).eds.strategy.canary (run w0 ops).eds.annotations u (run w0 ops).now = true := by
  have hwf := L3_WF_run w0 ops h0 hops
  rw [run_append] at hact'
  exact L3_promotion_step _ nn m hwf.2 hwf.1 a u ha hu hact hact' hne

/-- the same with faults: promotion never bypasses the rule whatever writes fail. -/
theorem L3_promotion_history_faults (w0 : World) (ops : List (Faults × Op)) (f : Faults) (nn m : String)
    (h0 : WF w0) (hops : RunOkF OpOk w0 ops) (a u : ERS)
    (ha : a ∈ (runF w0 ops).own) (hu : u ∈ (runF w0 ops).own)
    (hact : (runF w0 ops).eds.status.activeReplicaSet = a.name)
    (hact' : (stepF f (runF w0 ops) (.reconcileEds nn m)).eds.status.activeReplicaSet = u.name)
    (hne : a.name ≠ u.name) :
    promotionAllowed (runF w0 ops).eds.strategy.canary (runF w0 ops).eds.annotations u (runF w0 ops).now = true := by
  have hwf := L3_WF_runF w0 ops h0 hops
  exact L3_promotion_stepF f _ nn m hwf.2 hwf.1 a u ha hu hact hact' hne


/-! ## e. C12: foreign pods are never touched -/

/-- pods are addressed by namespace/name: the API server keeps these keys unique. -/
def PodKeysUnique (w : World) : Prop :=
  ∀ p ∈ w.pods, ∀ q ∈ w.pods, p.ns = q.ns → p.name = q.name → p = q

instance (w : World) : Decidable (PodKeysUnique w) :=
  inferInstanceAs (Decidable (∀ p ∈ w.pods, ∀ q ∈ w.pods, p.ns = q.ns → p.name = q.name → p = q))

/-- every pod name a replica-set reconcile writes is the name of a stored pod owned by the daemonset
(`C12_ers_writes_ownedByEds` in the world). -/
theorem ersWrites_names_owned (w : World) (rs : ERS) (rel : String → Bool) (aff : Bool) :
    ∀ name ∈ (ersWrites w rs rel aff).cleanupDeletes ++ (ersWrites w rs rel aff).deletes ++
             (ersWrites w rs rel aff).labelAdds ++ (ersWrites w rs rel aff).labelRemoves,
      ∃ p ∈ w.pods, p.name = name ∧ ownedByEds w.eds p := by
  unfold ersWrites
  cases ho : ersOwner rs w.store with
  | none =>
    obtain ⟨h1, h2, h3, h4, _⟩ := reconcileErs_noPodWrite_of_no_owner rs w.store rel aff w.now ho
    rw [h1, h2, h3, h4]; intro name hn; cases hn
  | some d =>
    cases ersOwner_store ho
    exact C12_ers_writes_ownedByEds rs w.store rel aff w.now _ ho

/-- the pod transformation of a replica-set reconcile. -/
def podPatch (ns : String) (wr : ErsWrites) (now : Time) (p : Pod) : Pod :=
  markDeletedNs ns (wr.deletes ++ wr.cleanupDeletes) now (patchLabels ns wr.labelAdds wr.labelRemoves p)

theorem applyErs_pods (w : World) (rs : ERS) (wr : ErsWrites) :
    (applyErs w rs wr).pods = w.pods.map (podPatch rs.ns wr w.now) ++ wr.creates.map (·.2) := rfl

theorem podPatch_id (ns : String) (wr : ErsWrites) (now : Time) (p : Pod)
    (h : p.ns = ns → p.name ∉ wr.cleanupDeletes ++ wr.deletes ++ wr.labelAdds ++ wr.labelRemoves) :
    podPatch ns wr now p = p := by
  unfold podPatch patchLabels markDeletedNs
  by_cases hns : p.ns = ns
  · have := h hns
    simp only [List.mem_append, not_or] at this
    obtain ⟨⟨⟨h1, h2⟩, h3⟩, h4⟩ := this
    simp [h1, h2, h3, h4]
  · simp [hns]

theorem findErs_ns {w : World} {name : String} {rs : ERS} (h : findErs w name = some rs) :
    rs ∈ w.erss ∧ rs.ns = w.eds.ns ∧ rs.name = name := by
  unfold findErs at h
  have h1 := List.find?_some h
  simp only [Bool.and_eq_true, beq_iff_eq] at h1
  exact ⟨List.mem_of_find?_eq_some h, h1.1, h1.2⟩

/-- **C12 (step, any fault pattern): a pod that is not the daemonset's is left alone by every
controller step.**  The new pod list is the old one, pod by pod through a map that fixes every pod
not owned by the daemonset (not in its namespace with its name label, not of the DaemonSet being
migrated), followed by created pods.  Needs unique namespace/name keys among the stored pods. -/
theorem L3_foreign_pods_untouched (f : Faults) (w : World) (op : Op) (hk : PodKeysUnique w)
    (hop : ∀ pods', op ≠ .kubelet pods') :
    ∃ g created, (stepF f w op).pods = w.pods.map g ++ created ∧
      ∀ p ∈ w.pods, ¬ ownedByEds w.eds p → g p = p := by
  cases op with
  | reconcileErs name rel aff =>
    simp only [stepF]
    cases hf : findErs w name with
    | none => exact ⟨id, [], by rw [List.map_id, List.append_nil], fun _ _ _ => rfl⟩
    | some rs =>
      refine ⟨_, _, applyErs_pods w rs _, ?_⟩
      intro p hp hnot
      apply podPatch_id
      intro hns hmem
      have hmem' : p.name ∈ (ersWrites w rs rel aff).cleanupDeletes ++ (ersWrites w rs rel aff).deletes ++
          (ersWrites w rs rel aff).labelAdds ++ (ersWrites w rs rel aff).labelRemoves := by
        simp only [maskErs, List.mem_append, List.mem_filter] at hmem ⊢
        rcases hmem with ((h | h) | h) | h
        · exact Or.inl (Or.inl (Or.inl h.1))
        · exact Or.inl (Or.inl (Or.inr h.1))
        · exact Or.inl (Or.inr h.1)
        · exact Or.inr h.1
      obtain ⟨q, hq, hqn, hqo⟩ := ersWrites_names_owned w rs rel aff p.name hmem'
      have : q = p := hk q hq p hp (by rw [hqo.1, hns, (findErs_ns hf).2.1]) hqn
      subst this
      exact hnot hqo
  | kubelet pods' => exact absurd rfl (hop pods')
  | _ => exact ⟨id, [], by rw [List.map_id, List.append_nil]; rfl, fun _ _ _ => rfl⟩

/-- the daemonset reconcile writes no pod at all. -/
theorem L3_eds_reconcile_writes_no_pod (f : Faults) (w : World) (nn m : String) :
    (stepF f w (.reconcileEds nn m)).pods = w.pods := rfl

/-- in particular every foreign pod is still in the store, unchanged, after the step. -/
theorem L3_foreign_pod_stays (f : Faults) (w : World) (op : Op) (hk : PodKeysUnique w)
    (hop : ∀ pods', op ≠ .kubelet pods') (p : Pod) (hp : p ∈ w.pods) (hnot : ¬ ownedByEds w.eds p) :
    p ∈ (stepF f w op).pods := by
  obtain ⟨g, created, heq, hg⟩ := L3_foreign_pods_untouched f w op hk hop
  rw [heq]
  apply List.mem_append_left
  rw [← hg p hp hnot]
  exact List.mem_map_of_mem hp

/-- created pods are the daemonset's own (when the reconciled replica set carries its name label, as
every replica set the daemonset controller creates does). -/
theorem L3_created_pods_owned (f : Faults) (w : World) (rel : String → Bool) (aff : Bool)
    (rs : ERS) (hown : rs ∈ w.own)
    (x : String × Pod) (hx : x ∈ (maskErs f (ersWrites w rs rel aff)).creates) : ownedByEds w.eds x.2 := by
  have hx' : x ∈ (ersWrites w rs rel aff).creates := (List.mem_filter.1 hx).1
  unfold ersWrites at hx'
  have hl := (List.mem_filter.1 hown).2
  simp only [Bool.and_eq_true, beq_iff_eq] at hl
  cases ho : ersOwner rs w.store with
  | none =>
    have := (reconcileErs_noPodWrite_of_no_owner rs w.store rel aff w.now ho).2.2.2.2
    rw [this] at hx'; cases hx'
  | some d =>
    cases ersOwner_store ho
    exact C12_ers_creates_eds_label rs w.store rel aff w.now _ ho hl.2 x hx'


/-! ## f. who writes what; roles -/

/-- **the daemonset's status is written by daemonset reconciles only** (restated for `step`). -/
theorem L3_status_written_only_by_eds_reconcile (w : World) (op : Op) (h : ∀ nn m, op ≠ .reconcileEds nn m) :
    (step w op).eds.status = w.eds.status :=
  stepF_ok w op ▸ stepF_status_frame {} w op h

/-- **spec.template, spec.strategy and the annotations are written by the user, by defaulting and by the
rollback only**: a replica-set reconcile, a node / pod change or a tick leaves the whole daemonset object alone. -/
theorem L3_eds_object_frame (f : Faults) (w : World) (op : Op) (h : ∀ nn m, op ≠ .reconcileEds nn m)
    (hu : ∀ a b c d, op ≠ .userSpec a b c d) : (stepF f w op).eds = w.eds :=
  stepF_eds_frame f w op h hu

/-- hence the role of every replica set changes at daemonset reconciles only. -/
theorem L3_role_changes_only_at_eds_reconcile (w : World) (op : Op) (h : ∀ nn m, op ≠ .reconcileEds nn m)
    (n : String) : ersRole (step w op).eds n = ersRole w.eds n := by
  unfold ersRole; rw [L3_status_written_only_by_eds_reconcile w op h]

/-- **a replica set's spec, labels and annotations are never written**; its status is written only by
a reconcile of that very replica set: every replica set after a step is an old one (status possibly
updated, and then the step is its own reconcile) or the one the daemonset reconcile created. -/
theorem L3_ers_written_only_by_own_reconcile (f : Faults) (w : World) (op : Op) (e' : ERS)
    (he' : e' ∈ (stepF f w op).erss) :
    e' ∈ w.erss ∨
    (∃ e ∈ w.erss, e' = { e with status := e'.status } ∧
      ∃ rel aff, op = .reconcileErs e.name rel aff ∧ e.ns = w.eds.ns) ∨
    (∃ nn m, op = .reconcileEds nn m ∧
      e' = ersOfNewAt w.eds (newReplicaSetFromInstance w.eds) nn w.now) := by
  cases op with
  | reconcileEds nn m =>
    have he2 : e' ∈ applyErsList w.eds w.erss (maskEds f (edsWrites w m)) nn w.now := he'
    rcases mem_applyErsList _ _ _ _ _ _ he2 with ⟨h, _⟩ | ⟨n, hn, h⟩
    · exact Or.inl h
    · right; right
      refine ⟨nn, m, rfl, ?_⟩
      rw [h, ((EdsSub.mask f (edsWrites w m)).created_some hn).1]
  | reconcileErs name rel aff =>
    simp only [stepF] at he'
    cases hf : findErs w name with
    | none => rw [hf] at he'; exact Or.inl he'
    | some rs =>
      rw [hf] at he'
      simp only [applyErs_erss] at he'
      obtain ⟨e, he, rfl⟩ := List.mem_map.1 he'
      obtain ⟨_, hns, hname⟩ := findErs_ns hf
      by_cases hhit : (e.ns == rs.ns && e.name == rs.name) = true
      · right; left
        simp only [Bool.and_eq_true, beq_iff_eq] at hhit
        exact ⟨e, he, setStatusOf_eq rs _ e, rel, aff, by rw [hhit.2, hname], by rw [hhit.1, hns]⟩
      · left
        have : setStatusOf rs (maskErs f (ersWrites w rs rel aff)) e = e := by
          unfold setStatusOf; simp only [hhit, Bool.false_eq_true, if_false]
        rw [this]; exact he
  | _ => exact Or.inl he'

/-- **roles are exclusive among the own replica sets**: with distinct names at most one own replica
set is active and at most one is the canary. -/
theorem L3_role_unique (w : World) (hn : NamesNodup w) (e1 e2 : ERS) (h1 : e1 ∈ w.own) (h2 : e2 ∈ w.own)
    (r : String) (hr : r = "active" ∨ r = "canary")
    (hr1 : ersRole w.eds e1.name = r) (hr2 : ersRole w.eds e2.name = r) : e1 = e2 := by
  have hn' : ((ownErs w.eds w.erss).map (·.name)).Nodup := hn
  apply eq_of_nodup_map (·.name) hn' h1 h2
  rcases hr with rfl | rfl
  · exact ((ersRole_active_iff _ _).1 hr1).2.symm.trans ((ersRole_active_iff _ _).1 hr2).2
  · obtain ⟨_, _, cs1, hc1, hn1⟩ := (ersRole_canary_iff _ _).1 hr1
    obtain ⟨_, _, cs2, hc2, hn2⟩ := (ersRole_canary_iff _ _).1 hr2
    rw [hc1] at hc2; cases hc2
    exact hn1.symm.trans hn2

/-- … at every point of every run with fresh names. -/
theorem L3_role_unique_history (w0 : World) (ops : List Op) (h0 : NamesNodup w0) (hf : RunOk OpFresh w0 ops)
    (e1 e2 : ERS) (h1 : e1 ∈ (run w0 ops).own) (h2 : e2 ∈ (run w0 ops).own)
    (r : String) (hr : r = "active" ∨ r = "canary")
    (hr1 : ersRole (run w0 ops).eds e1.name = r) (hr2 : ersRole (run w0 ops).eds e2.name = r) : e1 = e2 :=
  L3_role_unique _ (L3_names_nodup w0 ops h0 hf) e1 e2 h1 h2 r hr hr1 hr2

/-- **a status written while spec has a canary strategy never names the same replica set as active
and as canary.**
`_partial`: the unconditional invariant `status.canary.replicaSet ≠ status.activeReplicaSet` is FALSE
along runs — when the user removes `spec.strategy.canary` while a canary runs, `updateInstance` skips
the whole canary block, keeps the old `status.canary` and makes the former canary active (example
`exStaleCanary` below).  `ersRole` tests "active" first, so the
replica set gets the active role, with the stale canary nodes in its ignore list. -/
theorem L3_roles_distinct_after_write_partial (w : World) (m : String) (c : Canary)
    (hc : w.eds.strategy.canary = some c) (st : EDSStatus)
    (hst : (edsWrites w m).statusUpdate = some st) (cs : CanaryStatus) (hcs : st.canary = some cs) :
    cs.replicaSet ≠ st.activeReplicaSet := by
  unfold edsWrites at hst
  obtain ⟨_, _, u, _, hmain⟩ := reconcileEds_main _ _ _ _ _ _ (Or.inr fun h => nomatch hst.symm.trans h)
  rw [hmain] at hst
  have hs := edsMain_statusUpdate _ _ _ _ _ _ st hst
  unfold edsUpd at hs
  rw [hs] at hcs ⊢
  rw [updateInstance_activeReplicaSet]
  rcases updateInstance_canary_block _ _ _ _ _ _ _ _ _ cs hcs with ⟨hn, _⟩ | ⟨_, _, hrs, hne, _⟩
  · rw [hc] at hn; cases hn
  · rw [hrs]; exact fun h => hne h.symm


/-! ## g. C01: at most one live daemon pod per node, with the daemonset object evolving

`C01_syncs_preserve_one_per_node` (EdsProps/C01b.lean) keeps the daemonset object and the nodes
fixed.  In the cluster machine the daemonset's status (hence the canary node list the canary role
reads) is rewritten by daemonset reconciles in between: the hypothesis `hc` of C01b is the invariant
(c) above, so the statement lifts to runs in which both controllers, the user and the clock act. -/

def OnePerNode_l3 (w : World) : Prop := ∀ n, (livePodsOn w.eds w.pods n).length ≤ 1
def NodesOk (nodes : List Node) : Prop := (nodes.map (·.name)).Nodup ∧ ∀ nd ∈ nodes, nd.name ≠ ""

instance (w : World) : Decidable (OnePerNode_l3 w) := decidable_of_iff _ (onePerNode_iff w.eds w.pods)
instance (nodes : List Node) : Decidable (NodesOk nodes) := inferInstanceAs (Decidable (_ ∧ _))

/-- the environment's side conditions: node names stay distinct and non-empty; whatever happens to the
pods outside the controller (kubelet, eviction, users) never raises the number of live pods of the
daemonset attached to a node (pods fail, terminate, disappear, appear elsewhere; an `Unknown` pod
coming back to life next to its replacement is excluded — that is the caveat of C01 itself). -/
def OpEnvC01 (w : World) : Op → Prop
  | .setNodes nodes => NodesOk nodes
  | .kubelet pods' => ∀ n, (livePodsOn w.eds pods' n).length ≤ (livePodsOn w.eds w.pods n).length
  | _ => True

/-- the pod patch of a replica-set reconcile never makes a pod a live pod of the daemonset on a node. -/
theorem livePodsOn_podPatch_le (d : EDS) (ns : String) (wr : ErsWrites) (now : Time) (pods : List Pod) (n : String) :
    (livePodsOn d (pods.map (podPatch ns wr now)) n).length ≤ (livePodsOn d pods n).length := by
  unfold livePodsOn
  apply filter_map_length_le
  intro p _ hq
  have hne : K.edsNameLabel ≠ K.canaryLabel := by decide +kernel
  have hpl : isEdsPod d (patchLabels ns wr.labelAdds wr.labelRemoves p) = isEdsPod d p ∧
      (patchLabels ns wr.labelAdds wr.labelRemoves p).nodeOf = p.nodeOf ∧
      (patchLabels ns wr.labelAdds wr.labelRemoves p).live = p.live := by
    unfold patchLabels
    split
    · refine ⟨?_, rfl, rfl⟩
      unfold isEdsPod
      simp only [SMap.get?_set_other _ _ _ _ hne]
    · split
      · refine ⟨?_, rfl, rfl⟩
        unfold isEdsPod
        simp only [SMap.get?_erase_other _ _ _ hne]
      · exact ⟨rfl, rfl, rfl⟩
  unfold podPatch markDeletedNs at hq
  split at hq
  · simp [Pod.live] at hq
  · rw [hpl.1, hpl.2.1, hpl.2.2] at hq; exact hq

theorem livePodsOn_congr_eds (d d' : EDS) (hn : d.name = d'.name) (hns : d.ns = d'.ns) (pods : List Pod) (n : String) :
    livePodsOn d pods n = livePodsOn d' pods n := by
  unfold livePodsOn isEdsPod; rw [hn, hns]

/-- the combined invariant. -/
def C01Inv (w : World) : Prop := OnePerNode_l3 w ∧ NodesOk w.nodes ∧ CanaryNodup w
instance (w : World) : Decidable (C01Inv w) := inferInstanceAs (Decidable (_ ∧ _ ∧ _))

theorem L3_one_per_node_step (w : World) (op : Op) (h : C01Inv w) (ho : OpEnvC01 w op) : C01Inv (step w op) := by
  obtain ⟨h1, h2, h3⟩ := h
  refine ⟨?_, ?_, L3_canaryNodup_step w op h3⟩
  · intro n
    have hid := stepF_ok w op ▸ stepF_ident {} w op
    rw [livePodsOn_congr_eds (step w op).eds w.eds hid.1 hid.2.1]
    cases op with
    | reconcileErs name rel aff =>
      simp only [step]
      cases hf : findErs w name with
      | none => exact h1 n
      | some rs =>
        simp only [applyErs_pods]
        cases hown : ersOwner rs w.store with
        | none =>
          have := (reconcileErs_noPodWrite_of_no_owner rs w.store rel aff w.now hown).2.2.2.2
          unfold ersWrites
          rw [this, List.map_nil, List.append_nil]
          exact Nat.le_trans (livePodsOn_podPatch_le _ _ _ _ _ _) (h1 n)
        | some d =>
          cases ersOwner_store hown
          exact one_per_node_core rs w.store rel aff w.now _ hown (fun _ => h2.1) (fun _ => h3)
            (fun _ => h2.2) h1 _ (livePodsOn_podPatch_le _ _ _ _ _) n
    | kubelet pods' => exact Nat.le_trans (ho n) (h1 n)
    | _ => exact h1 n
  · cases op with
    | reconcileErs name rel aff =>
      simp only [step]
      cases findErs w name <;> exact h2
    | setNodes _ => exact ho
    | _ => exact h2

/-- **C01 (history): at most one live pod of the daemonset per node along every run** of both
controllers, user edits and clock ticks, with node lists of distinct non-empty names and a pod
environment that does not resurrect or add live daemon pods. -/
theorem L3_one_per_node (w : World) (ops : List Op) (h : C01Inv w) (ho : RunOk OpEnvC01 w ops) :
    OnePerNode_l3 (run w ops) :=
  (run_inv (P := C01Inv) L3_one_per_node_step ops w h ho).1


end Eds

/-! ## Examples (non-vacuity): a concrete cluster and a concrete run -/
namespace Eds.ExL3
open Eds Eds.Cluster Eds.ExReconcile Eds.Spec.C05

/-- daemonset `ns/ds` at rest on template `h1` (replica set `ds-a`, 3 pods reported); the replica set of
an older template `h2` still exists, drained; three schedulable nodes; the clock at one minute. -/
def w0 : World :=
  { eds := dStable, erss := store2, pods := [], nodes := [exNode15 "n1", exNode15 "n2", exNode15 "n3"],
    settings := [], daemonsets := [], now := minute }

/-- the user applies template `h3`; the controller creates `ds-c`, starts a canary on one node (and
collects the drained `ds-b`), the canary replica set creates its pod, eleven minutes pass. -/
def ops1 : List Op :=
  [ .userSpec "h3" tpl strategy [],
    .reconcileEds "ds-c" "auto",
    .reconcileEds "ds-x" "auto",
    .reconcileErs "ds-c" (fun _ => true) true,
    .tick (11 * 60 * 1000000000) ]

/-- … then the daemonset reconcile promotes `ds-c`, both replica sets sync, the old one is collected. -/
def ops2 : List Op :=
  ops1 ++ [ .reconcileEds "ds-y" "auto", .reconcileErs "ds-c" (fun _ => true) true,
            .reconcileErs "ds-a" (fun _ => true) true, .reconcileEds "ds-z" "auto" ]

/-- what the run does. -/
example : ((run w0 (ops1.take 3)).erss.map (·.name), (run w0 (ops1.take 3)).eds.status.canary) =
    (["ds-a", "ds-c"], some ⟨"ds-c", ["n1"]⟩) := by decide +kernel
example : ((run w0 ops1).eds.status.activeReplicaSet, (run w0 ops1).pods.length, (run w0 ops1).now) =
    ("ds-a", 1, 12 * minute) := by decide +kernel
example : ((run w0 ops2).eds.status.activeReplicaSet, (run w0 ops2).eds.status.canary,
    (run w0 ops2).erss.map (·.name)) = ("ds-c", none, ["ds-c"]) := by decide +kernel

/-! hypotheses of the invariants (a).  A fact about the example run that several examples use is evaluated
once, under a name (`w0_inv`, `ops2_ok`, `wPromo_step`, `ops2_request`, `stray_foreign`, `ops2_env`), and restated as
an `example`. -/
theorem w0_inv : HashesNodup w0 ∧ AllHashed w0 ∧ AnnotGen w0 ∧ NamesNodup w0 ∧ CanaryNodup w0 ∧ SchemaOk w0 := by
  decide +kernel
theorem ops2_ok : RunOk OpOk w0 ops2 := by decide +kernel
theorem ops2_fresh : RunOk OpFresh w0 ops2 := ops2_ok.mono (fun _ _ h => h.1)
example : HashesNodup w0 ∧ AllHashed w0 ∧ AnnotGen w0 ∧ NamesNodup w0 ∧ CanaryNodup w0 ∧ SchemaOk w0 := w0_inv
example : RunOk OpFresh w0 ops2 := ops2_fresh
example : RunOk OpOk w0 ops2 := ops2_ok
/-- a name that is NOT fresh breaks `NamesNodup` (the side condition is needed): the API server would
never hand out `ds-a` again. -/
example : ¬ RunOk OpFresh w0 [.userSpec "h3" tpl strategy [], .reconcileEds "ds-a" "auto"] := by decide +kernel
example : ¬ NamesNodup (run w0 [.userSpec "h3" tpl strategy [], .reconcileEds "ds-a" "auto"]) := by decide +kernel
/-- … but not `HashesNodup`. -/
example : HashesNodup (run w0 [.userSpec "h3" tpl strategy [], .reconcileEds "ds-a" "auto"]) := by decide +kernel
/-- the theorems applied to the run … -/
example : HashesNodup (run w0 ops2) := L3_one_per_template w0 ops2 w0_inv.1
example : AllHashed (run w0 ops2) ∧ AnnotGen (run w0 ops2) :=
  ⟨L3_all_hashed w0 ops2 w0_inv.2.1, L3_annot_gen w0 ops2 w0_inv.2.2.1⟩
example : NamesNodup (run w0 ops2) := L3_names_nodup w0 ops2 w0_inv.2.2.2.1 ops2_fresh
example : CanaryNodup (run w0 ops2) := L3_canary_nodup w0 ops2 w0_inv.2.2.2.2.1
/-- … with a failing status update and a failing deletion thrown in. -/
example : HashesNodup (runF w0 ((ops2.map (fun op => (({ edsStatus := false, ersDelete := fun _ => false } : Faults), op))))) :=
  L3_one_per_template_faults w0 _ w0_inv.1
example : HashesNodup (run w0 ops2) ∧ NamesNodup (run w0 ops2) :=
  ⟨L3_one_per_template w0 ops2 w0_inv.1, L3_names_nodup w0 ops2 w0_inv.2.2.2.1 ops2_fresh⟩
/-- from an empty store: the first reconcile creates the first replica set. -/
example : ((run { w0 with erss := [] } [.reconcileEds "ds-1" "auto", .reconcileEds "ds-2" "auto"]).erss.map
    (fun e => (e.name, e.templateGeneration))) = [("ds-1", "h1")] := by decide +kernel

/-! (b) in-use replica sets survive; with faults they need not -/

/-- `ds-b` (validated canary of `h2`) is promoted, the drained `ds-a` is collected in the same reconcile. -/
def wPromo : World :=
  { w0 with eds := eds "h2" [⟨K.canaryValidAnnot, "ds-b"⟩] (status "ds-a" none),
            erss := [rs "ds-a" "h1" 0 [], rs "ds-b" "h2" 3 []] }

example : HashesNodup wPromo ∧ AnnotGen wPromo := by decide +kernel
theorem wPromo_step : (edsWrites wPromo "auto").deletedErs = ["ds-a"] ∧
    (step wPromo (.reconcileEds "x" "auto")).eds.status.activeReplicaSet = "ds-b" ∧
    (step wPromo (.reconcileEds "x" "auto")).erss.map (·.name) = ["ds-b"] := by decide +kernel
example : (edsWrites wPromo "auto").deletedErs = ["ds-a"] ∧
    (step wPromo (.reconcileEds "x" "auto")).eds.status.activeReplicaSet = "ds-b" ∧
    (step wPromo (.reconcileEds "x" "auto")).erss.map (·.name) = ["ds-b"] := wPromo_step
/-- **`L3_active_never_removed` fails under faults**: when the status update fails after the
clean-up succeeded, `status.activeReplicaSet` names a replica set that no longer exists (the next
reconcile adopts the up-to-date one: `C05_adopt_when_missing`). -/
example : (stepF { edsStatus := false } wPromo (.reconcileEds "x" "auto")).eds.status.activeReplicaSet = "ds-a" ∧
    (stepF { edsStatus := false } wPromo (.reconcileEds "x" "auto")).erss.map (·.name) = ["ds-b"] := by decide +kernel

/-- the theorems on the fault-free step of this world. -/
example : ∀ e ∈ wPromo.erss, e.name = "ds-b" → Survives e (step wPromo (.reconcileEds "x" "auto")) :=
  fun e he hn => L3_active_never_removed wPromo _ e he (hn.trans wPromo_step.2.1.symm)
example : ∀ e ∈ wPromo.own, e.name = "ds-b" → Survives e (step wPromo (.reconcileEds "x" "auto")) :=
  fun e he hn => L3_uptodate_never_removed wPromo _ (by decide +kernel) (by decide +kernel) e he (by
    have : ∀ e ∈ wPromo.own, e.name = "ds-b" → SMap.get? e.annotations K.templateHashAnnot =
        some (step wPromo (.reconcileEds "x" "auto")).eds.templateHash := by decide +kernel
    exact this e he hn)

/-- the history form in the run: the step that collects `ds-b` keeps the up-to-date `ds-c` and the
active `ds-a`. -/
example : ∀ e ∈ (run w0 (ops1.take 2)).own, e.name = "ds-c" ∨ e.name = "ds-a" →
    Survives e (step (run w0 (ops1.take 2)) (.reconcileEds "ds-x" "auto")) :=
  fun e he hn => L3_never_deletes_in_use w0 (ops1.take 2) _ w0_inv.1 w0_inv.2.2.1 e he (by
    have : ∀ e ∈ (run w0 (ops1.take 2)).own, e.name = "ds-c" ∨ e.name = "ds-a" →
        e.name = (step (run w0 (ops1.take 2)) (.reconcileEds "ds-x" "auto")).eds.status.activeReplicaSet ∨
        SMap.get? e.annotations K.templateHashAnnot =
          some (step (run w0 (ops1.take 2)) (.reconcileEds "ds-x" "auto")).eds.templateHash := by decide +kernel
    exact this e he hn)
example : (edsWrites (run w0 (ops1.take 2)) "auto").deletedErs = ["ds-b"] := by decide +kernel

/-! (c) canary node list -/
theorem ops2_request :
    ((canaryNodesOf w0.eds.status).length : Int) ≤ 1 ∧ RunOk (fun w _ => requestOf w ≤ 1) w0 ops2 := by
  decide +kernel
example : ((canaryNodesOf w0.eds.status).length : Int) ≤ 1 ∧ RunOk (fun w _ => requestOf w ≤ 1) w0 ops2 :=
  ops2_request
example : ((canaryNodesOf (run w0 ops2).eds.status).length : Int) ≤ 1 :=
  L3_canary_bound 1 w0 ops2 ops2_request.1 ops2_request.2
/-- the bound is attained. -/
example : canaryNodesOf (run w0 ops1).eds.status = ["n1"] ∧ requestOf (run w0 (ops1.take 2)) = 1 := by decide +kernel

/-! (d) promotion -/

/-- the hypotheses of `L3_promotion_history` at the promotion step of the run: well-formed start,
admissible operations, active `ds-a` before, `ds-c` after, both existing own replica sets. -/
example : WF w0 ∧ RunOk OpOk w0 ops1 ∧
    (∃ a ∈ (run w0 ops1).own, a.name = "ds-a" ∧ (run w0 ops1).eds.status.activeReplicaSet = a.name) ∧
    (∃ u ∈ (run w0 ops1).own, u.name = "ds-c" ∧
      (run w0 (ops1 ++ [.reconcileEds "ds-y" "auto"])).eds.status.activeReplicaSet = u.name) := by decide +kernel
/-- its conclusion there: auto mode, 10 minutes elapsed since `ds-c` was created at minute 1. -/
example : ∀ u ∈ (run w0 ops1).own, u.name = "ds-c" →
    promotionAllowed (run w0 ops1).eds.strategy.canary (run w0 ops1).eds.annotations u (run w0 ops1).now = true := by
  decide +kernel
/-- the theorem applied there. -/
example : ∀ a ∈ (run w0 ops1).own, ∀ u ∈ (run w0 ops1).own, a.name = "ds-a" → u.name = "ds-c" →
    promotionAllowed (run w0 ops1).eds.strategy.canary (run w0 ops1).eds.annotations u (run w0 ops1).now = true :=
  fun a ha u hu han hun =>
    L3_promotion_history w0 ops1 "ds-y" "auto" ⟨w0_inv.2.2.2.1, w0_inv.2.2.2.2.2⟩ (RunOk_split ops1 _ w0 ops2_ok).1 a u ha hu
      (by rw [han]; decide +kernel) (by rw [hun]; decide +kernel) (by rw [han, hun]; decide +kernel)
/-- one minute earlier the rule does not hold and the reconcile does not promote. -/
example : (run w0 (ops1.take 4 ++ [.tick (9 * 60 * 1000000000), .reconcileEds "ds-y" "auto"])).eds.status.activeReplicaSet
    = "ds-a" := by decide +kernel
/-- the schema hypothesis is needed: with a validation mode outside the enum the code promotes by
elapsed time although the rule (which asks for "auto") does not allow it. -/
def strategyBadMode : Strategy :=
  { strategy with canary := strategy.canary.map (fun c => { c with validationMode := "foo" }) }
def opsBad : List Op :=
  [ .userSpec "h3" tpl strategyBadMode [], .reconcileEds "ds-c" "auto", .reconcileEds "ds-x" "auto",
    .tick (11 * 60 * 1000000000) ]
example : ¬ RunOk OpOk w0 opsBad := by decide +kernel
example : (run w0 opsBad).eds.status.activeReplicaSet = "ds-a" ∧
    (run w0 (opsBad ++ [.reconcileEds "ds-y" "auto"])).eds.status.activeReplicaSet = "ds-c" ∧
    ∀ u ∈ (run w0 opsBad).own, u.name = "ds-c" →
      promotionAllowed (run w0 opsBad).eds.strategy.canary (run w0 opsBad).eds.annotations u (run w0 opsBad).now
        = false := by decide +kernel

/-! (e) foreign pods -/

def stray : Pod := { exPod04 "stray" "n1" "ds-c" "h3" false false with ns := "ns" }
/-- the world after the canary started, with a pod of the namespace that is not the daemonset's. -/
def wStray : World := { run w0 (ops1.take 3) with pods := [stray] }
example : PodKeysUnique wStray := by decide +kernel
theorem stray_foreign : ¬ ownedByEds wStray.eds stray := by
  rintro ⟨_, h | ⟨ds, h, _⟩⟩
  · exact absurd h (by decide +kernel)
  · have ha : SMap.get? wStray.eds.annotations K.oldDaemonsetAnnot = none := by decide +kernel
    rw [ha] at h; cases h
example : ¬ ownedByEds wStray.eds stray := stray_foreign
/-- the canary replica set does not count it (it creates its pod on `n1`) and leaves it alone. -/
example : (step wStray (.reconcileErs "ds-c" (fun _ => true) true)).pods.map (·.name) = ["stray", "ds-c-"] ∧
    stray ∈ (step wStray (.reconcileErs "ds-c" (fun _ => true) true)).pods := by decide +kernel

example : stray ∈ (step wStray (.reconcileErs "ds-c" (fun _ => true) true)).pods := by
  have h := L3_foreign_pod_stays {} wStray (.reconcileErs "ds-c" (fun _ => true) true) (by decide +kernel)
    (fun _ h => by cases h) stray (by decide +kernel) stray_foreign
  rw [stepF_ok] at h; exact h

/-- hypotheses of `L3_created_pods_owned`: an own replica set whose reconcile creates a pod. -/
example : ∃ rs ∈ (run w0 (ops1.take 3)).own, rs.name = "ds-c" ∧
    (maskErs {} (ersWrites (run w0 (ops1.take 3)) rs (fun _ => true) true)).creates.length = 1 := by decide +kernel

/-! (f) roles -/
example : ∀ e1 ∈ (run w0 ops1).own, ∀ e2 ∈ (run w0 ops1).own,
    ersRole (run w0 ops1).eds e1.name = "canary" → ersRole (run w0 ops1).eds e2.name = "canary" → e1 = e2 :=
  fun e1 h1 e2 h2 hr1 hr2 =>
    L3_role_unique_history w0 ops1 w0_inv.2.2.2.1 (RunOk_split ops1 _ w0 ops2_fresh).1 e1 e2 h1 h2 "canary" (Or.inr rfl)
      hr1 hr2

example : ersRole (run w0 ops1).eds "ds-a" = "active" ∧ ersRole (run w0 ops1).eds "ds-c" = "canary" ∧
    ersRole (run w0 ops2).eds "ds-c" = "active" := by decide +kernel

/-- `L3_roles_distinct_after_write_partial` cannot be made unconditional: the user drops the canary
strategy while the canary of `h3` runs; the next reconcile makes `ds-c` active and leaves the old
`status.canary` block in place, naming the same replica set (and its node stays in the ignore list of
the now active replica set). -/
def exStaleCanary : World :=
  run w0 (ops1.take 3 ++ [.userSpec "h3" tpl { strategy with canary := none } [], .reconcileEds "ds-y" "auto"])
example : exStaleCanary.eds.status.activeReplicaSet = "ds-c" ∧
    exStaleCanary.eds.status.canary = some ⟨"ds-c", ["n1"]⟩ ∧ exStaleCanary.eds.strategy.canary = none := by decide +kernel
/-- hypotheses of the `_partial` theorem in the run: a canary strategy in spec and a status written. -/
example : (run w0 (ops1.take 2)).eds.strategy.canary.isSome = true ∧
    ((edsWrites (run w0 (ops1.take 2)) "auto").statusUpdate.bind (·.canary)) = some ⟨"ds-c", ["n1"]⟩ := by decide +kernel

/-! (g) one live pod per node -/
example : C01Inv w0 := by decide +kernel
theorem ops2_env : RunOk OpEnvC01 w0 ops2 := by
  unfold ops2 ops1; simp [RunOk, OpEnvC01]
example : RunOk OpEnvC01 w0 ops2 := ops2_env
example : OnePerNode_l3 (run w0 ops2) := L3_one_per_node w0 ops2 (by decide +kernel) ops2_env
/-- two pods were created along the run, on different nodes. -/
example : (run w0 ops2).pods.map (·.nodeOf) = [some "n1", some "n2"] := by decide +kernel

end Eds.ExL3
