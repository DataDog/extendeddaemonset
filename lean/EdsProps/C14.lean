import EdsSpec.C14
import EdsProofs.ReconcileEds
import EdsProofs.Rolling
/-
  C14 — Status tells the truth.

  * `C14_status_function`    the ExtendedDaemonSet status `updateInstance` computes satisfies the
                             declarative description of `EdsSpec.C14` (counters, state/reason/canary
                             block, conditions) in every branch;
  * `C14_eds_writes_status`  the status the reconcile writes is that status;
  * `C14_ers_order`          replica-set side: `0 ≤ available ≤ ready ≤ current ≤ desired` for the
                             active role (`manageDeployment`) and the canary role
                             (`manageCanaryStatus`); `C14_unknown_zero_desired` for the unknown role;
  * `C14_conditions_update`  `updateCond` keeps one entry per type, and the transition time of an
                             entry changes exactly when its status does.
-/
namespace Eds
open Spec.C14

/-! ### The daemonset status as a function of the replica-set statuses -/

theorem countersOk_sameUpToNodes (own : List ERS) (a u : ERS) (ca : Bool) (s t : EDSStatus)
    (h : SameUpToNodes s t) : countersOk own a u ca t = countersOk own a u ca s := by
  rcases h with h | ⟨sel, h⟩ <;> rw [h] <;> rfl

theorem condsOk_sameUpToNodes (hcs f p : Bool) (s t : EDSStatus)
    (h : SameUpToNodes s t) : condsOk hcs f p t = condsOk hcs f p s := by
  rcases h with h | ⟨sel, h⟩ <;> rw [h] <;> rfl

theorem stateOk_sameUpToNodes (hcs ca f p : Bool) (r : String) (ann : SMap) (u : ERS) (s t : EDSStatus)
    (h : SameUpToNodes s t) : stateOk hcs ca f p r ann u t = stateOk hcs ca f p r ann u s := by
  rcases h with h | ⟨sel, h⟩
  · rw [h]
  · rw [h]
    unfold stateOk
    cases hc : s.canary <;> simp

/-- **The status is the documented function of the replica-set statuses.** With `own` the
daemonset's replica sets, `current` / `u` the selected active / up-to-date ones, and the three sums
the reconcile computes, the status `updateInstance` returns has the documented counters, state,
reason, canary block and conditions — in every branch (no canary strategy; failed; canary running,
paused or not, whatever the node selection did; no canary running). -/
theorem C14_status_function (d : EDS) (own : List ERS) (current u : ERS) (now : Time)
    (pods : List Pod) (nodes : List Node) :
    let failed := isCanaryFailed (some u)
    let pr := isCanaryPaused d.annotations (some u)
    let canaryActive := isCanaryActive d.strategy.canary current.name u.name failed
    let upd := updateInstance d current u (sumBy (·.status.current) own) (sumBy (·.status.ready) own)
      (sumBy (·.status.available) own) now pods nodes
    countersOk own current u canaryActive upd.status = true ∧
    stateOk d.strategy.canary.isSome canaryActive failed pr.1 pr.2 d.annotations u upd.status = true ∧
    condsOk d.strategy.canary.isSome failed pr.1 upd.status = true := by
  simp only []
  cases hc : d.strategy.canary with
  | none =>
    rw [updateInstance_no_canary d current u _ _ _ now pods nodes hc]
    simp [countersOk, stateOk, condsOk, baseStatus, isCanaryActive]
  | some c =>
    have hshape := updateInstance_status_shape d current u (sumBy (·.status.current) own)
      (sumBy (·.status.ready) own) (sumBy (·.status.available) own) now pods nodes c hc
    rw [countersOk_sameUpToNodes _ _ _ _ _ _ hshape, stateOk_sameUpToNodes _ _ _ _ _ _ _ _ _ hshape,
      condsOk_sameUpToNodes _ _ _ _ _ hshape]
    have hconds : condsOk (some c).isSome (isCanaryFailed (some u)) (isCanaryPaused d.annotations (some u)).1
        (managedStatus d current u (sumBy (·.status.current) own) (sumBy (·.status.ready) own)
          (sumBy (·.status.available) own) now) = true := by
      unfold condsOk
      rw [managedStatus_conds, mcsc_failed, mcsc_paused]
      simp
    refine and_assoc.mp ⟨?_, hconds⟩
    unfold managedStatus
    simp only [hc]
    -- the three branches of `manageStatus`: failed, canary active, neither; in each, the counters and the
    -- state block are read off `baseStatus`
    cases hf : isCanaryFailed (some u) with
    | true =>
      have ha : isCanaryActive (some c) current.name u.name true = false := by simp [isCanaryActive]
      rw [ha, manageStatus_failed]
      simp [countersOk, stateOk, baseStatus]
    | false =>
      cases ha : isCanaryActive (some c) current.name u.name false with
      | true =>
        rw [manageStatus_active]
        cases hp : (isCanaryPaused d.annotations (some u)).1 <;> simp [countersOk, stateOk, baseStatus]
      | false =>
        rw [manageStatus_inactive]
        simp [countersOk, stateOk, baseStatus]

/-- **The status the reconcile writes is the computed one.** -/
theorem C14_eds_writes_status (d : EDS) (list : List ERS) (u : ERS) (pods : List Pod) (nodes : List Node)
    (now : Time) (st : EDSStatus) (h : (edsMain d list u pods nodes now).statusUpdate = some st) :
    st = (updateInstance d (currentOf d list u now).1 u
        (sumBy (·.status.current) list) (sumBy (·.status.ready) list) (sumBy (·.status.available) list)
        now (ownPods d pods) nodes).status :=
  edsMain_statusUpdate d list u pods nodes now st h

/-- the two together, through `edsMain`: a written status satisfies the specification w.r.t. the listed replica
sets and the selection of this reconcile. -/
theorem C14_written_status_ok (d : EDS) (list : List ERS) (u : ERS) (pods : List Pod) (nodes : List Node)
    (now : Time) (st : EDSStatus) (h : (edsMain d list u pods nodes now).statusUpdate = some st) :
    let current := (currentOf d list u now).1
    let failed := isCanaryFailed (some u)
    let pr := isCanaryPaused d.annotations (some u)
    let canaryActive := isCanaryActive d.strategy.canary current.name u.name failed
    countersOk list current u canaryActive st = true ∧
    stateOk d.strategy.canary.isSome canaryActive failed pr.1 pr.2 d.annotations u st = true ∧
    condsOk d.strategy.canary.isSome failed pr.1 st = true := by
  intro current failed pr canaryActive
  rw [C14_eds_writes_status d list u pods nodes now st h]
  exact C14_status_function d list current u now (ownPods d pods) nodes

/-- a no-op reconcile (no status write) is one whose computed status is already stored. -/
theorem C14_no_write_means_current (d : EDS) (list : List ERS) (u : ERS) (pods : List Pod) (nodes : List Node)
    (now : Time) (hne : (edsMain d list u pods nodes now).err = false)
    (h : (edsMain d list u pods nodes now).statusUpdate = none) :
    (edsUpd d list (currentOf d list u now).1 u pods nodes now).status = d.status := by
  rw [edsMain_err_iff] at hne
  unfold edsMain at h
  unfold edsUpd at hne ⊢
  simp only [] at h
  generalize updateInstance _ _ _ _ _ _ _ _ _ = upd at h hne ⊢
  simp only [hne] at h
  simp at h
  -- no write: status, restore target and annotations all agree with what is stored
  obtain ⟨⟨hstatus, _⟩, _⟩ := h
  exact hstatus

/-! ### Replica-set side: the counters are ordered -/

/-- the order invariant of the `ManageDeployment` counting loop. -/
def OrderInv (c : Counts) : Prop :=
  0 ≤ c.available ∧ c.available ≤ c.ready ∧ c.ready ≤ c.created ∧ c.created ≤ c.desired ∧ 0 ≤ c.stuck

theorem classify_upToDate {tg : String} {wall : Time} {ni : NodeItem} {pod : Pod} {a r : Bool}
    (h : classify tg wall (ni, some pod) = .upToDate a r) : a = pod.available ∧ r = pod.ready := by
  simp only [classify] at h
  split at h
  · simp at h
  · split at h
    · split at h <;> simp at h
    · simp only [Cat.upToDate.injEq] at h
      exact ⟨h.1.symm, h.2.symm⟩

theorem orderInv_step (tg : String) (wall : Time) (c : Counts) (e : NodeItem × Option Pod)
    (h : OrderInv c) : OrderInv (countStep tg wall c e) := by
  obtain ⟨ni, op⟩ := e
  unfold OrderInv at h ⊢
  cases op with
  | none => simp only [countStep]; omega
  | some pod =>
    cases hc : classify tg wall (ni, some pod) with
    | noPod => simp only [countStep, hc]; omega
    | stuck => simp only [countStep, hc]; omega
    | outdatedTerminating => simp only [countStep, hc]; omega
    | outdated a => cases a <;> simp only [countStep, hc] <;> omega
    | upToDate a r =>
      -- available and ready are the same reading of the pod (`minReadySeconds = 0`)
      obtain ⟨rfl, rfl⟩ := classify_upToDate hc
      simp only [countStep, hc, Pod.available]
      split <;> omega

theorem countAll_orderInv (tg : String) (wall : Time) (es : List (NodeItem × Option Pod)) :
    OrderInv (countAll tg wall es) :=
  List.foldlRecOn es _ (by simp [OrderInv]) (fun c hc e _ => orderInv_step tg wall c e hc)

/-- the status `manageDeployment` reports carries the counters of the counting loop. -/
theorem manageDeployment_status (p : StratParams) (now wall : Time) (cf : Bool) (r : StratResult)
    (st : ERSStatus) (h : manageDeployment p now wall cf = .ok r) (hst : r.newStatus = some st) :
    let c := countAll p.ers.templateGeneration wall (targeted p)
    st.desired = c.desired ∧ st.ready = c.ready ∧ st.current = c.created ∧
    st.available = c.available ∧ st.ignored = c.stuck ∧ st.status = "active" := by
  obtain ⟨_, _, _, _, _, _, _, _, _, hst', _⟩ := manageDeployment_inv p now wall cf r h
  cases hst.symm.trans hst'
  exact ⟨rfl, rfl, rfl, rfl, rfl, rfl⟩

/-- **Active role**: `0 ≤ available ≤ ready ≤ current ≤ desired` (and `0 ≤ ignored`). -/
theorem C14_ers_order (p : StratParams) (now wall : Time) (cf : Bool) (r : StratResult) (st : ERSStatus)
    (h : manageDeployment p now wall cf = .ok r) (hst : r.newStatus = some st) :
    0 ≤ st.available ∧ st.available ≤ st.ready ∧ st.ready ≤ st.current ∧ st.current ≤ st.desired ∧
    0 ≤ st.ignored := by
  obtain ⟨h1, h2, h3, h4, h5, _⟩ := manageDeployment_status p now wall cf r st h hst
  rw [h1, h2, h3, h4, h5]
  exact countAll_orderInv p.ers.templateGeneration wall (targeted p)

/-- a successful active sync always reports a status. -/
theorem C14_ers_reports (p : StratParams) (now wall : Time) (cf : Bool) (r : StratResult)
    (h : manageDeployment p now wall cf = .ok r) : ∃ st, r.newStatus = some st := by
  obtain ⟨_, _, _, _, _, _, _, _, _, hst, _⟩ := manageDeployment_inv p now wall cf r h
  exact ⟨_, hst⟩

/-- the order invariant of the canary node scan. -/
def CanaryOrderInv (c : CanaryScan) : Prop :=
  0 ≤ c.available ∧ c.available ≤ c.ready ∧ c.ready ≤ c.current ∧ c.current ≤ c.desired

/-- one step of the scan keeps the order and counts the node as desired. -/
theorem canaryScanStep_spec (tg : String) (byNode : List (NodeItem × Option Pod)) (c : CanaryScan) (nm : String) :
    (CanaryOrderInv c → CanaryOrderInv (canaryScanStep tg byNode c nm)) ∧
    (canaryScanStep tg byNode c nm).desired = c.desired + 1 := by
  unfold canaryScanStep CanaryOrderInv
  simp only [Pod.available]
  split
  · exact ⟨fun h => by dsimp only; omega, rfl⟩
  · exact ⟨fun h => by dsimp only; omega, rfl⟩
  · next ni pod _ =>
    split
    · exact ⟨fun h => by dsimp only; omega, rfl⟩
    · split
      · exact ⟨fun h => by dsimp only; omega, rfl⟩
      · exact ⟨fun h => by by_cases hr : pod.ready = true <;> simp [hr] <;> omega, rfl⟩

theorem scan_desired (tg : String) (byNode : List (NodeItem × Option Pod)) (ns : List String) (c : CanaryScan) :
    (ns.foldl (canaryScanStep tg byNode) c).desired = c.desired + ns.length := by
  induction ns generalizing c with
  | nil => simp
  | cons n ns ih =>
    rw [List.foldl_cons, ih, (canaryScanStep_spec tg byNode c n).2, List.length_cons]
    omega

/-- the status `manageCanaryStatus` reports carries the counters of the node scan. -/
theorem manageCanaryStatus_counters (p : StratParams) (now : Time) (r : StratResult) (st : ERSStatus)
    (h : manageCanaryStatus p now = some r) (hst : r.newStatus = some st) :
    let c := p.canaryNodes.foldl (canaryScanStep p.ers.templateGeneration p.byNode) {}
    st.desired = c.desired ∧ st.ready = c.ready ∧ st.current = c.current ∧ st.available = c.available := by
  unfold manageCanaryStatus at h
  simp only [] at h
  split at h
  · simp at h
  · simp only [Option.some.injEq] at h
    rw [← h] at hst
    simp only [Option.some.injEq] at hst
    rw [← hst]
    exact ⟨rfl, rfl, rfl, rfl⟩

/-- **Canary role**: the same order, and `desired` is the number of canary nodes. -/
theorem C14_ers_order_canary (p : StratParams) (now : Time) (r : StratResult) (st : ERSStatus)
    (h : manageCanaryStatus p now = some r) (hst : r.newStatus = some st) :
    0 ≤ st.available ∧ st.available ≤ st.ready ∧ st.ready ≤ st.current ∧ st.current ≤ st.desired := by
  obtain ⟨h1, h2, h3, h4⟩ := manageCanaryStatus_counters p now r st h hst
  rw [h1, h2, h3, h4]
  exact List.foldlRecOn p.canaryNodes _ (by simp [CanaryOrderInv])
    (fun c hc n _ => (canaryScanStep_spec p.ers.templateGeneration p.byNode c n).1 hc)

/-- the canary role's `desired` is the number of nodes the daemonset status lists for the canary. -/
theorem C14_canary_desired (p : StratParams) (now : Time) (r : StratResult) (st : ERSStatus)
    (h : manageCanaryStatus p now = some r) (hst : r.newStatus = some st) :
    st.desired = p.canaryNodes.length := by
  rw [(manageCanaryStatus_counters p now r st h hst).1, scan_desired]
  simp

/-- **Unknown role**: a replica set that is neither active nor canary desires nothing. -/
theorem C14_unknown_zero_desired (p : StratParams) (wall : Time) (st : ERSStatus)
    (h : (manageUnknown p wall).newStatus = some st) : st.desired = 0 ∧ st.status = "unknown" := by
  unfold manageUnknown at h
  simp only [Option.some.injEq] at h
  rw [← h]
  exact ⟨rfl, rfl⟩

/-! ### Condition lists -/

/-- the list of condition types only grows, by the type being written. -/
theorem C14_conditions_types (cs : List Cond) (now : Time) (t s r dsc : String) (w u : Bool) :
    (updateCond cs now t s r dsc w u).map (·.type) = cs.map (·.type) ∨
    (findCond cs t = none ∧ (updateCond cs now t s r dsc w u).map (·.type) = cs.map (·.type) ++ [t]) := by
  unfold updateCond
  cases hfc : findCond cs t with
  | some c0 =>
    simp only []
    exact Or.inl (updateFirst_map_type cs t _ (updateCond_fn_type now s r dsc u))
  | none =>
    simp only []
    split
    · right; simp
    · left; rfl

/-- **One entry per type**: `updateCond` never duplicates a condition type. -/
theorem C14_conditions_update (cs : List Cond) (now : Time) (t s r dsc : String) (w u : Bool)
    (h : (cs.map (·.type)).Nodup) : ((updateCond cs now t s r dsc w u).map (·.type)).Nodup := by
  rcases C14_conditions_types cs now t s r dsc w u with h' | ⟨hfc, h'⟩
  · rw [h']; exact h
  · rw [h']; exact nodup_concat.mpr ⟨findCond_none_not_mem cs t hfc, h⟩

/-- **Transition time.** For an existing entry of type `t`: the new entry has the requested
status; its transition time is kept when the status is unchanged and set to `now` when the status
changes. -/
theorem C14_transition_time (cs : List Cond) (now : Time) (t s r dsc : String) (w u : Bool) (c0 : Cond)
    (h : findCond cs t = some c0) :
    ∃ c1, findCond (updateCond cs now t s r dsc w u) t = some c1 ∧ c1.status = s ∧ c1.type = c0.type ∧
      (c0.status = s → c1.lastTransition = c0.lastTransition) ∧
      (c0.status ≠ s → c1.lastTransition = now) := by
  rw [findCond_updateCond_same, h]
  refine ⟨_, rfl, updateCond_fn_status now s r dsc u c0, updateCond_fn_type now s r dsc u c0, ?_, ?_⟩
  · intro hs
    have : (c0.status != s) = false := by simp [hs]
    simp only [this]
    split <;> split <;> rfl
  · intro hs
    have : (c0.status != s) = true := by simp [hs]
    simp only [this]
    split <;> split <;> rfl

/-- a new entry (type not present yet, status `True`) is stamped `now`. -/
theorem C14_transition_time_new (cs : List Cond) (now : Time) (t r dsc : String) (w u : Bool)
    (h : findCond cs t = none) :
    ∃ c1, findCond (updateCond cs now t "True" r dsc w u) t = some c1 ∧ c1.status = "True" ∧
      c1.lastTransition = now := by
  rw [findCond_updateCond_same, h]
  simp only [beq_self_eq_true, Bool.true_or, if_true]
  exact ⟨_, rfl, rfl, rfl⟩

end Eds

/-! ### Examples (non-vacuity; fixtures in `EdsProofs/ReconcileEds.lean`) -/
namespace Eds.ExReconcile

/- the rollback status satisfies the specification predicates -/
example : Spec.C14.countersOk (store 1) (rs "ds-a" "h1" 3 []) (rs "ds-b" "h2" 1 [failedCond]) false rolledBack = true := by decide +kernel
example : Spec.C14.stateOk true false true false "" [] (rs "ds-b" "h2" 1 [failedCond]) rolledBack = true := by decide +kernel
example : Spec.C14.condsOk true true false rolledBack = true := by decide +kernel
/- … and a wrong one does not (the predicates are not vacuous) -/
example : Spec.C14.countersOk (store 1) (rs "ds-a" "h1" 3 []) (rs "ds-b" "h2" 1 [failedCond]) false
    { rolledBack with current := 3 } = false := by decide +kernel
example : Spec.C14.stateOk true false true false "" [] (rs "ds-b" "h2" 1 [failedCond])
    { rolledBack with canary := some ⟨"ds-b", []⟩ } = false := by decide +kernel
/- a running canary: desired adds the canary's, the canary block names it -/
example : ((reconcileEds (eds "h2" [] (status "ds-a" (some ⟨"ds-b", ["n1"]⟩)))
      [rs "ds-a" "h1" 3 [], rs "ds-b" "h2" 1 []] [] [] minute "auto").statusUpdate.map
      (fun s => (s.desired, s.current, s.upToDate, s.state, s.canary))) =
    some (4, 4, 1, "Canary", some ⟨"ds-b", ["n1"]⟩) := by decide +kernel

end Eds.ExReconcile
