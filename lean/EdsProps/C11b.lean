import EdsProps.C14b
import EdsProps.C01b
import EdsProofs.ErsRun
import EdsProofs.C02cFilter
/-
  C11 / C02 — UNIQUENESS of the fixpoint failure-free reconciliation converges to.

  Property text (C11): "Subsequent failure-free reconciliation then converges to the same final pods
  and status as the run without the failure."  Convergence is C02's statement (`C02_converges_coop`,
  scenario streams).  This file proves that the state converged to does not depend on the path: any
  two quiescent stores over the same nodes, the same EDS strategy and the same active replica set carry
  the same pods up to names / creation times / list order, and `reconcileErs` reports the same status
  counters on both and writes no pod on either.

  `QuiescentAt d rs st items` (store level, for the ACTIVE replica set `rs` of EDS `d`, no canary):
    * `rs` is owned by the stored, defaulted EDS `d`, is its active replica set, `d.status.canary = none`;
    * the node listing of the sync succeeds with `items`, node names distinct;
    * every listed node that is fit for `rs.template` has EXACTLY ONE pod of the EDS (`ersPods d st`: the
      pods carrying the EDS name label in the namespace, plus the pods of the DaemonSet being migrated);
    * every pod of the EDS is scheduled on such a node, live (not terminating, phase Running), Ready, carries
      no canary label and is up to date for its node in the controller's own sense
      (`comparePod rs.templateGeneration`: template-hash annotation = `rs.templateGeneration`, setting
      overrides and node resource hash as expected) — hence there is NO OTHER pod of the EDS.
  `Quiescent d rs st := ∃ items, QuiescentAt d rs st items`.

  `Spec.C02.fixpoint` (EdsSpec/C02.lean) is the same situation seen by the scenario harness: it is stated
  over the harness's `PodView` (node, hash, ready, phase, terminating, ns, eds) and over `d.template` /
  `d.templateHash`, while `reconcileErs` reads full pods, `rs.template`, `rs.templateGeneration`, settings
  and node hashes; it is therefore not reused as the definition, but `C11_quiescent_spec_fixpoint` shows
  that a quiescent store satisfies it (under `rs.template = d.template`,
  `rs.templateGeneration = d.templateHash`, listing unfiltered, no DaemonSet migration).

    1  `C11_quiescent_no_write`      — at a quiescent store a sync issues no pod write (any back-off state,
                                       affinity mode, clock) — store-level form of `C02_fixpoint` /
                                       `C14_quiescent_counts`;
    2  `C11_quiescent_counters`      — the (desired, current, ready, available, ignored) the next sync reads are
                                       `quiescentCounters d.strategy rs N now`, a function of the strategy, the
                                       replica set, the clock and the NUMBER `N` of listed fit nodes only
                                       (all `N` when the sync runs; the stored ones when it is gated or
                                       `ManageDeployment` returns early);
    3  `C11_quiescent_assignment`    — the multiset of (node, template hash) pairs of the EDS's pods is
                                       {(n, rs.templateGeneration) | n listed fit node};
    4  `C11_fixpoint_unique`         — two quiescent stores with the same stored nodes, the same strategy and
                                       the same replica set: equal assignment multisets, equal counters, no pod
                                       write on either.  Nothing is assumed about pod names, creation times,
                                       pod-list order, settings, or the rest of the two stores.
    5  `C11_quiescent_perm`          — quiescence itself does not depend on the order of the pod list;
    6  `C11_quiescent_spec_fixpoint` — a quiescent store satisfies `Spec.C02.fixpoint` on the harness's pod views.

-/
namespace Eds
open Spec.C03

structure QuiescentAt (d : EDS) (rs : ERS) (st : ErsStore) (items : List NodeItem) : Prop where
  owner : ersOwner rs st = some d
  defaulted : isDefaulted d.strategy d.templateName = true
  active : ersRole d rs.name = "active"
  noCanary : d.status.canary = none
  listed : ersNodeItems d rs st = some items
  nodeNames : (items.map (·.node.name)).Nodup
  onePod : ∀ ni ∈ items, fit rs.template ni.node = true →
    ((ersPods d st).filter (fun p => p.nodeName == ni.node.name)).length = 1
  podOk : ∀ p ∈ ersPods d st,
    p.nodeName ≠ "" ∧ p.deletion = none ∧ p.phase = "Running" ∧ p.ready = true ∧
    SMap.get? p.labels K.canaryLabel ≠ some "true" ∧
    ∃ ni ∈ items, ni.node.name = p.nodeName ∧ fit rs.template ni.node = true ∧
      comparePod rs.templateGeneration p ni = true

def Quiescent (d : EDS) (rs : ERS) (st : ErsStore) : Prop := ∃ items, QuiescentAt d rs st items

/-- the listed nodes fit for the replica set's template. -/
def fitItemsQ (rs : ERS) (items : List NodeItem) : List NodeItem := items.filter (fun ni => fit rs.template ni.node)

/-- (node, template-hash annotation) of every pod of the EDS. -/
def hashAssignment (d : EDS) (st : ErsStore) : List (String × Option String) :=
  (ersPods d st).map (fun p => (p.nodeName, SMap.get? p.annotations K.templateHashAnnot))

/-- the counters of a replica-set status. -/
def counters (s : ERSStatus) : Int × Int × Int × Int × Int := (s.desired, s.current, s.ready, s.available, s.ignored)

section Q
variable {d : EDS} {rs : ERS} {st : ErsStore} {items : List NodeItem} (Q : QuiescentAt d rs st items)
include Q

theorem QuiescentAt.nodeOf {p : Pod} (hp : p ∈ ersPods d st) : p.nodeOf = some p.nodeName := by
  have h := (Q.podOk p hp).1
  unfold Pod.nodeOf
  have : (p.nodeName != "") = true := by simpa using h
  rw [if_pos this]

omit Q in
theorem candidates_nil_eq : candidates rs.template items [] = fitItemsQ rs items := by
  unfold candidates fitItemsQ
  apply List.filter_congr
  intro ni _
  simp

theorem QuiescentAt.pod_on_candidate {p : Pod} (hp : p ∈ ersPods d st) :
    ∃ ni ∈ candidates rs.template items [], ni.node.name = p.nodeName ∧
      comparePod rs.templateGeneration p ni = true := by
  obtain ⟨_, _, _, _, _, ni, hni, hn, hf, hc⟩ := Q.podOk p hp
  refine ⟨ni, ?_, hn, hc⟩
  rw [candidates_nil_eq]
  exact List.mem_filter.mpr ⟨hni, hf⟩

theorem QuiescentAt.hash {p : Pod} (hp : p ∈ ersPods d st) :
    SMap.get? p.annotations K.templateHashAnnot = some rs.templateGeneration := by
  obtain ⟨ni, _, _, hc⟩ := Q.pod_on_candidate hp
  unfold comparePod compareSpecTemplateHash at hc
  simp only [Bool.and_eq_true, beq_iff_eq] at hc
  exact hc.1.1

theorem QuiescentAt.candidate_has_pod {ni : NodeItem} (hni : ni ∈ candidates rs.template items []) :
    ∃ p ∈ ersPods d st, p.nodeName = ni.node.name := by
  rw [candidates_nil_eq] at hni
  obtain ⟨h1, h2⟩ := List.mem_filter.mp hni
  have hl := Q.onePod ni h1 h2
  cases hf : (ersPods d st).filter (fun p => p.nodeName == ni.node.name) with
  | nil => rw [hf] at hl; cases hl
  | cons p tl =>
    have : p ∈ (ersPods d st).filter (fun p => p.nodeName == ni.node.name) := by rw [hf]; exact List.mem_cons_self
    obtain ⟨hp, hn⟩ := List.mem_filter.mp this
    exact ⟨p, hp, by simpa using hn⟩

theorem QuiescentAt.onePerNode : OnePerNode (ersPods d st) := by
  intro n
  by_cases h : ∃ p ∈ ersPods d st, p.nodeName = n
  · obtain ⟨p, hp, rfl⟩ := h
    obtain ⟨-, -, -, -, -, ni, hni, hn, hf, -⟩ := Q.podOk p hp
    rw [← hn]
    exact Nat.le_of_eq (Q.onePod ni hni hf)
  · rw [List.filter_eq_nil_iff.mpr (fun p hp hpn => h ⟨p, hp, by simpa using hpn⟩)]
    exact Nat.zero_le 1

/-- the pod list is settled: the per-node map is "candidate ↦ its pod" and nothing is handed to the
clean-up. -/
theorem QuiescentAt.filter (released : String → Bool) :
    (filterAndMap released rs.template items (ersPods d st) []).byNode =
      (candidates rs.template items []).map (fun ni => (ni, podOn (ersPods d st) ni.node.name)) ∧
    (filterAndMap released rs.template items (ersPods d st) []).toDelete = [] :=
  filterAndMap_settled released rs.template items (ersPods d st) (fun p hp => by
    obtain ⟨ni, hni, hn, -⟩ := Q.pod_on_candidate hp
    exact ⟨(Q.podOk p hp).1, (Q.podOk p hp).2.2.1, List.mem_map.mpr ⟨ni, hni, hn⟩⟩) Q.onePerNode

/-- **the per-node map**: every candidate node carries a kept pod of the EDS bound to it. -/
theorem QuiescentAt.byNode_some (released : String → Bool) :
    ∀ e ∈ (filterAndMap released rs.template items (ersPods d st) []).byNode,
      ∃ k, e.2 = some k ∧ k ∈ ersPods d st ∧ k.nodeName = e.1.node.name := by
  intro e he
  rw [(Q.filter released).1] at he
  obtain ⟨ni, hni, rfl⟩ := List.mem_map.mp he
  obtain ⟨p, hp, hn⟩ := Q.candidate_has_pod hni
  exact ⟨p, podOn_eq_some Q.onePerNode hp hn, hp, hn⟩

/-- **every entry is up to date, available and ready**, at any wall-clock. -/
theorem QuiescentAt.classify_current (released : String → Bool) (wall : Time) :
    ∀ e ∈ (filterAndMap released rs.template items (ersPods d st) []).byNode,
      classify rs.templateGeneration wall e = .upToDate true true := by
  intro e he
  obtain ⟨k, hk, hmem, hname⟩ := Q.byNode_some released e he
  obtain ⟨ni, o⟩ := e
  simp only at hk hname
  subst hk
  obtain ⟨hsched, hdel, _, hready, _, ni', hni', hn', _, hcmp⟩ := Q.podOk k hmem
  have hni : ni ∈ items := by
    have := (mem_filter_byNode he).1
    exact (List.mem_filter.mp this).1
  have heq : ni' = ni := eq_of_nodup_map _ Q.nodeNames hni' hni (by rw [hn', hname])
  subst heq
  rw [classify_settled _ wall ni' k hsched hdel hready, hcmp]
  rfl

omit Q in
theorem filter_byNode_length (released : String → Bool) :
    (filterAndMap released rs.template items (ersPods d st) []).byNode.length = (fitItemsQ rs items).length := by
  rw [filterAndMap_byNode, List.length_map, candidates_nil_eq]

end Q

def Outcome.kind {α} : Outcome α → Outcome Unit
  | .ok _ => .ok ()
  | .err m => .err m
  | .panic => .panic

/-- the three strategy values `ManageDeployment` resolves before it plans. -/
def mdResolve (ru : RollingUpdate) (N : Int) (start now : Time) : Outcome Unit :=
  match resolveIntOrPercent ru.maxPodSchedulerFailure N with
  | none => .err "maxPodSchedulerFailure"
  | some _ =>
    match resolveIntOrPercent ru.maxUnavailable N with
    | none => .err "maxUnavailable"
    | some _ =>
      (calculateMaxCreation ru.slowStartAdditiveIncrease ru.slowStartInterval ru.maxParallelPodCreation
        N start now).kind

theorem manageDeployment_kind (p : StratParams) (now wall : Time) (cf : Bool) :
    (manageDeployment p now wall cf).kind =
      mdResolve p.strategy.rollingUpdate (targeted p).length (rollingUpdateStartTime p.ers.status now) now := by
  unfold manageDeployment mdResolve targeted
  simp only []
  split
  · simp only [*]
    rfl
  · simp only [*]
    split
    · simp only [*]
      rfl
    · simp only [*]
      split <;> simp only [*] <;> rfl

/-- what the next sync reads at a quiescent store with `N` listed fit nodes. -/
def quiescentCounters (strategy : Strategy) (rs : ERS) (N : Int) (now : Time) : Int × Int × Int × Int × Int :=
  if (match findCond rs.status.conds "LastFullSync" with
      | some c => decide (c.lastUpdate + strategy.reconcileFrequency.getD 0 > now)
      | none => false) then counters rs.status
  else
    match mdResolve strategy.rollingUpdate N (rollingUpdateStartTime rs.status now) now with
    | .ok _ => (N, N, N, N, 0)
    | _ => counters rs.status

theorem ersFinish_counters (rs : ERS) (role : String) (freq : Dur) (sp : StratParams) (r : StratResult)
    (adds removes : List String) (se : Bool) (st0 : ERSStatus) (aff : Bool) (now : Time) :
    counters ((ersFinish rs role freq sp r adds removes se st0 aff now).statusUpdate.getD rs.status) = counters st0 := by
  obtain ⟨cs, -, he⟩ := ersFinish_read rs role freq sp r adds removes se st0 aff now
  rw [he]
  rfl

section Sync
variable {d : EDS} {rs : ERS} {st : ErsStore} {items : List NodeItem} (Q : QuiescentAt d rs st items)
  (released : String → Bool) (aff : Bool) (now : Time)
include Q

theorem QuiescentAt.targeted_eq :
    targeted (ersParams released d rs items (ersPods d st) now) =
      (filterAndMap released rs.template items (ersPods d st) []).byNode := by
  unfold targeted
  show dropCanaryNodes (ersFilter released d rs items (ersPods d st)).byNode (ersCanaryNodes d) = _
  unfold ersFilter
  rw [ersCanaryNodes_of_no_canary Q.noCanary, ersIgnore_of_no_canary rs Q.noCanary, dropCanaryNodes_nil]

theorem QuiescentAt.canaryLabelled_nil : canaryLabelled d.name rs st = [] := by
  apply List.eq_nil_iff_forall_not_mem.mpr
  intro p hp
  obtain ⟨hmem, hns, hlab, _, heds⟩ := mem_canaryLabelled.mp hp
  have hdns : d.ns = rs.ns := (ersOwner_some Q.owner).2.1
  have : p ∈ ersPods d st := by
    unfold ersPods
    simp only []
    apply List.mem_append_left
    simp only [List.mem_filter, Bool.and_eq_true, beq_iff_eq]
    exact ⟨hmem, by rw [hns, hdns], heds⟩
  exact (Q.podOk p this).2.2.2.2.1 hlab

/-- the sync, spelled out: it is `ersRun` on the listed nodes unless gated. -/
theorem QuiescentAt.reconcile_eq :
    reconcileErs rs st released aff now =
      if ersGated d rs now then { requeueAfter := ersGateWait d rs now }
      else ersRun d rs (ersPods d st) ((canaryLabelled d.name rs st).map (·.name)) released aff now items := by
  rw [reconcileErs_eq rs st released aff now d Q.owner]
  unfold ersBody
  rw [Q.defaulted, Q.listed]
  rfl

/-- **C11/C02, fixpoint at store level.**  At a quiescent store a sync of the active replica set —
whatever the back-off state, the affinity mode and the clock — issues no pod write: no creation, no
deletion, no clean-up, no label patch. -/
theorem C11_quiescent_no_write : (reconcileErs rs st released aff now).noPodWrite := by
  rcases reconcileErs_cases rs st released aff now d Q.owner with hno | ⟨items', r, adds, removes, se, st0, F⟩
  · exact hno
  · rcases F.active Q.active with ⟨hok, hadds, hrem, -⟩ | ⟨-, -, hno⟩
    case inr => exact hno
    obtain rfl : items = items' := Option.some.inj (Q.listed.symm.trans F.hitems)
    have hall := Q.classify_current released now
    rw [← Q.targeted_eq released now] at hall
    obtain ⟨hc, hd⟩ := C02_fixpoint _ now now false r hok (fun e he => ⟨true, true, hall e he⟩)
    refine ⟨?_, F.labelAdds_eq.trans hadds, ?_, List.eq_nil_iff_forall_not_mem.mpr fun x hx => ?_,
      List.eq_nil_iff_forall_not_mem.mpr fun x hx => ?_⟩
    · rw [F.cleanupDeletes_eq, manageDeployment_cleanup _ _ _ _ _ hok]
      show cleanupTargets (ersFilter released d rs items (ersPods d st)).toDelete = []
      unfold ersFilter
      rw [ersIgnore_of_no_canary rs Q.noCanary, (Q.filter released).2]
      rfl
    · rw [F.labelRemoves_eq, hrem, Q.canaryLabelled_nil]
      simp
    · obtain ⟨y, hy, -⟩ := F.mem_deletes hx
      exact mem_nil_elim hd hy
    · obtain ⟨ni, hni, -⟩ := F.mem_creates hx
      exact mem_nil_elim hc hni

/-- **C11/C02, the status at the fixpoint.**  The counters the next sync reads after a sync at a
quiescent store — the written ones, or the stored ones when nothing is written — are
`quiescentCounters`: a function of the strategy, the replica set's own status, the clock and the number
of listed fit nodes.  No pod name, creation time, list order, setting or node detail enters. -/
theorem C11_quiescent_counters :
    counters ((reconcileErs rs st released aff now).statusUpdate.getD rs.status) =
      quiescentCounters d.strategy rs (fitItemsQ rs items).length now := by
  rw [Q.reconcile_eq released aff now]
  unfold quiescentCounters
  have hg : ersGated d rs now = (match findCond rs.status.conds "LastFullSync" with
      | some c => decide (c.lastUpdate + d.strategy.reconcileFrequency.getD 0 > now)
      | none => false) := rfl
  rw [← hg]
  cases hgv : ersGated d rs now with
  | true => rfl
  | false =>
    simp only [Bool.false_eq_true, if_false]
    have hlen : ((targeted (ersParams released d rs items (ersPods d st) now)).length : Int)
        = ((fitItemsQ rs items).length : Int) := by
      rw [Q.targeted_eq released now, filter_byNode_length released]
    have hkind := manageDeployment_kind (ersParams released d rs items (ersPods d st) now) now now false
    rw [hlen] at hkind
    have hru : (ersParams released d rs items (ersPods d st) now).strategy.rollingUpdate = d.strategy.rollingUpdate := rfl
    have hers : (ersParams released d rs items (ersPods d st) now).ers.status = rs.status := rfl
    rw [hru, hers] at hkind
    unfold ersRun
    rw [Q.active]
    unfold ersStrategy
    simp only [beq_self_eq_true, if_true]
    cases hm : manageDeployment (ersParams released d rs items (ersPods d st) now) now now false with
    | panic =>
      rw [hm] at hkind
      rw [← hkind]
      rfl
    | err m =>
      rw [hm] at hkind
      rw [← hkind]
      simp only [Outcome.kind]
      rw [ersFinish_counters]
      rfl
    | ok r =>
      rw [hm] at hkind
      rw [← hkind]
      simp only [Outcome.kind]
      obtain ⟨st0, hst0⟩ := C14_ers_reports _ now now false r hm
      rw [hst0]
      simp only []
      rw [ersFinish_counters]
      have hall := Q.classify_current released now
      rw [← Q.targeted_eq released now] at hall
      obtain ⟨hcoop, hE, hO⟩ := coop_of_all_current rs.templateGeneration now _ hall
      obtain ⟨h1, h2, h3, h4, h5, _, _⟩ := C14_quiescent_counts _ now now false r st0 hm hst0 hcoop hE hO
      unfold counters
      rw [h1, h2, h3, h4, h5, hlen]

end Sync

/-- the node names of the EDS's pods are the names of the listed fit nodes, each once. -/
theorem QuiescentAt.podNodes_perm {d : EDS} {rs : ERS} {st : ErsStore} {items : List NodeItem}
    (Q : QuiescentAt d rs st items) :
    ((ersPods d st).map (·.nodeName)).Perm ((fitItemsQ rs items).map (·.node.name)) := by
  have hnd : ((fitItemsQ rs items).map (·.node.name)).Nodup :=
    List.Nodup.sublist (List.Sublist.map _ List.filter_sublist) Q.nodeNames
  rw [List.perm_iff_count]
  intro n
  rw [hnd.count, List.count_eq_countP, List.countP_map, List.countP_eq_length_filter]
  split
  · rename_i hmem
    obtain ⟨ni, hni, rfl⟩ := List.mem_map.mp hmem
    obtain ⟨h1, h2⟩ := List.mem_filter.mp hni
    exact Q.onePod ni h1 h2
  · rename_i hmem
    rw [List.length_eq_zero_iff, List.filter_eq_nil_iff]
    intro p hp hpn
    obtain ⟨ni, hni, hname, _⟩ := Q.pod_on_candidate hp
    rw [candidates_nil_eq] at hni
    exact hmem (List.mem_map.mpr ⟨ni, hni, by rw [hname]; simpa using hpn⟩)

/-- **C11/C02, the pods at the fixpoint.**  At a quiescent store the multiset of (node, template hash)
pairs of the EDS's pods is exactly one pair `(n, rs.templateGeneration)` per listed fit node `n`. -/
theorem C11_quiescent_assignment {d : EDS} {rs : ERS} {st : ErsStore} {items : List NodeItem}
    (Q : QuiescentAt d rs st items) :
    (hashAssignment d st).Perm ((fitItemsQ rs items).map (fun ni => (ni.node.name, some rs.templateGeneration))) := by
  have h := Q.podNodes_perm.map (fun n => (n, some rs.templateGeneration))
  rw [List.map_map, List.map_map] at h
  unfold hashAssignment
  rw [List.map_congr_left (fun p hp => by rw [Q.hash hp])]
  exact h

theorem fitItems_map_node (rs : ERS) (items : List NodeItem) :
    (fitItemsQ rs items).map (·.node) = (items.map (·.node)).filter (fit rs.template) := by
  unfold fitItemsQ
  rw [List.filter_map]
  rfl

/-- **C11/C02, uniqueness of the fixpoint.**  Two quiescent stores for the same replica set `rs`, with
the same stored nodes and the same EDS strategy — but otherwise arbitrary: different pod names,
creation times, pod-list orders, settings, EDS annotations, other objects —
  (a) carry the same multiset of (node, template hash) pairs of EDS pods,
  (b) make `reconcileErs` report the same status counters (desired, current, ready, available, ignored),
      at any clock value and for any back-off states / affinity modes, and
  (c) receive no pod write from it. -/
theorem C11_fixpoint_unique (d₁ d₂ : EDS) (rs : ERS) (st₁ st₂ : ErsStore)
    (Q₁ : Quiescent d₁ rs st₁) (Q₂ : Quiescent d₂ rs st₂)
    (hnodes : st₁.nodes = st₂.nodes) (hstrat : d₁.strategy = d₂.strategy)
    (rel₁ rel₂ : String → Bool) (aff₁ aff₂ : Bool) (now : Time) :
    (hashAssignment d₁ st₁).Perm (hashAssignment d₂ st₂) ∧
    counters ((reconcileErs rs st₁ rel₁ aff₁ now).statusUpdate.getD rs.status) =
      counters ((reconcileErs rs st₂ rel₂ aff₂ now).statusUpdate.getD rs.status) ∧
    (reconcileErs rs st₁ rel₁ aff₁ now).noPodWrite ∧ (reconcileErs rs st₂ rel₂ aff₂ now).noPodWrite := by
  obtain ⟨items₁, Q₁⟩ := Q₁
  obtain ⟨items₂, Q₂⟩ := Q₂
  have hn : items₁.map (·.node) = items₂.map (·.node) := by
    rw [(ersNodeItems_some Q₁.listed).1, (ersNodeItems_some Q₂.listed).1, hnodes]
  have hfit : (fitItemsQ rs items₁).map (·.node) = (fitItemsQ rs items₂).map (·.node) := by
    rw [fitItems_map_node, fitItems_map_node, hn]
  have hcanon : (fitItemsQ rs items₁).map (fun ni => (ni.node.name, some rs.templateGeneration)) =
      (fitItemsQ rs items₂).map (fun ni => (ni.node.name, some rs.templateGeneration)) := by
    have := congrArg (List.map (fun n : Node => (n.name, some rs.templateGeneration))) hfit
    simpa [List.map_map, Function.comp_def] using this
  have hlen : (fitItemsQ rs items₁).length = (fitItemsQ rs items₂).length := by
    have := congrArg List.length hfit
    simpa using this
  refine ⟨?_, ?_, C11_quiescent_no_write Q₁ rel₁ aff₁ now, C11_quiescent_no_write Q₂ rel₂ aff₂ now⟩
  · exact (C11_quiescent_assignment Q₁).trans (hcanon ▸ (C11_quiescent_assignment Q₂).symm)
  · rw [C11_quiescent_counters Q₁ rel₁ aff₁ now, C11_quiescent_counters Q₂ rel₂ aff₂ now, hstrat, hlen]

theorem ersPods_perm (d : EDS) (st : ErsStore) (pods' : List Pod) (hp : pods'.Perm st.pods) :
    (ersPods d { st with pods := pods' }).Perm (ersPods d st) := by
  unfold ersPods
  simp only []
  apply List.Perm.append (hp.filter _)
  split
  · exact List.Perm.refl _
  · split
    · exact List.Perm.refl _
    · apply List.Perm.filter
      split
      · exact hp.filter _
      · exact hp.filter _

/-- **Order independence.**  Listing the pods of the store in another order leaves quiescence — and
hence, by 1–4, the assignment, the counters and the absence of writes — unchanged. -/
theorem C11_quiescent_perm {d : EDS} {rs : ERS} {st : ErsStore} {items : List NodeItem}
    (Q : QuiescentAt d rs st items) (pods' : List Pod) (hp : pods'.Perm st.pods) :
    QuiescentAt d rs { st with pods := pods' } items where
  owner := Q.owner
  defaulted := Q.defaulted
  active := Q.active
  noCanary := Q.noCanary
  listed := Q.listed
  nodeNames := Q.nodeNames
  onePod := by
    intro ni hni hf
    rw [((ersPods_perm d st pods' hp).filter _).length_eq]
    exact Q.onePod ni hni hf
  podOk := by
    intro p hpm
    exact Q.podOk p ((ersPods_perm d st pods' hp).mem_iff.mp hpm)

/-- the harness's canonical view of a pod (harness/streams/sim.go, `view`). -/
def podViewOf (p : Pod) : Spec.C02.PodView :=
  { node := p.nodeOf.getD "", hash := (SMap.get? p.annotations K.templateHashAnnot).getD "",
    ready := p.ready, phase := p.phase, terminating := p.deletion.isSome, ns := p.ns,
    eds := (SMap.get? p.labels K.edsNameLabel).getD "" }

theorem ownPods_views (d : EDS) (st : ErsStore) (hold : SMap.get? d.annotations K.oldDaemonsetAnnot = none)
    (hname : d.name ≠ "") :
    Spec.C02.ownPods d (st.pods.map podViewOf) = (ersPods d st).map podViewOf := by
  unfold Spec.C02.ownPods
  rw [ersPods_of_no_old d st hold, List.filter_map]
  congr 1
  apply List.filter_congr
  intro p _
  simp only [Function.comp, podViewOf]
  congr 1
  cases hl : SMap.get? p.labels K.edsNameLabel with
  | none =>
    have : ("" == d.name) = false := by simpa using fun h => hname h
    simp [this]
  | some v => simp

/-- **A quiescent store satisfies `Spec.C02.fixpoint`** (for a replica set built from the EDS's live
template, an unfiltered node listing and no DaemonSet migration in progress). -/
theorem C11_quiescent_spec_fixpoint {d : EDS} {rs : ERS} {st : ErsStore} {items : List NodeItem}
    (Q : QuiescentAt d rs st items) (hsel : rs.selector = none) (ht : rs.template = d.template)
    (hh : rs.templateGeneration = d.templateHash)
    (hold : SMap.get? d.annotations K.oldDaemonsetAnnot = none) (hname : d.name ≠ "") :
    Spec.C02.fixpoint d st.nodes (st.pods.map podViewOf) = true := by
  have hnodes : items.map (·.node) = st.nodes := by
    rw [(ersNodeItems_some Q.listed).1]; unfold listedNodes; rw [hsel]
  have hnode : ∀ p ∈ ersPods d st, (podViewOf p).node = p.nodeName := by
    intro p hp
    simp only [podViewOf, Q.nodeOf hp, Option.getD_some]
  unfold Spec.C02.fixpoint
  simp only []
  rw [ownPods_views d st hold hname]
  unfold Spec.C02.eligibleNodes
  rw [Bool.and_eq_true, List.all_eq_true, List.all_eq_true]
  constructor
  · intro n hn
    obtain ⟨hmem, hfit⟩ := List.mem_filter.mp hn
    rw [← hnodes] at hmem
    obtain ⟨ni, hni, rfl⟩ := List.mem_map.mp hmem
    have hone := Q.onePod ni hni (by rw [ht]; exact hfit)
    simp only [beq_iff_eq]
    rw [List.filter_map, List.length_map, ← hone]
    congr 1
    apply List.filter_congr
    intro p hp
    simp only [Function.comp, hnode p hp]
  · intro v hv
    obtain ⟨p, hp, rfl⟩ := List.mem_map.mp hv
    obtain ⟨_, hdel, hph, hready, _, ni, hni, hn, hfit, _⟩ := Q.podOk p hp
    have hhash := Q.hash hp
    have hany : (st.nodes.filter (fit d.template)).any (fun n => n.name == (podViewOf p).node) = true := by
      rw [List.any_eq_true]
      refine ⟨ni.node, List.mem_filter.mpr ⟨?_, by rw [← ht]; exact hfit⟩, ?_⟩
      · rw [← hnodes]; exact List.mem_map.mpr ⟨ni, hni, rfl⟩
      · rw [hnode p hp]; simpa using hn
    rw [hany]
    simp [podViewOf, hready, hhash, hh, hdel, hph]

/-! ### Non-vacuity.  Store of EdsProps/C04.lean after the canary: `d-new` is the active replica set of
EDS `d`, no canary, two fit nodes `n1`, `n2`. -/

/-- store A: pods `a-1` on `n1`, `a-2` on `n2`. -/
def exStoreA11 : ErsStore :=
  exStore04 [exPod04 "a-1" "n1" "d-new" "new", exPod04 "a-2" "n2" "d-new" "new"] false

/-- store B — what another history (e.g. one with a failed and retried creation) leaves: other pod names,
other creation times, listed in the other order, and an unrelated pod of another namespace in between. -/
def exStoreB11 : ErsStore :=
  exStore04 [{ exPod04 "b-9" "n2" "d-new" "new" with creation := 77, startTime := some 78 },
             { exPod04 "zzz" "n1" "d-new" "new" with ns := "other" },
             { exPod04 "b-7" "n1" "d-new" "new" with creation := 55 }] false

def exItems11 : List NodeItem := [exNode01 "n1", exNode01 "n2"]

theorem exQuiescentA11 : QuiescentAt (exEds04 false) (exErs04 "d-new" "new") exStoreA11 exItems11 where
  owner := by decide +kernel
  defaulted := by decide +kernel
  active := by decide +kernel
  noCanary := by decide +kernel
  listed := by decide +kernel
  nodeNames := by decide +kernel
  onePod := by decide +kernel
  podOk := by decide +kernel

theorem exQuiescentB11 : QuiescentAt (exEds04 false) (exErs04 "d-new" "new") exStoreB11 exItems11 where
  owner := by decide +kernel
  defaulted := by decide +kernel
  active := by decide +kernel
  noCanary := by decide +kernel
  listed := by decide +kernel
  nodeNames := by decide +kernel
  onePod := by decide +kernel
  podOk := by decide +kernel

/-- the two stores differ (pod names, order, creation times) … -/
example : exStoreA11.pods.map (·.name) = ["a-1", "a-2"] ∧ exStoreB11.pods.map (·.name) = ["b-9", "zzz", "b-7"] := by
  decide +kernel

/-- … and `C11_fixpoint_unique` applies; its three conclusions, checked by evaluation as well:
same assignment multiset, same counters (2, 2, 2, 2, 0), no pod write. -/
example : (hashAssignment (exEds04 false) exStoreA11).Perm (hashAssignment (exEds04 false) exStoreB11) ∧
    counters ((reconcileErs (exErs04 "d-new" "new") exStoreA11 (fun _ => true) true (100 * sec)).statusUpdate.getD
      (exErs04 "d-new" "new").status) =
    counters ((reconcileErs (exErs04 "d-new" "new") exStoreB11 (fun _ => false) false (100 * sec)).statusUpdate.getD
      (exErs04 "d-new" "new").status) ∧
    (reconcileErs (exErs04 "d-new" "new") exStoreA11 (fun _ => true) true (100 * sec)).noPodWrite ∧
    (reconcileErs (exErs04 "d-new" "new") exStoreB11 (fun _ => false) false (100 * sec)).noPodWrite :=
  C11_fixpoint_unique _ _ _ _ _ ⟨_, exQuiescentA11⟩ ⟨_, exQuiescentB11⟩ rfl rfl _ _ _ _ _

example : hashAssignment (exEds04 false) exStoreA11 = [("n1", some "new"), ("n2", some "new")] ∧
    hashAssignment (exEds04 false) exStoreB11 = [("n2", some "new"), ("n1", some "new")] ∧
    counters ((reconcileErs (exErs04 "d-new" "new") exStoreB11 (fun _ => false) false (100 * sec)).statusUpdate.getD
      (exErs04 "d-new" "new").status) = (2, 2, 2, 2, 0) ∧
    quiescentCounters (exEds04 false).strategy (exErs04 "d-new" "new") 2 (100 * sec) = (2, 2, 2, 2, 0) := by decide +kernel

/-- the link with the scenario predicate on store A. -/
example : Spec.C02.fixpoint { exEds04 false with templateHash := "new" } exStoreA11.nodes
    (exStoreA11.pods.map podViewOf) = true := by decide +kernel

/-- the definition is not vacuous the other way either: a store lacking the pod of `n2` is not quiescent
(and the sync does write there). -/
example : ¬ Quiescent (exEds04 false) (exErs04 "d-new" "new")
      (exStore04 [exPod04 "a-1" "n1" "d-new" "new"] false) ∧
    (reconcileErs (exErs04 "d-new" "new") (exStore04 [exPod04 "a-1" "n1" "d-new" "new"] false)
      (fun _ => true) true (100 * sec)).creates.map (·.1) = ["n2"] := by
  refine ⟨?_, by decide +kernel⟩
  rintro ⟨items, Q⟩
  have hl : ersNodeItems (exEds04 false) (exErs04 "d-new" "new")
      (exStore04 [exPod04 "a-1" "n1" "d-new" "new"] false) = some exItems11 := by decide +kernel
  have : items = exItems11 := by
    have := Q.listed
    rw [hl] at this
    exact (Option.some.inj this).symm
  subst this
  have := Q.onePod (exNode01 "n2") (by decide +kernel) (by decide +kernel)
  revert this
  decide +kernel

end Eds
