import EdsProps.C18
/-
  C18b — the verdict of the setting reconciler does not depend on the STORED statuses, hence
  "reconcile each setting once, in any order, starting from any stale statuses" yields exactly the
  statuses determined by the specs (and those satisfy the mutual exclusion of C18).
-/
namespace Eds
open Spec.C18

/-! ### Pointwise relation of two lists (core Lean has no `List.Forall₂`) -/

/-- `Forall₂ R l l'`: the lists have the same length and are related position by position. -/
inductive Forall₂ {α β : Type} (R : α → β → Prop) : List α → List β → Prop
  | nil : Forall₂ R [] []
  | cons {a : α} {b : β} {l : List α} {l' : List β} :
      R a b → Forall₂ R l l' → Forall₂ R (a :: l) (b :: l')

namespace Forall₂
variable {α β : Type} {R S : α → β → Prop} {l : List α} {l' : List β}

theorem refl_of {R : α → α → Prop} (h : ∀ a, R a a) (l : List α) : Forall₂ R l l := by
  induction l with
  | nil => exact .nil
  | cons a l ih => exact .cons (h a) ih

/-- monotonicity, the implication may use that the left element is a member of the left list -/
theorem imp_mem (h : Forall₂ R l l') (hRS : ∀ a b, a ∈ l → R a b → S a b) : Forall₂ S l l' := by
  induction h with
  | nil => exact .nil
  | cons hab _ ih =>
    exact .cons (hRS _ _ List.mem_cons_self hab)
      (ih (fun a b ha hr => hRS a b (List.mem_cons_of_mem _ ha) hr))

theorem imp (h : Forall₂ R l l') (hRS : ∀ a b, R a b → S a b) : Forall₂ S l l' :=
  h.imp_mem (fun a b _ => hRS a b)

theorem exists_left (h : Forall₂ R l l') {b : β} (hb : b ∈ l') : ∃ a, a ∈ l ∧ R a b := by
  induction h with
  | nil => cases hb
  | cons hab _ ih =>
    rcases List.mem_cons.mp hb with rfl | hb
    · exact ⟨_, List.mem_cons_self, hab⟩
    · obtain ⟨a, ha, hr⟩ := ih hb
      exact ⟨a, List.mem_cons_of_mem _ ha, hr⟩

theorem exists_right (h : Forall₂ R l l') {a : α} (ha : a ∈ l) : ∃ b, b ∈ l' ∧ R a b := by
  induction h with
  | nil => cases ha
  | cons hab _ ih =>
    rcases List.mem_cons.mp ha with rfl | ha
    · exact ⟨_, List.mem_cons_self, hab⟩
    · obtain ⟨b, hb, hr⟩ := ih ha
      exact ⟨b, List.mem_cons_of_mem _ hb, hr⟩

theorem length_eq (h : Forall₂ R l l') : l.length = l'.length := by
  induction h with
  | nil => rfl
  | cons _ _ ih => simp only [List.length_cons, ih]

/-- a relation that is the graph of a function: the right list is the image of the left one -/
theorem eq_map {f : α → β} (h : Forall₂ (fun a b => b = f a) l l') : l' = l.map f := by
  induction h with
  | nil => rfl
  | cons hab _ ih => rw [List.map_cons, ← hab, ← ih]

theorem map_right {γ : Type} {T : α → γ → Prop} (g : β → γ) (h : Forall₂ R l l')
    (hg : ∀ a b, R a b → T a (g b)) : Forall₂ T l (l'.map g) := by
  induction h with
  | nil => exact .nil
  | cons hab _ ih => exact .cons (hg _ _ hab) ih

theorem filter {p : α → Bool} {q : β → Bool} (h : Forall₂ R l l')
    (hpq : ∀ a b, R a b → p a = q b) : Forall₂ R (l.filter p) (l'.filter q) := by
  induction h with
  | nil => exact .nil
  | cons hab _ ih =>
    rw [List.filter_cons, List.filter_cons, hpq _ _ hab]
    split
    · exact .cons hab ih
    · exact ih

theorem map_eq_map {γ : Type} {f : α → γ} {g : β → γ} (h : Forall₂ R l l')
    (hfg : ∀ a b, R a b → f a = g b) : l.map f = l'.map g := by
  induction h with
  | nil => rfl
  | cons hab _ ih => rw [List.map_cons, List.map_cons, hfg _ _ hab, ih]

theorem flip (h : Forall₂ R l l') : Forall₂ (fun b a => R a b) l' l := by
  induction h with
  | nil => exact .nil
  | cons hab _ ih => exact .cons hab ih

theorem trans {γ : Type} {T : β → γ → Prop} {U : α → γ → Prop} {l'' : List γ}
    (hRTU : ∀ a b c, R a b → T b c → U a c)
    (h : Forall₂ R l l') (h' : Forall₂ T l' l'') : Forall₂ U l l'' := by
  induction h generalizing l'' with
  | nil => cases h'; exact .nil
  | cons hab _ ih =>
    cases h' with
    | cons hbc hl => exact .cons (hRTU _ _ _ hab hbc) (ih hl)

end Forall₂

/-! ### Same spec, different stored status -/

/-- `a` and `b` agree on every field except the stored `status` and `error`. -/
def sameSpec (a b : Setting) : Prop :=
  a.name = b.name ∧ a.ns = b.ns ∧ a.creation = b.creation ∧ a.reference = b.reference ∧
  a.nodeSelector = b.nodeSelector ∧ a.badSelector = b.badSelector ∧ a.containers = b.containers

instance (a b : Setting) : Decidable (sameSpec a b) := by
  unfold sameSpec
  infer_instance

/-- position by position the same specs. -/
def sameSpecs (l l' : List Setting) : Prop := Forall₂ sameSpec l l'

/-- `sameSpec` says exactly: overwriting the stored status of `a` with that of `b` gives `b`. -/
theorem sameSpec_iff (a b : Setting) :
    sameSpec a b ↔ { a with status := b.status, error := b.error } = b := by
  cases a
  cases b
  simp only [sameSpec, Setting.mk.injEq, and_true]

theorem sameSpec.refl (a : Setting) : sameSpec a a :=
  ⟨rfl, rfl, rfl, rfl, rfl, rfl, rfl⟩

theorem sameSpec.symm {a b : Setting} (h : sameSpec a b) : sameSpec b a :=
  ⟨h.1.symm, h.2.1.symm, h.2.2.1.symm, h.2.2.2.1.symm, h.2.2.2.2.1.symm, h.2.2.2.2.2.1.symm,
    h.2.2.2.2.2.2.symm⟩

theorem sameSpec.trans {a b c : Setting} (h : sameSpec a b) (h' : sameSpec b c) : sameSpec a c :=
  ⟨h.1.trans h'.1, h.2.1.trans h'.2.1, h.2.2.1.trans h'.2.2.1, h.2.2.2.1.trans h'.2.2.2.1,
    h.2.2.2.2.1.trans h'.2.2.2.2.1, h.2.2.2.2.2.1.trans h'.2.2.2.2.2.1,
    h.2.2.2.2.2.2.trans h'.2.2.2.2.2.2⟩

theorem sameSpecs.refl (l : List Setting) : sameSpecs l l := Forall₂.refl_of sameSpec.refl l

theorem sameSpecs.symm {l l' : List Setting} (h : sameSpecs l l') : sameSpecs l' l :=
  (Forall₂.flip h).imp (fun _ _ hab => sameSpec.symm hab)

theorem sameSpecs.trans {l l' l'' : List Setting} (h : sameSpecs l l') (h' : sameSpecs l' l'') :
    sameSpecs l l'' :=
  Forall₂.trans (R := sameSpec) (T := sameSpec) (U := sameSpec) (fun _ _ _ => sameSpec.trans) h h'

/-- overwriting the stored status with the same values erases the difference -/
theorem sameSpec.with_status_eq {a b : Setting} (h : sameSpec a b) (x y : String) :
    { a with status := x, error := y } = { b with status := x, error := y } := by
  cases a
  cases b
  simp only [sameSpec] at h
  simp only [Setting.mk.injEq, and_true]
  exact h

theorem sameSpecs.names_eq {l l' : List Setting} (h : sameSpecs l l') :
    l.map (·.name) = l'.map (·.name) := by
  induction h with
  | nil => rfl
  | cons hab _ ih => rw [List.map_cons, List.map_cons, ih, hab.1]

/-! ### Every ingredient of `settingReconcile` ignores the stored status -/

theorem settingMatches_sameSpec {a b : Setting} (h : sameSpec a b) (ls : SMap) :
    settingMatches a ls = settingMatches b ls := by
  unfold settingMatches
  rw [h.2.2.2.2.1, h.2.2.2.2.2.1]

theorem settingLess_sameSpec {a a' b b' : Setting} (ha : sameSpec a a') (hb : sameSpec b b') :
    settingLess a b = settingLess a' b' := by
  unfold settingLess
  rw [ha.1, ha.2.2.1, hb.1, hb.2.2.1]

theorem insertSetting_sameSpec {s s' : Setting} (hs : sameSpec s s') {l l' : List Setting}
    (h : sameSpecs l l') : sameSpecs (insertSetting s l) (insertSetting s' l') := by
  induction h with
  | nil => exact .cons hs .nil
  | cons hab hl ih =>
    simp only [insertSetting]
    rw [settingLess_sameSpec hs hab]
    split
    · exact .cons hs (.cons hab hl)
    · exact .cons hab ih

/-- the insertion sort looks at `creation` and `name` only: sorted lists are again related. -/
theorem sortSettings_sameSpec {l l' : List Setting} (h : sameSpecs l l') :
    sameSpecs (sortSettings l) (sortSettings l') := by
  induction h with
  | nil => exact .nil
  | cons hab _ ih => exact insertSetting_sameSpec hab ih

theorem conflictScanNode_sameSpec (instName : String) (ls : SMap) {l l' : List Setting}
    (h : sameSpecs l l') (prev : Option String) :
    conflictScanNode instName ls l prev = conflictScanNode instName ls l' prev := by
  induction h generalizing prev with
  | nil => rfl
  | cons hab _ ih =>
    simp only [conflictScanNode]
    rw [settingMatches_sameSpec hab, hab.1]
    simp only [ih]

theorem usableFor_sameSpec {inst inst' : Setting} (hn : inst.name = inst'.name)
    {all all' : List Setting} (h : sameSpecs all all') :
    sameSpecs (usableFor inst all) (usableFor inst' all') := by
  unfold usableFor
  apply Forall₂.filter h
  intro a b hab
  rw [hab.1, hab.2.2.2.2.2.1, hn]

theorem searchConflict_go_sameSpec {inst inst' : Setting} (hn : inst.name = inst'.name)
    {l l' : List Setting} (h : sameSpecs l l') (nodes : List Node) :
    searchConflict.go inst l nodes = searchConflict.go inst' l' nodes := by
  induction nodes with
  | nil => simp only [searchConflict.go]
  | cons n rest ih =>
    simp only [searchConflict.go]
    rw [hn, conflictScanNode_sameSpec _ _ h, ih]

theorem searchConflict_sameSpec {inst inst' : Setting} (hi : sameSpec inst inst')
    (nodes : List Node) {all all' : List Setting} (h : sameSpecs all all') :
    searchConflict inst nodes all = searchConflict inst' nodes all' := by
  rw [searchConflict_eq, searchConflict_eq]
  exact searchConflict_go_sameSpec hi.1 (sortSettings_sameSpec (usableFor_sameSpec hi.1 h)) nodes

/-- **The verdict does not depend on the stored statuses**, neither that of the reconciled
setting nor those of the other settings of the namespace: status and error message are a function of
the specs (and of the nodes) alone. -/
theorem C18_status_independent (inst inst' : Setting) (nodes : List Node)
    (all all' : List Setting) (hi : sameSpec inst inst') (h : sameSpecs all all') :
    settingReconcile inst nodes all = settingReconcile inst' nodes all' := by
  unfold settingReconcile
  rw [hi.2.2.2.1, searchConflict_sameSpec hi nodes h]

/-! ### One round of reconciliations -/

/-- the setting with its freshly computed status (what `Reconcile` + the status update write). -/
def refreshSetting (nodes : List Node) (all : List Setting) (s : Setting) : Setting :=
  { s with status := (settingReconcile s nodes all).1, error := (settingReconcile s nodes all).2 }

/-- write the freshly computed status of the setting named `nm` into the list (what one
Reconcile + status update does). The verdict is computed from the CURRENT list, stale statuses of
the other settings included. (Every object named `nm` is rewritten; names are unique in a
namespace, so that is one object.) -/
def reconcileOne (nodes : List Node) (all : List Setting) (nm : String) : List Setting :=
  all.map (fun s => if s.name = nm then refreshSetting nodes all s else s)

/-- reconcile the settings named in `order`, one after the other, each seeing the statuses the
previous ones wrote. -/
def reconcileRound (nodes : List Node) (all : List Setting) (order : List String) : List Setting :=
  order.foldl (reconcileOne nodes) all

/-- the statuses determined by the specs: every setting carries the verdict computed on the
original list. -/
def reconciledSettings (nodes : List Node) (all : List Setting) : List Setting :=
  all.map (refreshSetting nodes all)

theorem refreshSetting_sameSpec (nodes : List Node) (all : List Setting) (s : Setting) :
    sameSpec s (refreshSetting nodes all s) :=
  ⟨rfl, rfl, rfl, rfl, rfl, rfl, rfl⟩

/-- refreshing a stale copy against a stale list writes the same object as refreshing the original
against the original list. -/
theorem refreshSetting_eq_of_sameSpec (nodes : List Node) {all cur : List Setting} {s₀ s : Setting}
    (hs : sameSpec s₀ s) (h : sameSpecs all cur) :
    refreshSetting nodes cur s = refreshSetting nodes all s₀ := by
  unfold refreshSetting
  rw [← C18_status_independent s₀ s nodes all cur hs h]
  exact (hs.with_status_eq _ _).symm

theorem reconciledSettings_sameSpecs (nodes : List Node) (all : List Setting) :
    sameSpecs all (reconciledSettings nodes all) :=
  Forall₂.map_right _ (sameSpecs.refl all) (fun a b hab => by
    exact hab.trans (refreshSetting_sameSpec nodes all b))

/-- invariant of a round: `s` is the current version of the original `s₀`; same spec, and already
carrying the final verdict when its name is among the `done` ones. -/
private def roundInv (nodes : List Node) (all : List Setting) (done : String → Prop)
    (s₀ s : Setting) : Prop :=
  sameSpec s₀ s ∧ (done s₀.name → s = refreshSetting nodes all s₀)

private theorem roundInv_step (nodes : List Node) (all cur : List Setting) (done : String → Prop)
    (nm : String) (h : Forall₂ (roundInv nodes all done) all cur) :
    Forall₂ (roundInv nodes all (fun x => done x ∨ x = nm)) all (reconcileOne nodes cur nm) := by
  have hss : sameSpecs all cur := h.imp (fun _ _ hab => hab.1)
  unfold reconcileOne
  apply Forall₂.map_right _ h
  intro a b hab
  obtain ⟨hspec, hdone⟩ := hab
  by_cases hb : b.name = nm
  · rw [if_pos hb, refreshSetting_eq_of_sameSpec nodes hspec hss]
    exact ⟨refreshSetting_sameSpec nodes all a, fun _ => rfl⟩
  · rw [if_neg hb]
    refine ⟨hspec, fun hd => ?_⟩
    rcases hd with hd | hd
    · exact hdone hd
    · exact absurd (hspec.1 ▸ hd) hb

private theorem roundInv_round (nodes : List Node) (all : List Setting) (order : List String) :
    ∀ (cur : List Setting) (done : String → Prop), Forall₂ (roundInv nodes all done) all cur →
      Forall₂ (roundInv nodes all (fun x => done x ∨ x ∈ order)) all
        (order.foldl (reconcileOne nodes) cur) := by
  induction order with
  | nil =>
    intro cur done h
    exact h.imp (fun a b hab => ⟨hab.1, fun hd => hd.elim hab.2 (fun hm => by cases hm)⟩)
  | cons nm rest ih =>
    intro cur done h
    rw [List.foldl_cons]
    refine (ih _ _ (roundInv_step nodes all cur done nm h)).imp (fun a b hab => ⟨hab.1, fun hd => ?_⟩)
    apply hab.2
    rcases hd with hd | hd
    · exact Or.inl (Or.inl hd)
    · rcases List.mem_cons.mp hd with hd | hd
      · exact Or.inl (Or.inr hd)
      · exact Or.inr hd

/-- after a round every setting is its original with the same spec, and with the final verdict if its name
is in `order`. -/
private theorem roundInv_result (nodes : List Node) (all : List Setting) (order : List String) :
    Forall₂ (roundInv nodes all (fun x => x ∈ order)) all (reconcileRound nodes all order) :=
  (roundInv_round nodes all order all (fun _ => False)
      (Forall₂.refl_of (fun a => ⟨sameSpec.refl a, fun hf => hf.elim⟩) all)).imp
    (fun _ _ hab => ⟨hab.1, fun hd => hab.2 (Or.inr hd)⟩)

/-- during a round (whatever `order`) only statuses change: the specs stay those of the original
list, position by position. -/
theorem reconcileRound_sameSpecs (nodes : List Node) (all : List Setting) (order : List String) :
    sameSpecs all (reconcileRound nodes all order) :=
  (roundInv_result nodes all order).imp (fun _ _ hab => hab.1)

/-- settings whose name is in `order` carry the spec-determined verdict after the round, even when
`order` does not cover every setting (no hypothesis on `order` or on the names). -/
theorem C18_round_result_partial (nodes : List Node) (all : List Setting) (order : List String) :
    Forall₂ (fun s₀ s => sameSpec s₀ s ∧
        (s₀.name ∈ order → (s.status, s.error) = settingReconcile s₀ nodes all))
      all (reconcileRound nodes all order) := by
  refine (roundInv_result nodes all order).imp (fun a b hab => ⟨hab.1, fun hm => ?_⟩)
  rw [hab.2 hm]
  rfl

/-- **Result of a round, as an equation**: when `order` names every setting (repetitions and
foreign names allowed), the list after the round is the original list with every status replaced by
the verdict computed from the ORIGINAL list — whatever the order and the initial stale statuses.
(Distinct names are not even needed for this form.) -/
theorem C18_round_eq (nodes : List Node) (all : List Setting) (order : List String)
    (hcover : ∀ s ∈ all, s.name ∈ order) :
    reconcileRound nodes all order = reconciledSettings nodes all :=
  Forall₂.eq_map ((roundInv_result nodes all order).imp_mem (fun a _ ha hab => hab.2 (hcover a ha)))

/-- **Result of a round.** Names distinct, `order` contains every name: after the round every
setting `s` of the list carries `settingReconcile s₀ nodes all`, where `s₀` is the setting of that
name in the ORIGINAL list (stale statuses included) — independent of the order and of the initial
stale statuses. -/
theorem C18_round_result (nodes : List Node) (all : List Setting) (order : List String)
    (hnd : (all.map (·.name)).Nodup) (hcover : ∀ s ∈ all, s.name ∈ order)
    (s : Setting) (hs : s ∈ reconcileRound nodes all order)
    (s₀ : Setting) (hs₀ : s₀ ∈ all) (hname : s₀.name = s.name) :
    (s.status, s.error) = settingReconcile s₀ nodes all := by
  rw [C18_round_eq nodes all order hcover] at hs
  obtain ⟨s₁, hs₁, rfl⟩ := List.mem_map.mp hs
  have : s₀ = s₁ := eq_of_nodup_map _ hnd hs₀ hs₁ hname
  subst this
  rfl

/-- … and every original setting has its counterpart in the result (same names, same positions,
same specs). -/
theorem C18_round_names (nodes : List Node) (all : List Setting) (order : List String) :
    (reconcileRound nodes all order).map (·.name) = all.map (·.name) :=
  (reconcileRound_sameSpecs nodes all order).names_eq.symm

/-- **Two orders give the same list.** -/
theorem C18_round_order_independent (nodes : List Node) (all : List Setting)
    (order order' : List String)
    (hcover : ∀ s ∈ all, s.name ∈ order) (hcover' : ∀ s ∈ all, s.name ∈ order') :
    reconcileRound nodes all order = reconcileRound nodes all order' := by
  rw [C18_round_eq nodes all order hcover, C18_round_eq nodes all order' hcover']

/-- **Two initial stale statuses give the same list** (same specs, same nodes; each with its own
order). -/
theorem C18_round_stale_independent (nodes : List Node) (all all' : List Setting)
    (order order' : List String) (h : sameSpecs all all')
    (hcover : ∀ s ∈ all, s.name ∈ order) (hcover' : ∀ s ∈ all', s.name ∈ order') :
    reconcileRound nodes all order = reconcileRound nodes all' order' := by
  rw [C18_round_eq nodes all order hcover, C18_round_eq nodes all' order' hcover']
  unfold reconciledSettings
  exact Forall₂.map_eq_map h (fun a b hab => (refreshSetting_eq_of_sameSpec nodes hab h).symm)

/-! ### The result of a round satisfies C18 -/

theorem C18_round_nodup (nodes : List Node) (all : List Setting) (order : List String)
    (hnd : (all.map (·.name)).Nodup) : ((reconcileRound nodes all order).map (·.name)).Nodup := by
  rw [C18_round_names]
  exact hnd

/-- **Mutual exclusion after a round** (hypotheses of `C18_mutual_exclusion_eq`, the computed
statuses being replaced by the STORED statuses of the result): whatever the initial stale statuses
and the order, two settings of the resulting list that are stored `valid` and both match a node of
the cluster are the same setting. -/
theorem C18_round_mutual_exclusion (nodes : List Node) (all : List Setting) (order : List String)
    (hnd : (all.map (·.name)).Nodup) (hcover : ∀ s ∈ all, s.name ∈ order)
    (n : Node) (hn : n ∈ nodes) (s t : Setting)
    (hs : s ∈ reconcileRound nodes all order) (ht : t ∈ reconcileRound nodes all order)
    (hvs : s.status = "valid") (hvt : t.status = "valid")
    (hms : settingMatches s n.labels = some true)
    (hmt : settingMatches t n.labels = some true) :
    s = t := by
  rw [C18_round_eq nodes all order hcover] at hs ht
  obtain ⟨s₀, hs₀, rfl⟩ := List.mem_map.mp hs
  obtain ⟨t₀, ht₀, rfl⟩ := List.mem_map.mp ht
  rw [← settingMatches_sameSpec (refreshSetting_sameSpec nodes all s₀)] at hms
  rw [← settingMatches_sameSpec (refreshSetting_sameSpec nodes all t₀)] at hmt
  rw [C18_mutual_exclusion_eq nodes all hnd n hn s₀ t₀ hs₀ ht₀ hvs hvt hms hmt]

/-- The same through the decidable specification predicate, evaluated on the stored statuses of the
result: for every node at most one setting is both stored `valid` and matching. -/
theorem C18_round_mutual_exclusion_spec (nodes : List Node) (all : List Setting)
    (order : List String)
    (hnd : (all.map (·.name)).Nodup) (hcover : ∀ s ∈ all, s.name ∈ order) :
    mutualExclusion (reconcileRound nodes all order) nodes
      (fun s => decide (s.status = "valid")) = true := by
  rw [C18_round_eq nodes all order hcover]
  have h := C18_mutual_exclusion_spec nodes all hnd
  unfold mutualExclusion at h ⊢
  rw [List.all_eq_true] at h ⊢
  intro n hn
  have hlen := h n hn
  rw [decide_eq_true_eq] at hlen ⊢
  unfold reconciledSettings
  rw [List.filter_map, List.length_map]
  have hp : ((fun s : Setting => decide (s.status = "valid") && (settingMatches s n.labels).getD false)
        ∘ refreshSetting nodes all) =
      (fun s => decide ((settingReconcile s nodes all).1 = "valid") &&
        (settingMatches s n.labels).getD false) := by
    funext s
    simp only [Function.comp]
    rw [← settingMatches_sameSpec (refreshSetting_sameSpec nodes all s)]
    rfl
  rw [hp]
  exact hlen

/-- **The result is a fixed point**: every stored status of the result is what a further reconcile
against the result itself computes (this is the hypothesis `hst` of `C18_unique_choice` and
`C18_choice_order_independent`). -/
theorem C18_round_stable (nodes : List Node) (all : List Setting) (order : List String)
    (hcover : ∀ s ∈ all, s.name ∈ order)
    (s : Setting) (hs : s ∈ reconcileRound nodes all order) :
    settingReconcile s nodes (reconcileRound nodes all order) = (s.status, s.error) := by
  rw [C18_round_eq nodes all order hcover] at hs ⊢
  obtain ⟨s₀, _, rfl⟩ := List.mem_map.mp hs
  rw [← C18_status_independent s₀ (refreshSetting nodes all s₀) nodes all (reconciledSettings nodes all)
    (refreshSetting_sameSpec nodes all s₀) (reconciledSettings_sameSpecs nodes all)]
  rfl

theorem C18_round_statuses_reconciled (nodes : List Node) (all : List Setting) (order : List String)
    (hcover : ∀ s ∈ all, s.name ∈ order) :
    ∀ s ∈ reconcileRound nodes all order,
      s.status = (settingReconcile s nodes (reconcileRound nodes all order)).1 := by
  intro s hs
  rw [C18_round_stable nodes all order hcover s hs]

/-- a second round (any order covering the names) changes nothing. -/
theorem C18_round_idempotent (nodes : List Node) (all : List Setting) (order order' : List String)
    (hcover : ∀ s ∈ all, s.name ∈ order) (hcover' : ∀ s ∈ all, s.name ∈ order') :
    reconcileRound nodes (reconcileRound nodes all order) order' = reconcileRound nodes all order := by
  have hc : ∀ s ∈ reconcileRound nodes all order, s.name ∈ order' := by
    intro s hs
    obtain ⟨s₀, hs₀, hspec⟩ := Forall₂.exists_left (reconcileRound_sameSpecs nodes all order) hs
    rw [← hspec.1]
    exact hcover' s₀ hs₀
  rw [C18_round_eq nodes _ order' hc]
  unfold reconciledSettings
  conv => rhs; rw [← List.map_id (reconcileRound nodes all order)]
  apply List.map_congr_left
  intro s hs
  unfold refreshSetting
  rw [C18_round_stable nodes all order hcover s hs]
  rfl

/-- an `error` verdict of a setting with a reference is a conflict report. -/
theorem settingReconcile_error_message (inst : Setting) (nodes : List Node) (all : List Setting)
    (r : String) (href : inst.reference = some r) (hr : r ≠ "")
    (he : (settingReconcile inst nodes all).1 = "error") :
    ∃ o, (settingReconcile inst nodes all).2 = "conflict with another ExtendedDaemonsetSetting: " ++ o := by
  rw [settingReconcile_of_reference href hr] at he ⊢
  generalize searchConflict inst nodes all = r at he ⊢
  cases r with
  | none => exact absurd he (by decide)
  | conflict o => exact ⟨o, rfl⟩
  | selectorError => exact ⟨"", String.append_empty.symm⟩

/-- **… and the others report a conflict**: after a round, when a stored-`valid` setting `s` and
another setting `t` of the list both match a node, `t` is stored in `error`, and (having a
reference) its message is a conflict report. -/
theorem C18_round_others_conflict (nodes : List Node) (all : List Setting) (order : List String)
    (hnd : (all.map (·.name)).Nodup) (hcover : ∀ s ∈ all, s.name ∈ order)
    (n : Node) (hn : n ∈ nodes) (s t : Setting)
    (hs : s ∈ reconcileRound nodes all order) (ht : t ∈ reconcileRound nodes all order)
    (hne : s ≠ t) (hvs : s.status = "valid")
    (hms : settingMatches s n.labels = some true)
    (hmt : settingMatches t n.labels = some true) :
    t.status = "error" ∧
    (∀ r, t.reference = some r → r ≠ "" →
      ∃ o, t.error = "conflict with another ExtendedDaemonsetSetting: " ++ o) := by
  have hst := C18_round_stable nodes all order hcover t ht
  have hterr : t.status = "error" := by
    have h1 : (settingReconcile t nodes (reconcileRound nodes all order)).1 = t.status := by rw [hst]
    rcases settingReconcile_status t nodes (reconcileRound nodes all order) with hv | he
    · exact absurd (C18_round_mutual_exclusion nodes all order hnd hcover n hn s t hs ht hvs
        (h1 ▸ hv) hms hmt) hne
    · exact h1 ▸ he
  refine ⟨hterr, fun r href hr => ?_⟩
  have he : (settingReconcile t nodes (reconcileRound nodes all order)).1 = "error" := by
    rw [hst]; exact hterr
  obtain ⟨o, ho⟩ := settingReconcile_error_message t nodes _ r href hr he
  rw [hst] at ho
  exact ⟨o, ho⟩

/-! ### Non-vacuity: three settings with stale statuses, two orders -/

section Examples

/-- pool=a, older than `rNew`: stored `valid`, but in conflict with `rNew` on `node-a`. -/
private def rOld : Setting :=
  ⟨"old", "ns", 10, some "eds", ⟨[⟨"pool", "a"⟩], []⟩, false, [], "valid", ""⟩
/-- selects every node, newest: stored `error` (a conflict that no longer holds), should be `valid`. -/
private def rNew : Setting :=
  ⟨"new", "ns", 20, some "eds", ⟨[], []⟩, false, [], "error",
    "conflict with another ExtendedDaemonsetSetting: gone"⟩
/-- never reconciled yet; an unusable selector. -/
private def rBad : Setting := ⟨"bad", "ns", 30, some "eds", ⟨[], []⟩, true, [], "", ""⟩
private def rNodeA : Node := ⟨"node-a", [⟨"pool", "a"⟩], [], [], "", []⟩
private def rNodeC : Node := ⟨"node-c", [⟨"pool", "c"⟩], [], [], "", []⟩

private def rExpected : List Setting :=
  [{ rOld with status := "error", error := "conflict with another ExtendedDaemonsetSetting: new" },
   { rNew with status := "valid", error := "" },
   { rBad with status := "error", error := "conflict with another ExtendedDaemonsetSetting: " }]

/-- The stale statuses are wrong both ways (`rOld` stored `valid` but in conflict, `rNew` stored `error`
but valid, `rBad` never reconciled); two different orders (the second with a repetition) give the
same list, the spec-determined one, which satisfies the exclusion. -/
example :
    rOld.status = "valid" ∧ rNew.status = "error" ∧
    reconcileRound [rNodeA, rNodeC] [rOld, rNew, rBad] ["old", "new", "bad"] = rExpected ∧
    reconcileRound [rNodeA, rNodeC] [rOld, rNew, rBad] ["bad", "new", "old", "new"] = rExpected ∧
    (([rOld, rNew, rBad].map (·.name)).Nodup) ∧
    mutualExclusion rExpected [rNodeA, rNodeC] (fun s => decide (s.status = "valid")) = true := by
  decide +kernel

/-- an incomplete round leaves stale statuses: covering every name is necessary. -/
example :
    reconcileRound [rNodeA, rNodeC] [rOld, rNew, rBad] ["new"]
      = [rOld, { rNew with status := "valid", error := "" }, rBad] ∧
    mutualExclusion (reconcileRound [rNodeA, rNodeC] [rOld, rNew, rBad] ["new"]) [rNodeA, rNodeC]
      (fun s => decide (s.status = "valid")) = false := by
  decide +kernel

end Examples

end Eds
