import EdsProofs.ReconcileEds
/-
  C12c — "never adopted as its replica set": the names an ExtendedDaemonSet's status points to.

  Subject: `reconcileEds d all pods nodes now mode` (EdsModel/ReconcileEds.lean); `all` is every replica
  set of the store, any namespace, any labels.  `ownErs d all` is the list the reconcile works on:

      ownErs d all = all.filter (fun e => e.ns == d.ns && SMap.get? e.labels K.edsNameLabel == some d.name)

  (`C12_ownErs_mem`: membership = listed ∧ same namespace ∧ name label `K.edsNameLabel ↦ d.name`).

  Quantification: every ExtendedDaemonSet (any status, any annotations, any strategy), every list of replica
  sets, pods, nodes, every instant and defaulting mode.

    `C12_no_adoption`   if the reconcile writes a status `s`, then                                   [full]
      * no replica set is created by this reconcile (so "the replica set created by this very reconcile" never
        is what a written status names: creation and status write are different exits);
      * `s.activeReplicaSet` is the name of a member `e` of `ownErs d all` — either a replica set named like
        the previous `d.status.activeReplicaSet`, or the up-to-date one (`upToDateOf d (ownErs d all)`).
        This is stronger than the disjunction "empty, or the previous name, or an own member": it is *always*
        an own member; a previous name that no own replica set bears is dropped, and `""` is never written;
      * `s.canary` is `none`, or — only when the strategy has no canary section — the previous
        `d.status.canary` carried over untouched, or `some cs` with `cs.replicaSet` the name of the up-to-date
        own replica set.
    `C12_no_adoption_names`   the same in the disjunctive form of the property text (corollary).
    `C12_foreign_never_named` a replica set that is not own (other namespace or without the name label) and
      whose name no own replica set bears is never the written `activeReplicaSet`; nor the written canary
      replica set when the strategy has a canary section.
  No `_partial` theorem in this file.
-/
namespace Eds

/-- membership in the list the reconcile works on. -/
theorem C12_ownErs_mem (d : EDS) (all : List ERS) (e : ERS) :
    e ∈ ownErs d all ↔ e ∈ all ∧ e.ns = d.ns ∧ SMap.get? e.labels K.edsNameLabel = some d.name := by
  unfold ownErs
  simp only [List.mem_filter, Bool.and_eq_true, beq_iff_eq]

/-- the replica set `selectCurrentReplicaSet` returns is listed: the one named like the previous
`status.activeReplicaSet`, or the up-to-date one. -/
theorem currentOf_listed (d : EDS) (list : List ERS) (u : ERS) (now : Time) :
    ((currentOf d list u now).1 ∈ list ∧ (currentOf d list u now).1.name = d.status.activeReplicaSet) ∨
    (currentOf d list u now).1 = u := by
  unfold currentOf
  simp only []
  cases ha : lastWhere (fun e => e.name == d.status.activeReplicaSet) list with
  | none =>
    right
    cases (selectCurrent d.strategy.canary d.annotations none u false now).1 <;> rfl
  | some a =>
    obtain ⟨hm, hn⟩ := lastWhere_mem ha
    cases (selectCurrent d.strategy.canary d.annotations (some a) u false now).1 with
    | active => left; exact ⟨hm, by simpa using hn⟩
    | upToDate => right; rfl

/-- the canary block of the status `updateInstance` computes. -/
theorem updateInstance_canary (d : EDS) (current u : ERS) (cur rdy avail : Int) (now : Time)
    (pods : List Pod) (nodes : List Node) :
    (updateInstance d current u cur rdy avail now pods nodes).status.canary = none ∨
    (d.strategy.canary = none ∧
      (updateInstance d current u cur rdy avail now pods nodes).status.canary = d.status.canary) ∨
    ∃ cs, (updateInstance d current u cur rdy avail now pods nodes).status.canary = some cs ∧
      cs.replicaSet = u.name := by
  cases hc : d.strategy.canary with
  | none =>
    right; left
    rw [updateInstance_no_canary _ _ _ _ _ _ _ _ _ hc]
    exact ⟨rfl, rfl⟩
  | some c =>
    rcases updateInstance_status_shape d current u cur rdy avail now pods nodes c hc with h | ⟨sel, h⟩
    · rw [h]
      exact (managedStatus_canary d current u cur rdy avail now).imp_right Or.inr
    · rw [h]
      rcases managedStatus_canary d current u cur rdy avail now with hm | ⟨cs, hm, hn⟩
      · left; simp only [hm, Option.map_none]
      · right; right
        exact ⟨{ cs with nodes := sel }, by simp only [hm, Option.map_some], hn⟩

/-- **Never adopted.**  A status written by the reconcile names, as active replica set, an own replica
set (named like the previous active one, or the up-to-date one), and as canary replica set nothing, or
the up-to-date own replica set — or, when the strategy has no canary section, whatever the previous
status held, untouched.  No replica set is created by a reconcile that writes a status. -/
theorem C12_no_adoption (d : EDS) (all : List ERS) (pods : List Pod) (nodes : List Node) (now : Time)
    (mode : String) (s : EDSStatus)
    (h : (reconcileEds d all pods nodes now mode).statusUpdate = some s) :
    (reconcileEds d all pods nodes now mode).created = none ∧
    (∃ e ∈ ownErs d all, s.activeReplicaSet = e.name ∧
      (e.name = d.status.activeReplicaSet ∨ upToDateOf d (ownErs d all) = some e)) ∧
    (s.canary = none ∨
     (d.strategy.canary = none ∧ s.canary = d.status.canary) ∨
     ∃ cs e, s.canary = some cs ∧ e ∈ ownErs d all ∧ cs.replicaSet = e.name ∧
       upToDateOf d (ownErs d all) = some e) := by
  obtain ⟨_, _, u, hu, hr⟩ := reconcileEds_main d all pods nodes now mode (Or.inr (by rw [h]; nofun))
  rw [hr] at h ⊢
  have hul : u ∈ ownErs d all := (lastWhere_mem hu).1
  refine ⟨edsMain_created .., ?_, ?_⟩
  · have ha := edsMain_statusUpdate_active h
    rcases currentOf_listed d (ownErs d all) u now with ⟨hm, hn⟩ | hcu
    · exact ⟨_, hm, ha, Or.inl hn⟩
    · rw [hcu] at ha
      exact ⟨u, hul, ha, Or.inr hu⟩
  · rw [edsMain_statusUpdate _ _ _ _ _ _ s h]
    rcases updateInstance_canary d (currentOf d (ownErs d all) u now).1 u _ _ _ now (ownPods d pods) nodes
      with hc | hc | ⟨cs, hc, hn⟩
    · exact Or.inl hc
    · exact Or.inr (Or.inl hc)
    · exact Or.inr (Or.inr ⟨cs, u, hc, hul, hn, hu⟩)

/-- the disjunctive form of the property text: the written active replica set is `""`, the previous
one, or an own replica set (listed, same namespace, name label) — in fact always the last; same for the
canary replica set. -/
theorem C12_no_adoption_names (d : EDS) (all : List ERS) (pods : List Pod) (nodes : List Node) (now : Time)
    (mode : String) (s : EDSStatus)
    (h : (reconcileEds d all pods nodes now mode).statusUpdate = some s) :
    (s.activeReplicaSet = "" ∨ s.activeReplicaSet = d.status.activeReplicaSet ∨
      ∃ e ∈ all, e.ns = d.ns ∧ SMap.get? e.labels K.edsNameLabel = some d.name ∧ e.name = s.activeReplicaSet) ∧
    (∀ cs, s.canary = some cs →
      cs.replicaSet = "" ∨ (∃ cs0, d.status.canary = some cs0 ∧ cs.replicaSet = cs0.replicaSet) ∨
      ∃ e ∈ all, e.ns = d.ns ∧ SMap.get? e.labels K.edsNameLabel = some d.name ∧ e.name = cs.replicaSet) := by
  obtain ⟨-, ⟨e, he, hn, -⟩, hc⟩ := C12_no_adoption d all pods nodes now mode s h
  constructor
  · obtain ⟨h1, h2, h3⟩ := (C12_ownErs_mem d all e).mp he
    exact Or.inr (Or.inr ⟨e, h1, h2, h3, hn.symm⟩)
  · intro cs hcs
    rcases hc with hc | ⟨-, hc⟩ | ⟨cs', e', hc, he', hn', -⟩
    · rw [hc] at hcs; cases hcs
    · rw [hc] at hcs
      exact Or.inr (Or.inl ⟨cs, hcs, rfl⟩)
    · rw [hc] at hcs
      cases hcs
      obtain ⟨h1, h2, h3⟩ := (C12_ownErs_mem d all e').mp he'
      exact Or.inr (Or.inr ⟨e', h1, h2, h3, hn'.symm⟩)

/-- **A foreign replica set is never named.**  If no own replica set bears the name `nm` (e.g. `nm` is the
name of a replica set of another namespace, or of one without the name label), no written status names
`nm` as active replica set — even if the previous status did; nor as canary replica set when the strategy
has a canary section. -/
theorem C12_foreign_never_named (d : EDS) (all : List ERS) (pods : List Pod) (nodes : List Node) (now : Time)
    (mode : String) (s : EDSStatus) (nm : String)
    (h : (reconcileEds d all pods nodes now mode).statusUpdate = some s)
    (hf : ∀ e ∈ all, e.ns = d.ns → SMap.get? e.labels K.edsNameLabel = some d.name → e.name ≠ nm) :
    s.activeReplicaSet ≠ nm ∧
    (d.strategy.canary ≠ none → ∀ cs, s.canary = some cs → cs.replicaSet ≠ nm) := by
  obtain ⟨-, ⟨e, he, hn, -⟩, hc⟩ := C12_no_adoption d all pods nodes now mode s h
  constructor
  · obtain ⟨h1, h2, h3⟩ := (C12_ownErs_mem d all e).mp he
    rw [hn]; exact hf e h1 h2 h3
  · intro hcan cs hcs
    rcases hc with hc | ⟨hc, -⟩ | ⟨cs', e', hc, he', hn', -⟩
    · rw [hc] at hcs; cases hcs
    · exact absurd hc hcan
    · rw [hc] at hcs
      cases hcs
      obtain ⟨h1, h2, h3⟩ := (C12_ownErs_mem d all e').mp he'
      rw [hn']; exact hf e' h1 h2 h3

/-! ### Non-vacuity (the small world of EdsProofs/ReconcileEds.lean: daemonset `ns/ds`, replica sets `ds-a`
(template `h1`) and `ds-b` (template `h2`)). -/

open ExReconcile

/-- a status is written; it names own replica sets. -/
example : ((reconcileEds dCanary (store 1) [] [] minute "auto").statusUpdate.map (·.activeReplicaSet)) = some "ds-a" ∧
    (ownErs dCanary (store 1)).map (·.name) = ["ds-a", "ds-b"] := by decide +kernel

/-- a canary in progress (`ds-b` not failed): the written status names `ds-a` as active and `ds-b` — the
up-to-date own replica set — as canary. -/
def storeRunning12c : List ERS := [rs "ds-a" "h1" 3 [], rs "ds-b" "h2" 1 []]
example : ((reconcileEds { dCanary with status := { dCanary.status with state := "" } } storeRunning12c [] [] minute "auto").statusUpdate.map
      (fun s => (s.activeReplicaSet, s.canary.map (·.replicaSet)))) = some ("ds-a", some "ds-b") ∧
    (upToDateOf dCanary (ownErs dCanary storeRunning12c)).map (·.name) = some "ds-b" := by decide +kernel

/-- a *foreign* replica set — same name label, same template hash, but in another namespace, and even named
by the previous status as the active one — is not adopted: the written status names the own `ds-b`. -/
def foreign12c : ERS := { rs "ds-x" "h2" 3 [] with ns := "other" }
/-- … and one of the right namespace without the name label is not adopted either. -/
def unlabelled12c : ERS := { rs "ds-y" "h2" 3 [] with labels := [] }
def dForeign12c : EDS := eds "h2" [] (status "ds-x" none)
example : (ownErs dForeign12c [foreign12c, unlabelled12c, rs "ds-b" "h2" 1 []]).map (·.name) = ["ds-b"] ∧
    ((reconcileEds dForeign12c [foreign12c, unlabelled12c, rs "ds-b" "h2" 1 []] [] [] minute "auto").statusUpdate.map
      (fun s => (s.activeReplicaSet, s.canary.map (·.replicaSet)))) = some ("ds-b", none) ∧
    ((reconcileEds { dForeign12c with status := status "ds-y" none } [foreign12c, unlabelled12c, rs "ds-b" "h2" 1 []] [] []
      minute "auto").statusUpdate.map (fun s => (s.activeReplicaSet, s.canary.map (·.replicaSet))))
      = some ("ds-b", none) := by decide +kernel

/-- with only foreign replica sets around, the reconcile creates its own and writes no status. -/
example : (reconcileEds dForeign12c [foreign12c, unlabelled12c] [] [] minute "auto").statusUpdate = none ∧
    (reconcileEds dForeign12c [foreign12c, unlabelled12c] [] [] minute "auto").created.map (·.generateName) = some "ds-" := by
  decide +kernel

/-- the middle disjunct of the canary clause is attained: a strategy without canary section carries the
previous canary block over, whatever it names. -/
def dNoCanary12c : EDS :=
  { eds "h2" [] (status "ds-b" (some ⟨"ds-zzz", ["n1"]⟩)) with strategy := { strategy with canary := none } }
example : dNoCanary12c.strategy.canary = none ∧
    ((reconcileEds dNoCanary12c [rs "ds-b" "h2" 1 []] [] [] minute "auto").statusUpdate.map
      (fun s => (s.activeReplicaSet, s.canary.map (·.replicaSet)))) = some ("ds-b", some "ds-zzz") := by decide +kernel

end Eds
