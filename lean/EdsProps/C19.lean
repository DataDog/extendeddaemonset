import EdsProofs.Cli
import EdsProofs.Conds
import EdsProps.C08
/-
  C19 — kubectl-eds canary pause / unpause / validate / fail, rolling-update pause / unpause and
  rollout freeze / unfreeze modify only the documented annotation (or condition) of the targeted
  object, refuse to act when their precondition does not hold, and the controller's next reconciles
  interpret them as documented.

  Quantification: every command, every `spec.strategy.canary` presence flag, every `status.canary`,
  every annotation map (association list, duplicates allowed unless a hypothesis says otherwise),
  every replica set / status the controller functions are applied to.

  Findings recorded here
  * `C19_frame` needs the annotation list to be self-consistent off the documented keys (true of
    every list with pairwise distinct keys, hence of every Go map); `C19_frame_needs_consistency`
    is the counterexample, `C19_frame_iff` the exact statement, `C19_frame_get` the
    hypothesis-free lookup form.
  * `C19_fail_rollback` needs "no earlier Canary-Failed entry, or the first one is already True":
    the model of `canary fail` *appends* a condition, the readers take the *first* entry
    (`C19_fail_ignored_after_false_entry`).  `C19_fail_via_updateCond` shows that writing the
    condition with the controller's own `updateCond` has no such gap.
-/
namespace Eds
open Spec.C19 CliP

/-! ## 1. Frame: only the documented keys change -/

/-- hypothesis-free form: every lookup outside the documented keys is unchanged. -/
theorem C19_frame_get (cmd : CliCmd) (h : Bool) (sc : Option CanaryStatus) (ann ann' : SMap)
    (hr : cliRun cmd h sc ann = .patchAnnotations ann') (k : String)
    (hk : (documentedKeys cmd).contains k = false) :
    SMap.get? ann' k = SMap.get? ann k := by
  obtain ⟨rfl, -⟩ := cliRun_patch hr
  -- `patchOf` sets the documented keys of the command and nothing else (`canaryFail`: nothing at all)
  cases cmd <;> simp [documentedKeys] at hk <;> simp only [patchOf]
  case canaryPause => rw [SMap.get?_set_other _ _ _ _ hk.2, SMap.get?_set_other _ _ _ _ hk.1]
  case canaryUnpause => rw [SMap.get?_set_other _ _ _ _ hk.2, SMap.get?_set_other _ _ _ _ hk.1]
  case canaryValidate =>
    cases sc with
    | none => rfl
    | some cs => exact SMap.get?_set_other _ _ _ _ hk
  case ruPause => exact SMap.get?_set_other _ _ _ _ hk
  case ruUnpause => exact SMap.get?_set_other _ _ _ _ hk
  case freeze => exact SMap.get?_set_other _ _ _ _ hk
  case unfreeze => exact SMap.get?_set_other _ _ _ _ hk

/-- the entries (not only the lookups) outside the documented keys are literally the same list. -/
theorem C19_frame_entries (cmd : CliCmd) (h : Bool) (sc : Option CanaryStatus) (ann ann' : SMap)
    (hr : cliRun cmd h sc ann = .patchAnnotations ann') :
    ann'.filter (fun e => !(documentedKeys cmd).contains e.k) =
      ann.filter (fun e => !(documentedKeys cmd).contains e.k) := by
  obtain ⟨rfl, -⟩ := cliRun_patch hr
  cases cmd <;> simp only [patchOf, documentedKeys]
  case canaryPause => rw [filter_set_off _ _ _ _ (by simp), filter_set_off _ _ _ _ (by simp)]
  case canaryUnpause => rw [filter_set_off _ _ _ _ (by simp), filter_set_off _ _ _ _ (by simp)]
  case canaryValidate =>
    cases sc with
    | none => rfl
    | some cs => exact filter_set_off _ _ _ _ (by simp)
  case ruPause => exact filter_set_off _ _ _ _ (by simp)
  case ruUnpause => exact filter_set_off _ _ _ _ (by simp)
  case freeze => exact filter_set_off _ _ _ _ (by simp)
  case unfreeze => exact filter_set_off _ _ _ _ (by simp)

/-- **exact** form: the frame predicate of the patch is the self-consistency of the input map off
the documented keys — the command itself never adds a violation. -/
theorem C19_frame_iff (cmd : CliCmd) (h : Bool) (sc : Option CanaryStatus) (ann ann' : SMap)
    (hr : cliRun cmd h sc ann = .patchAnnotations ann') :
    frameOk ann ann' (documentedKeys cmd) = frameOk ann ann (documentedKeys cmd) :=
  frameOk_of_agree ann ann' _ (C19_frame_entries cmd h sc ann ann' hr)
    (fun k hk => C19_frame_get cmd h sc ann ann' hr k hk)

/-- **Frame.** For an annotation map with pairwise distinct keys (every Go `map[string]string`)
only the documented annotation keys change. -/
theorem C19_frame (cmd : CliCmd) (h : Bool) (sc : Option CanaryStatus) (ann ann' : SMap)
    (hnd : (ann.map (·.k)).Nodup)
    (hr : cliRun cmd h sc ann = .patchAnnotations ann') :
    frameOk ann ann' (documentedKeys cmd) = true := by
  rw [C19_frame_iff cmd h sc ann ann' hr]
  exact frameOk_self ann _ hnd

/-- the weakest hypothesis: self-consistency off the documented keys. -/
theorem C19_frame_of_consistent (cmd : CliCmd) (h : Bool) (sc : Option CanaryStatus) (ann ann' : SMap)
    (hc : ∀ e ∈ ann, (documentedKeys cmd).contains e.k = false → SMap.get? ann e.k = some e.v)
    (hr : cliRun cmd h sc ann = .patchAnnotations ann') :
    frameOk ann ann' (documentedKeys cmd) = true := by
  rw [C19_frame_iff cmd h sc ann ann' hr]
  unfold frameOk
  simp only [Bool.and_self, List.all_eq_true, beq_iff_eq]
  intro e he
  have := List.mem_filter.1 he
  exact hc e this.1 (by simpa using this.2)

/-- the hypothesis cannot be dropped: with a duplicated foreign key carrying two values the
*list-level* predicate `frameOk` is already false of `(ann, ann)`, hence of `(ann, ann')`. -/
theorem C19_frame_needs_consistency :
    let ann : SMap := [⟨"x", "1"⟩, ⟨"x", "2"⟩]
    cliRun .ruPause false none ann
      = .patchAnnotations (ann ++ [⟨K.rollingUpdatePausedAnnot, "true"⟩]) ∧
    frameOk ann (ann ++ [⟨K.rollingUpdatePausedAnnot, "true"⟩]) (documentedKeys .ruPause) = false ∧
    frameOk ann ann (documentedKeys .ruPause) = false := by decide +kernel

/-! ## 2. Refusals -/

/-- **Precondition.** Without the documented precondition every command refuses. -/
theorem C19_refuses (cmd : CliCmd) (h : Bool) (sc : Option CanaryStatus) (ann : SMap)
    (hpre : precondition cmd h sc = false) :
    ∃ why, cliRun cmd h sc ann = .refused why := by
  have := cliRun_inv cmd h sc ann
  split at this
  · next why heq => exact ⟨why, heq⟩
  · rw [hpre] at this; cases this.2.1
  · rw [hpre] at this; cases this.2.1

/-- the refusal names the violated precondition. -/
theorem C19_refuses_reason (cmd : CliCmd) (h : Bool) (sc : Option CanaryStatus) (ann : SMap)
    (hpre : precondition cmd h sc = false) :
    cliRun cmd h sc ann = .refused "no-canary-strategy" ∨
    cliRun cmd h sc ann = .refused "no-active-canary" ∨
    cliRun cmd h sc ann = .refused "active-canary" := by
  obtain ⟨why, hw⟩ := C19_refuses cmd h sc ann hpre
  -- the refusal branch of `cliRun_inv`, the precondition being false, lists the three reasons
  have := cliRun_inv cmd h sc ann
  rw [hw] at this
  simp only [hpre, Bool.false_eq_true, if_false] at this
  rw [hw]
  simpa only [CliOut.refused.injEq] using this

/-- "the object is already in the requested state". -/
def C19.already (cmd : CliCmd) (sc : Option CanaryStatus) (ann : SMap) : Bool :=
  match cmd with
  | .canaryPause => SMap.get? ann K.canaryPausedAnnot == some "true"
  | .canaryUnpause => SMap.get? ann K.canaryPausedAnnot == some "false"
  | .canaryValidate =>
    (match sc with
     | some cs => SMap.get? ann K.canaryValidAnnot == some cs.replicaSet
     | none => false)
  | .canaryFail => false
  | .ruPause => SMap.get? ann K.rollingUpdatePausedAnnot == some "true"
  | .ruUnpause => SMap.get? ann K.rollingUpdatePausedAnnot == some "false" ||
                  (SMap.get? ann K.rollingUpdatePausedAnnot).isNone
  | .freeze => SMap.get? ann K.rolloutFrozenAnnot == some "true"
  | .unfreeze => SMap.get? ann K.rolloutFrozenAnnot == some "false" ||
                 (SMap.get? ann K.rolloutFrozenAnnot).isNone

theorem C19.already_eq (cmd : CliCmd) (sc : Option CanaryStatus) (ann : SMap) :
    C19.already cmd sc ann = alreadyInState cmd sc ann := rfl

/-- **Already in the requested state**: canary pause when the paused annotation is `true`, canary
unpause when it is `false`, validate when canary-valid already names `status.canary.replicaSet`,
rolling-update pause / freeze when already `true`, rolling-update unpause / unfreeze when `false`
or absent — all refuse, whatever the other inputs. -/
theorem C19_refuses_already (cmd : CliCmd) (h : Bool) (sc : Option CanaryStatus) (ann : SMap)
    (hal : C19.already cmd sc ann = true) :
    ∃ why, cliRun cmd h sc ann = .refused why := by
  have := cliRun_inv cmd h sc ann
  split at this
  · next why heq => exact ⟨why, heq⟩
  · rw [C19.already_eq, this.2.2.1] at hal; cases hal
  · rw [this.1] at hal; cases hal

/-- the individual clauses, spelled out. -/
theorem C19_refuses_already_clauses (h : Bool) (cs : CanaryStatus) (ann : SMap) :
    (SMap.get? ann K.canaryPausedAnnot = some "true" →
      cliRun .canaryPause true (some cs) ann = .refused "already-paused") ∧
    (SMap.get? ann K.canaryPausedAnnot = some "false" →
      cliRun .canaryUnpause true (some cs) ann = .refused "not-paused") ∧
    (SMap.get? ann K.canaryValidAnnot = some cs.replicaSet →
      cliRun .canaryValidate h (some cs) ann = .refused "already-validated") ∧
    (SMap.get? ann K.rollingUpdatePausedAnnot = some "true" →
      cliRun .ruPause h none ann = .refused "already") ∧
    (SMap.get? ann K.rollingUpdatePausedAnnot = some "false" ∨ SMap.get? ann K.rollingUpdatePausedAnnot = none →
      cliRun .ruUnpause h none ann = .refused "not-set") ∧
    (SMap.get? ann K.rolloutFrozenAnnot = some "true" →
      cliRun .freeze h none ann = .refused "already") ∧
    (SMap.get? ann K.rolloutFrozenAnnot = some "false" ∨ SMap.get? ann K.rolloutFrozenAnnot = none →
      cliRun .unfreeze h none ann = .refused "not-set") := by
  refine ⟨?_, ?_, ?_, ?_, ?_, ?_, ?_⟩
  · intro hg; simp [cliRun, hg]
  · intro hg; simp [cliRun, hg]
  · intro hg; simp [cliRun, hg]
  · intro hg; simp [cliRun, hg]
  · intro hg; rcases hg with hg | hg <;> simp [cliRun, hg]
  · intro hg; simp [cliRun, hg]
  · intro hg; rcases hg with hg | hg <;> simp [cliRun, hg]

/-- **Completeness of the refusals**: a command whose precondition holds and whose target is not
already in the requested state acts, and it acts exactly as documented (`canary fail` on the
replica set's status, the others by the annotation patch `patchOf`). -/
theorem C19_acts (cmd : CliCmd) (h : Bool) (sc : Option CanaryStatus) (ann : SMap)
    (hpre : precondition cmd h sc = true) (hal : C19.already cmd sc ann = false) :
    (cmd ≠ .canaryFail → cliRun cmd h sc ann = .patchAnnotations (patchOf cmd sc ann)) ∧
    (cmd = .canaryFail → ∃ cs, sc = some cs ∧ cliRun cmd h sc ann = .failErs cs.replicaSet) := by
  have := cliRun_inv cmd h sc ann
  split at this
  · rw [if_pos hpre, ← C19.already_eq, hal] at this; cases this
  · next ann' heq => exact ⟨fun _ => by rw [heq, this.2.2.2], fun hc => absurd hc this.1⟩
  · next name heq =>
    refine ⟨fun hc => absurd this.1 hc, fun _ => ?_⟩
    cases sc with
    | none => cases this.2.2
    | some cs => exact ⟨cs, rfl, by rw [heq, ← Option.some.inj this.2.2]⟩

/-- the specification predicate evaluated on the implementation (`Spec.C19.mustAct`) is the hypothesis
of `C19_acts`: such a command is never refused — e.g. `canary unpause` on a canary the controller
paused by itself, where the ExtendedDaemonSet carries no canary-paused annotation at all. -/
theorem C19_acts_when_applicable (cmd : CliCmd) (h : Bool) (sc : Option CanaryStatus) (ann : SMap)
    (hm : mustAct cmd h sc ann = true) : ∀ why, cliRun cmd h sc ann ≠ .refused why := by
  simp only [mustAct, Bool.and_eq_true, Bool.not_eq_true'] at hm
  obtain ⟨hpre, hna⟩ := hm
  obtain ⟨h1, h2⟩ := C19_acts cmd h sc ann hpre hna
  intro why
  by_cases hc : cmd = .canaryFail
  · obtain ⟨cs, _, e⟩ := h2 hc; rw [e]; simp
  · rw [h1 hc]; simp

example : mustAct .canaryUnpause true (some { replicaSet := "foo-b", nodes := ["n1"] }) [] = true := by decide +kernel

/-- a patch is produced exactly when the precondition holds and the state is not already there. -/
theorem C19_patch_iff (cmd : CliCmd) (h : Bool) (sc : Option CanaryStatus) (ann : SMap) :
    (∃ ann', cliRun cmd h sc ann = .patchAnnotations ann') ↔
      (cmd ≠ .canaryFail ∧ precondition cmd h sc = true ∧ C19.already cmd sc ann = false) := by
  constructor
  · rintro ⟨ann', hr⟩
    have := cliRun_inv cmd h sc ann
    rw [hr] at this
    exact ⟨this.1, this.2.1, this.2.2.1⟩
  · rintro ⟨hne, hpre, hal⟩
    exact ⟨_, (C19_acts cmd h sc ann hpre hal).1 hne⟩

/-! ## 3. The documented value is written -/

theorem C19_writes (cmd : CliCmd) (h : Bool) (sc : Option CanaryStatus) (ann ann' : SMap)
    (hr : cliRun cmd h sc ann = .patchAnnotations ann') :
    writtenOk cmd sc ann' = true := by
  obtain ⟨rfl, hpre⟩ := cliRun_patch hr
  cases cmd <;> simp only [patchOf, writtenOk]
  case canaryPause =>
    rw [SMap.get?_set_self, SMap.get?_set_other _ _ _ _ paused_ne_unpaused, SMap.get?_set_self]; rfl
  case canaryUnpause =>
    rw [SMap.get?_set_self, SMap.get?_set_other _ _ _ _ paused_ne_unpaused, SMap.get?_set_self]; rfl
  case canaryValidate =>
    cases sc with
    | none => cases hpre
    | some cs => exact beq_iff_eq.2 (SMap.get?_set_self _ _ _)
  case ruPause => rw [SMap.get?_set_self]; rfl
  case ruUnpause => rw [SMap.get?_set_self]; rfl
  case freeze => rw [SMap.get?_set_self]; rfl
  case unfreeze => rw [SMap.get?_set_self]; rfl

/-! ## 4. `canary fail` targets the canary replica set and nothing else -/

theorem C19_fail_never_patches (h : Bool) (sc : Option CanaryStatus) (ann ann' : SMap) :
    cliRun .canaryFail h sc ann ≠ .patchAnnotations ann' := by
  intro hr
  have := cliRun_inv .canaryFail h sc ann
  rw [hr] at this
  exact this.1 rfl

theorem C19_fail_targets_canary_ers (cs : CanaryStatus) (ann : SMap) :
    cliRun .canaryFail true (some cs) ann = .failErs cs.replicaSet ∧
    (∀ (h : Bool) (sc : Option CanaryStatus) (ann' : SMap),
        cliRun .canaryFail h sc ann ≠ .patchAnnotations ann') :=
  ⟨rfl, fun h sc ann' => C19_fail_never_patches h sc ann ann'⟩

/-- whenever `canary fail` acts, the named replica set is `status.canary.replicaSet`. -/
theorem C19_fail_only_canary_ers (h : Bool) (sc : Option CanaryStatus) (ann : SMap) (name : String)
    (hr : cliRun .canaryFail h sc ann = .failErs name) :
    h = true ∧ ∃ cs, sc = some cs ∧ name = cs.replicaSet := by
  cases h <;> cases sc <;> simp [cliRun] at hr
  exact ⟨rfl, _, rfl, hr.symm⟩

/-- no other command touches a replica set. -/
theorem C19_only_fail_touches_ers (cmd : CliCmd) (h : Bool) (sc : Option CanaryStatus) (ann : SMap)
    (name : String) (hr : cliRun cmd h sc ann = .failErs name) : cmd = .canaryFail := by
  have := cliRun_inv cmd h sc ann
  rw [hr] at this
  exact this.1

/-! ## 5. Interpretation by the controller -/

/-! ### a. pause -/

theorem C19_pause_annotations (h : Bool) (sc : Option CanaryStatus) (ann ann' : SMap)
    (hr : cliRun .canaryPause h sc ann = .patchAnnotations ann') :
    SMap.get? ann' K.canaryPausedAnnot = some "true" ∧ isCanaryUnpaused ann' = false := by
  have hw := C19_writes _ _ _ _ _ hr
  simp only [writtenOk, Bool.and_eq_true, beq_iff_eq] at hw
  refine ⟨hw.1, ?_⟩
  unfold isCanaryUnpaused; rw [hw.2]; decide

/-- **Pause ⇒ "Canary Paused".** After a successful `canary pause` the controller's pause reader
answers `true` for every replica set (and for none), so an active, not failed canary is reported
as `Canary Paused`. -/
theorem C19_pause_state (cs : CanaryStatus) (ann ann' : SMap)
    (hr : cliRun .canaryPause true (some cs) ann = .patchAnnotations ann') :
    (∀ ers : Option ERS, (isCanaryPaused ann' ers).1 = true) ∧
    (∀ (st : EDSStatus) (u : ERS) (reason : String),
        (manageStatus st u true false true reason ann').state = "Canary Paused") ∧
    (∀ (st : EDSStatus) (u : ERS),
        (manageStatus st u true false (isCanaryPaused ann' (some u)).1 (isCanaryPaused ann' (some u)).2 ann').state
          = "Canary Paused") := by
  have hp := (C19_pause_annotations _ _ _ _ hr).1
  have hall : ∀ ers : Option ERS, (isCanaryPaused ann' ers).1 = true := by
    intro ers
    unfold isCanaryPaused
    cases ers with
    | none => simp [hp]
    | some e => by_cases hc : isCondTrue e.status.conds "Canary-Paused" = true <;> simp [hc, hp]
  refine ⟨hall, ?_, ?_⟩
  · intro st u reason; rw [C08_canary_state]; rfl
  · intro st u; rw [C08_canary_state, hall]; rfl

/-- and a paused canary is not promoted by elapsed time (only by an explicit validation). -/
theorem C19_pause_blocks_promotion (cs : CanaryStatus) (ann ann' : SMap) (c : Canary) (a u : ERS) (now : Time)
    (hr : cliRun .canaryPause true (some cs) ann = .patchAnnotations ann')
    (hv : isCanaryValid ann' u.name = false) :
    (selectCurrent (some c) ann' (some a) u false now).1 = .active :=
  C05_paused_never_by_time c ann' a u now ((C19_pause_state cs ann ann' hr).1 _) hv

/-! ### b. unpause -/

/-- **Unpause ⇒ "Canary".** -/
theorem C19_unpause_annotations (cs : CanaryStatus) (ann ann' : SMap)
    (hr : cliRun .canaryUnpause true (some cs) ann = .patchAnnotations ann') :
    isCanaryUnpaused ann' = true ∧
    SMap.get? ann' K.canaryPausedAnnot = some "false" ∧
    (∀ u : ERS, isCondTrue u.status.conds "Canary-Paused" = false →
        (isCanaryPaused ann' (some u)).1 = false ∧
        (∀ st : EDSStatus, (manageStatus st u true false false "" ann').state = "Canary") ∧
        (∀ st : EDSStatus,
          (manageStatus st u true false (isCanaryPaused ann' (some u)).1 (isCanaryPaused ann' (some u)).2 ann').state
            = "Canary")) ∧
    (isCanaryPaused ann' none).1 = false := by
  have hw := C19_writes _ _ _ _ _ hr
  simp only [writtenOk, Bool.and_eq_true, beq_iff_eq] at hw
  have hnp : ∀ u : ERS, isCondTrue u.status.conds "Canary-Paused" = false →
      (isCanaryPaused ann' (some u)).1 = false := by
    intro u hu
    rw [C08_pause_sources, hu, hw.1]; decide
  refine ⟨?_, hw.1, ?_, ?_⟩
  · unfold isCanaryUnpaused; rw [hw.2]; decide
  · intro u hu
    refine ⟨hnp u hu, ?_, ?_⟩
    · intro st; rw [C08_canary_state]; rfl
    · intro st; rw [C08_canary_state, hnp u hu]; rfl
  · simp [isCanaryPaused, hw.1]

/-- the annotation written by `unpause` does not override a pause the controller itself recorded on
the replica set (auto-pause): that one is lifted by `isCanaryUnpaused` inside the canary strategy
(EdsProps/C06.lean, `C08_canary_resumes_on_unpause`), not by the annotation reader. -/
theorem C19_unpause_keeps_ers_pause (ann' : SMap) (u : ERS)
    (hu : isCondTrue u.status.conds "Canary-Paused" = true) :
    (isCanaryPaused ann' (some u)).1 = true := by
  rw [C08_pause_sources, hu]; rfl

/-! ### c. validate -/

/-- **Validate promotes exactly the replica set that was the canary when the command ran.** -/
theorem C19_validate_exact (h : Bool) (cs : CanaryStatus) (ann ann' : SMap)
    (hr : cliRun .canaryValidate h (some cs) ann = .patchAnnotations ann') :
    (∀ u : ERS, isCanaryValid ann' u.name = true ↔ u.name = cs.replicaSet) ∧
    (∀ (c : Canary) (a u : ERS) (now : Time), u.name = cs.replicaSet →
        (selectCurrent (some c) ann' (some a) u false now).1 = .upToDate) ∧
    (∀ u' : ERS, u'.name ≠ cs.replicaSet → isCanaryValid ann' u'.name = false) ∧
    (∀ (c : Canary) (a u' : ERS) (now : Time), u'.name ≠ cs.replicaSet →
        ((isCanaryPaused ann' (some u')).1 = true ∨ isCanaryFailed (some u') = true ∨
          (isCanaryEnded (some c) u' now).1 = false) →
        (selectCurrent (some c) ann' (some a) u' false now).1 = .active) := by
  have hw := C19_writes _ _ _ _ _ hr
  simp only [writtenOk, beq_iff_eq] at hw
  have hiff : ∀ u : ERS, isCanaryValid ann' u.name = true ↔ u.name = cs.replicaSet := by
    intro u
    unfold isCanaryValid
    rw [hw]
    simp only [beq_iff_eq, Option.some.injEq]
    exact eq_comm
  have hne : ∀ u' : ERS, u'.name ≠ cs.replicaSet → isCanaryValid ann' u'.name = false :=
    fun u' hu' => Bool.eq_false_iff.2 (mt (hiff u').1 hu')
  refine ⟨hiff, ?_, hne, ?_⟩
  · intro c a u now hu
    exact C05_valid_promotes c ann' a u now ((hiff u).2 hu)
  · intro c a u' now hu' hblock
    have hv := hne u' hu'
    rcases hblock with hp | hf | he
    · exact C05_paused_never_by_time c ann' a u' now hp hv
    · exact C05_failed_never_by_time c ann' a u' now hf hv
    · simp [selectCurrent, hv, he]

/-- the validation does not touch the pause annotations (frame), so a paused later replica set
stays paused. -/
theorem C19_validate_keeps_pause (h : Bool) (cs : CanaryStatus) (ann ann' : SMap) (ers : Option ERS)
    (hr : cliRun .canaryValidate h (some cs) ann = .patchAnnotations ann') :
    isCanaryPaused ann' ers = isCanaryPaused ann ers ∧ isCanaryUnpaused ann' = isCanaryUnpaused ann := by
  have h1 := C19_frame_get _ _ _ _ _ hr K.canaryPausedAnnot
    (by simp [documentedKeys, K.canaryValidAnnot, K.canaryPausedAnnot])
  have h2 := C19_frame_get _ _ _ _ _ hr K.canaryPausedReasonAnnot
    (by simp [documentedKeys, K.canaryValidAnnot, K.canaryPausedReasonAnnot])
  have h3 := C19_frame_get _ _ _ _ _ hr K.canaryUnpausedAnnot
    (by simp [documentedKeys, K.canaryValidAnnot, K.canaryUnpausedAnnot])
  unfold isCanaryPaused isCanaryUnpaused
  rw [h1, h2, h3]
  exact ⟨rfl, rfl⟩

/-! ### d. fail -/

/-- what `canary fail` does to the named replica set. -/
def C19.failedErs (ers : ERS) (t : Time) : ERS :=
  { ers with status := { ers.status with conds := ers.status.conds ++
      [{ type := "Canary-Failed", status := "True", lastTransition := t, lastUpdate := t,
         reason := "Manually failed", message := "" }] } }

/-- exact reading of the appended condition: the readers see the *first* Canary-Failed entry. -/
theorem C19_fail_reads (ers : ERS) (t : Time) :
    isCanaryFailed (some (C19.failedErs ers t)) =
      match findCond ers.status.conds "Canary-Failed" with
      | none => true
      | some c => c.status == "True" := by
  unfold isCanaryFailed isCondTrue C19.failedErs
  simp only [findCond_append]
  cases findCond ers.status.conds "Canary-Failed" <;> rfl

/-- **Fail ⇒ rollback**, provided the replica set has no earlier Canary-Failed entry or its first
one is already True. -/
theorem C19_fail_rollback (ers : ERS) (t : Time)
    (hfirst : findCond ers.status.conds "Canary-Failed" = none ∨
              isCondTrue ers.status.conds "Canary-Failed" = true) :
    let ers' : ERS := { ers with status := { ers.status with conds := ers.status.conds ++
      [{ type := "Canary-Failed", status := "True", lastTransition := t, lastUpdate := t,
         reason := "Manually failed", message := "" }] } }
    isCanaryFailed (some ers') = true := by
  intro ers'
  show isCanaryFailed (some (C19.failedErs ers t)) = true
  rw [C19_fail_reads]
  rcases hfirst with hn | ht
  · rw [hn]
  · unfold isCondTrue at ht
    cases hf : findCond ers.status.conds "Canary-Failed" with
    | none => rfl
    | some c => rw [hf] at ht; exact ht

/-- … and what the controller then does: the state is `Canary Failed`, `status.canary` is cleared,
the canary is no longer active and elapsed time never promotes the failed replica set. -/
theorem C19_fail_rollback_state (ers : ERS) (t : Time)
    (hfirst : findCond ers.status.conds "Canary-Failed" = none ∨
              isCondTrue ers.status.conds "Canary-Failed" = true)
    (st : EDSStatus) (active paused : Bool) (reason : String) (ann : SMap)
    (canary : Option Canary) (c : Canary) (a : ERS) (now : Time) :
    let ers' := C19.failedErs ers t
    (manageStatus st ers' active (isCanaryFailed (some ers')) paused reason ann).state = "Canary Failed" ∧
    (manageStatus st ers' active (isCanaryFailed (some ers')) paused reason ann).canary = none ∧
    isCanaryActive canary a.name ers'.name (isCanaryFailed (some ers')) = false ∧
    (isCanaryValid ann ers'.name = false →
      (selectCurrent (some c) ann (some a) ers' false now).1 = .active) := by
  intro ers'
  have hf : isCanaryFailed (some ers') = true := C19_fail_rollback ers t hfirst
  refine ⟨?_, ?_, ?_, ?_⟩
  · rw [hf]; simp [manageStatus]
  · rw [hf]; simp [manageStatus]
  · rw [hf]; simp [isCanaryActive]
  · intro hv; exact C05_failed_never_by_time c ann a ers' now hf hv

/-- **Counterexample to the unconditional statement** (general form): if the replica set already
carries a Canary-Failed entry that is not True (the controller's own reconcile never writes one —
`updateCond … "False" … writeFalseIfNotExist := false` — but nothing forbids it on the object), the
appended True entry is shadowed and the command has no effect on the controller. -/
theorem C19_fail_ignored_after_false_entry (ers : ERS) (t : Time) (c : Cond)
    (hc : findCond ers.status.conds "Canary-Failed" = some c) (hs : c.status ≠ "True") :
    isCanaryFailed (some (C19.failedErs ers t)) = false := by
  rw [C19_fail_reads, hc]
  simpa using hs

/-- … on a concrete replica set. -/
theorem C19_fail_ignored_after_false_entry_ex :
    let ers := exErs "canary" 0 [⟨"Canary-Failed", "False", 0, 0, "", ""⟩]
    let ers' : ERS := { ers with status := { ers.status with conds := ers.status.conds ++
      [{ type := "Canary-Failed", status := "True", lastTransition := 5, lastUpdate := 5,
         reason := "Manually failed", message := "" }] } }
    isCanaryFailed (some ers') = false := by decide +kernel

/-! Writing the condition the way the controller does (`updateCond`, which rewrites the first
entry) closes the gap. -/

theorem C19_fail_via_updateCond (cs : List Cond) (now : Time) (reason desc : String) (w s : Bool) :
    isCondTrue (updateCond cs now "Canary-Failed" "True" reason desc w s) "Canary-Failed" = true :=
  isCondTrue_updateCond_same cs now "Canary-Failed" true reason desc w s

/-! ### e. rolling-update pause / unpause, freeze / unfreeze -/

/-- a command that does not document the key of a flag leaves that flag as it was: the rolling-update
commands the freeze flag, the freeze commands the pause flag. -/
theorem flags_frame (cmd : CliCmd) (h : Bool) (sc : Option CanaryStatus) (ann ann' : SMap)
    (hr : cliRun cmd h sc ann = .patchAnnotations ann') :
    ((documentedKeys cmd).contains K.rollingUpdatePausedAnnot = false →
      isRollingUpdatePaused ann' = isRollingUpdatePaused ann) ∧
    ((documentedKeys cmd).contains K.rolloutFrozenAnnot = false →
      isRolloutFrozen ann' = isRolloutFrozen ann) := by
  refine ⟨fun hk => ?_, fun hk => ?_⟩
  · rw [(C08_flags ann').1, (C08_flags ann).1, C19_frame_get cmd h sc ann ann' hr _ hk]
  · rw [(C08_flags ann').2, (C08_flags ann).2, C19_frame_get cmd h sc ann ann' hr _ hk]

theorem C19_rupause_stops_updates (h : Bool) (sc : Option CanaryStatus) (ann ann' : SMap)
    (hr : cliRun .ruPause h sc ann = .patchAnnotations ann') :
    isRollingUpdatePaused ann' = true ∧ isRolloutFrozen ann' = isRolloutFrozen ann ∧
    (∀ (c : Counts) (N ms mu mc : Int) (frozen : Bool),
        (rollingPlan c N ms mu mc (isRollingUpdatePaused ann') frozen).2 = []) := by
  have hw := C19_writes _ _ _ _ _ hr
  simp only [writtenOk, beq_iff_eq] at hw
  have hp : isRollingUpdatePaused ann' = true := by
    rw [(C08_flags ann').1, hw]; rfl
  refine ⟨hp, ?_, ?_⟩
  · exact (flags_frame _ _ _ _ _ hr).2 (by simp [documentedKeys, K.rolloutFrozenAnnot, K.rollingUpdatePausedAnnot])
  · intro c N ms mu mc frozen
    rw [hp]; exact (C08_paused_no_update_delete c N ms mu mc frozen).1

theorem C19_ruunpause (h : Bool) (sc : Option CanaryStatus) (ann ann' : SMap)
    (hr : cliRun .ruUnpause h sc ann = .patchAnnotations ann') :
    isRollingUpdatePaused ann' = false ∧ isRolloutFrozen ann' = isRolloutFrozen ann := by
  have hw := C19_writes _ _ _ _ _ hr
  simp only [writtenOk, beq_iff_eq] at hw
  refine ⟨?_, ?_⟩
  · rw [(C08_flags ann').1, hw]; decide
  · exact (flags_frame _ _ _ _ _ hr).2 (by simp [documentedKeys, K.rolloutFrozenAnnot, K.rollingUpdatePausedAnnot])

theorem C19_freeze (h : Bool) (sc : Option CanaryStatus) (ann ann' : SMap)
    (hr : cliRun .freeze h sc ann = .patchAnnotations ann') :
    isRolloutFrozen ann' = true ∧ isRollingUpdatePaused ann' = isRollingUpdatePaused ann ∧
    (∀ (c : Counts) (N ms mu mc : Int) (paused : Bool),
        rollingPlan c N ms mu mc paused (isRolloutFrozen ann') = ([], [])) := by
  have hw := C19_writes _ _ _ _ _ hr
  simp only [writtenOk, beq_iff_eq] at hw
  have hp : isRolloutFrozen ann' = true := by
    rw [(C08_flags ann').2, hw]; rfl
  refine ⟨hp, ?_, ?_⟩
  · exact (flags_frame _ _ _ _ _ hr).1 (by simp [documentedKeys, K.rolloutFrozenAnnot, K.rollingUpdatePausedAnnot])
  · intro c N ms mu mc paused
    rw [hp]; exact C08_frozen_nothing c N ms mu mc paused

theorem C19_unfreeze (h : Bool) (sc : Option CanaryStatus) (ann ann' : SMap)
    (hr : cliRun .unfreeze h sc ann = .patchAnnotations ann') :
    isRolloutFrozen ann' = false ∧ isRollingUpdatePaused ann' = isRollingUpdatePaused ann := by
  have hw := C19_writes _ _ _ _ _ hr
  simp only [writtenOk, beq_iff_eq] at hw
  refine ⟨?_, ?_⟩
  · rw [(C08_flags ann').2, hw]; decide
  · exact (flags_frame _ _ _ _ _ hr).1 (by simp [documentedKeys, K.rolloutFrozenAnnot, K.rollingUpdatePausedAnnot])

/-- the state string the next reconcile reports outside a canary. -/
theorem C19_noncanary_state (h : Bool) (sc : Option CanaryStatus) (ann ann' : SMap) :
    (cliRun .freeze h sc ann = .patchAnnotations ann' → nonCanaryState ann' = "Rollout frozen") ∧
    (cliRun .ruPause h sc ann = .patchAnnotations ann' →
      nonCanaryState ann' = if isRolloutFrozen ann then "Rollout frozen" else "RollingUpdate Paused") ∧
    (cliRun .ruUnpause h sc ann = .patchAnnotations ann' →
      nonCanaryState ann' = if isRolloutFrozen ann then "Rollout frozen" else "Running") ∧
    (cliRun .unfreeze h sc ann = .patchAnnotations ann' →
      nonCanaryState ann' = if isRollingUpdatePaused ann then "RollingUpdate Paused" else "Running") := by
  refine ⟨?_, ?_, ?_, ?_⟩ <;> intro hr <;> rw [C08_state]
  · rw [(C19_freeze _ _ _ _ hr).1]; rfl
  · rw [(C19_rupause_stops_updates _ _ _ _ hr).1, (C19_rupause_stops_updates _ _ _ _ hr).2.1]; rfl
  · rw [(C19_ruunpause _ _ _ _ hr).1, (C19_ruunpause _ _ _ _ hr).2]; rfl
  · rw [(C19_unfreeze _ _ _ _ hr).1, (C19_unfreeze _ _ _ _ hr).2]; rfl

/-! ## Concrete runs (non-vacuity) -/

def exAnn19 : SMap := [⟨"owner", "team-a"⟩, ⟨K.canaryValidAnnot, "rs-0"⟩]
def exCs19 : CanaryStatus := { replicaSet := "rs-1", nodes := ["n1"] }

-- pause: two keys appended, the rest untouched; a second pause is refused
example : cliRun .canaryPause true (some exCs19) exAnn19 = .patchAnnotations
    [⟨"owner", "team-a"⟩, ⟨K.canaryValidAnnot, "rs-0"⟩, ⟨K.canaryPausedAnnot, "true"⟩,
     ⟨K.canaryUnpausedAnnot, "false"⟩] := by decide +kernel
example : cliRun .canaryPause true (some exCs19)
    (exAnn19 ++ [⟨K.canaryPausedAnnot, "true"⟩, ⟨K.canaryUnpausedAnnot, "false"⟩]) = .refused "already-paused" := by decide +kernel
-- unpause after pause: both keys flipped in place
example : cliRun .canaryUnpause true (some exCs19)
    (exAnn19 ++ [⟨K.canaryPausedAnnot, "true"⟩, ⟨K.canaryUnpausedAnnot, "false"⟩]) = .patchAnnotations
    [⟨"owner", "team-a"⟩, ⟨K.canaryValidAnnot, "rs-0"⟩, ⟨K.canaryPausedAnnot, "false"⟩,
     ⟨K.canaryUnpausedAnnot, "true"⟩] := by decide +kernel
-- preconditions
example : cliRun .canaryPause false (some exCs19) exAnn19 = .refused "no-canary-strategy" := by decide +kernel
example : cliRun .canaryPause true none exAnn19 = .refused "no-active-canary" := by decide +kernel
example : cliRun .canaryFail true none exAnn19 = .refused "no-active-canary" := by decide +kernel
example : cliRun .ruPause true (some exCs19) exAnn19 = .refused "active-canary" := by decide +kernel
example : cliRun .freeze true (some exCs19) exAnn19 = .refused "active-canary" := by decide +kernel
example : cliRun .ruUnpause false none exAnn19 = .refused "not-set" := by decide +kernel
example : cliRun .unfreeze false none exAnn19 = .refused "not-set" := by decide +kernel
-- validate overwrites the stale value with the canary of *now* (rs-1), not a later rs-2
example : cliRun .canaryValidate true (some exCs19) exAnn19 = .patchAnnotations
    [⟨"owner", "team-a"⟩, ⟨K.canaryValidAnnot, "rs-1"⟩] := by decide +kernel
example : isCanaryValid [⟨"owner", "team-a"⟩, ⟨K.canaryValidAnnot, "rs-1"⟩] "rs-1" = true ∧
          isCanaryValid [⟨"owner", "team-a"⟩, ⟨K.canaryValidAnnot, "rs-1"⟩] "rs-2" = false := by decide +kernel
example : cliRun .canaryValidate true (some exCs19) [⟨K.canaryValidAnnot, "rs-1"⟩] = .refused "already-validated" := by decide +kernel
-- the controller on the validated map: rs-1 promoted at once, a later rs-2 (manual mode) is not
example : (selectCurrent (some { exCanary with duration := none, validationMode := "manual" })
    [⟨"owner", "team-a"⟩, ⟨K.canaryValidAnnot, "rs-1"⟩] (some (exErs "rs-0" 0 [])) (exErs "rs-1" 0 []) false 1).1
      = .upToDate := by decide +kernel
example : (selectCurrent (some { exCanary with duration := none, validationMode := "manual" })
    [⟨"owner", "team-a"⟩, ⟨K.canaryValidAnnot, "rs-1"⟩] (some (exErs "rs-0" 0 [])) (exErs "rs-2" 0 []) false 1).1
      = .active := by decide +kernel
-- frame and written value on the concrete runs
example : frameOk exAnn19 [⟨"owner", "team-a"⟩, ⟨K.canaryValidAnnot, "rs-0"⟩, ⟨K.canaryPausedAnnot, "true"⟩,
    ⟨K.canaryUnpausedAnnot, "false"⟩] (documentedKeys .canaryPause) = true := by decide +kernel
example : frameOk exAnn19 [⟨"owner", "team-b"⟩, ⟨K.canaryValidAnnot, "rs-0"⟩, ⟨K.canaryPausedAnnot, "true"⟩,
    ⟨K.canaryUnpausedAnnot, "false"⟩] (documentedKeys .canaryPause) = false := by decide +kernel
example : frameOk exAnn19 (exAnn19 ++ [⟨"extra", "1"⟩, ⟨K.rolloutFrozenAnnot, "true"⟩]) (documentedKeys .freeze) = false := by decide +kernel
-- rolling-update pause / freeze and their state strings
example : cliRun .ruPause false none exAnn19 = .patchAnnotations (exAnn19 ++ [⟨K.rollingUpdatePausedAnnot, "true"⟩]) := by decide +kernel
example : nonCanaryState (exAnn19 ++ [⟨K.rollingUpdatePausedAnnot, "true"⟩]) = "RollingUpdate Paused" := by decide +kernel
example : cliRun .unfreeze false none (exAnn19 ++ [⟨K.rolloutFrozenAnnot, "true"⟩]) =
    .patchAnnotations (exAnn19 ++ [⟨K.rolloutFrozenAnnot, "false"⟩]) := by decide +kernel
example : nonCanaryState (exAnn19 ++ [⟨K.rolloutFrozenAnnot, "false"⟩]) = "Running" := by decide +kernel
-- `set` rewrites every duplicate of the written key, so even a malformed list reads back the new value
example : cliRun .freeze false none [⟨K.rolloutFrozenAnnot, "false"⟩, ⟨K.rolloutFrozenAnnot, "no"⟩] =
    .patchAnnotations [⟨K.rolloutFrozenAnnot, "true"⟩, ⟨K.rolloutFrozenAnnot, "true"⟩] := by decide +kernel
-- fail: first-entry reading
example : isCanaryFailed (some (C19.failedErs (exErs "rs-1" 0 []) 7)) = true := by decide +kernel
example : isCanaryFailed (some (C19.failedErs (exErs "rs-1" 0 [⟨"Canary-Failed", "True", 1, 1, "CanaryFailed", ""⟩]) 7)) = true := by decide +kernel
example : isCanaryFailed (some (C19.failedErs (exErs "rs-1" 0 [⟨"Canary-Failed", "False", 1, 1, "", ""⟩]) 7)) = false := by decide +kernel

end Eds
