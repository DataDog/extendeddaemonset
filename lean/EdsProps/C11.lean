import EdsProps.C01
import EdsProps.C03
import EdsProps.C07
/-
  C11 — Any failed API call or controller crash is recovered without breaking safety.

  Shape of the argument (DESIGN.md §9 C11):
  * the controllers keep no decision state outside the API objects: the L2 models are functions of
    the store (plus the failed-pod back-off, over which every safety theorem is quantified), so a
    fresh instance on whatever store a crash left behaves like any other reconcile;
  * every safety predicate on a reconcile's writes is *downward closed*: it still holds of any
    subset of the writes (a rejected call, an answer lost after the call was applied, a process
    stop after k writes all leave a subset applied);
  * the one sequential two-write plan (status, then spec of the EDS rollback) is re-planned from
    whatever the first write left (C07_recoverable).
  Convergence after the fault to the same final state is C02's statement (partial there); the
  scenario_faults stream checks it on the real reconcilers for every fault index and kind.
-/
namespace Eds
open Spec.C03

/-- a predicate required of every element of a write list survives dropping writes. -/
theorem C11_all_sublist {α} (P : α → Prop) (applied planned : List α) (h : applied.Sublist planned)
    (hp : ∀ x ∈ planned, P x) : ∀ x ∈ applied, P x :=
  fun x hx => hp x (h.subset hx)

/-- "never two creations for one node" survives dropping writes. -/
theorem C11_nodup_sublist (applied planned : List NodeItem) (h : applied.Sublist planned)
    (hn : (planned.map (·.node.name)).Nodup) : (applied.map (·.node.name)).Nodup :=
  (h.map _).nodup hn

/-- the availability budget survives dropping deletions: a subset of the planned deletions removes
no more available pods than the plan. -/
theorem C11_budget_sublist (applied planned : List (NodeItem × Pod)) (h : applied.Sublist planned) :
    availDeleted applied ≤ availDeleted planned := by
  unfold availDeleted
  have := (h.filter (fun e => e.2.available)).length_le
  omega

/-- **Safety under faults, active role**: whatever subset of the planned update-deletions is
applied, the budget, the cap and "creation only on empty eligible nodes, at most one per node" hold. -/
theorem C11_safe_under_faults_active (p : StratParams) (now wall : Time) (cf : Bool) (r : StratResult)
    (h : manageDeployment p now wall cf = .ok r)
    (appliedDel : List (NodeItem × Pod)) (appliedCre : List NodeItem)
    (hd : appliedDel.Sublist r.deleteE) (hc : appliedCre.Sublist r.createE)
    (hn : (p.byNode.map (·.1.node.name)).Nodup) :
    (∃ ms mu,
      resolveIntOrPercent p.strategy.rollingUpdate.maxPodSchedulerFailure (targeted p).length = some ms ∧
      resolveIntOrPercent p.strategy.rollingUpdate.maxUnavailable (targeted p).length = some mu ∧
      availDeleted appliedDel ≤ max 0 (mu - unavailableNodes p.ers.templateGeneration wall (targeted p) ms) ∧
      (appliedDel.length : Int) ≤ max 0 mu) ∧
    (∀ ni ∈ appliedCre, (ni, none) ∈ targeted p) ∧
    (appliedCre.map (·.node.name)).Nodup := by
  obtain ⟨ms, mu, hms, hmu, hb⟩ := C03_budget p now wall cf r h
  obtain ⟨mu', hmu', hcap⟩ := C03_cap p now wall cf r h
  obtain rfl : mu' = mu := Option.some.inj (hmu'.symm.trans hmu)
  refine ⟨⟨ms, mu', hms, hmu, ?_, ?_⟩, ?_, ?_⟩
  · exact Int.le_trans (C11_budget_sublist _ _ hd) hb
  · have := hd.length_le
    omega
  · exact C11_all_sublist _ _ _ hc (C01_create_only_empty p now wall cf r h)
  · exact C11_nodup_sublist _ _ hc (C01_create_nodup p now wall cf r h hn)

/-- the per-node map and clean-up contract holds for EVERY state of the in-memory failed-pod
back-off (`released` is arbitrary): a fresh controller instance (empty back-off) after a crash is
just one instance of it. -/
theorem C11_stateless_filter (released : String → Bool) (t : Template) (nodes : List NodeItem) (pods : List Pod)
    (ignore : List String) (hn : (nodes.map (·.node.name)).Nodup) (hp : (pods.map (·.name)).Nodup) :
    Spec.C01.holds t nodes ignore pods
      ((filterAndMap released t nodes pods ignore).byNode.map (fun e => (e.1.node.name, e.2.map (·.name))))
      ((filterAndMap released t nodes pods ignore).toDelete.map (·.name)) = true :=
  C01_holds released t nodes pods ignore hn hp

/-- **Two-step recovery**: see `C07_recoverable` — after the status write alone (spec write rejected,
answer lost, or process stopped in between) the next reconcile plans the spec write again. -/
theorem C11_two_step (d : EDS) (list : List ERS) (u a : ERS) (c : Canary) (pods : List Pod)
    (nodes : List Node) (now : Time) (st' : EDSStatus)
    (hc : d.strategy.canary = some c)
    (hact : lastWhere (fun e => e.name == st'.activeReplicaSet) list = some a)
    (hf : isCanaryFailed (some u) = true)
    (hv : isCanaryValid d.annotations u.name = false)
    (htpl : a.templateGeneration ≠ d.templateHash) :
    (edsMain { d with status := st' } list u pods nodes now).specUpdate =
      some (a.templateGeneration, (clearCanaryAnnotations d.annotations).1) ∧
    (edsMain { d with status := st' } list u pods nodes now).err = false :=
  C07_recoverable d list u a c pods nodes now st' hc hact hf hv htpl

end Eds
