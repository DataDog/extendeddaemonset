import EdsProofs.Cli
/-
  EdsProps.C13b — C13, last clause: the controller "keeps the PodTemplate object of the same name
  equal to spec.template and its hash".  Theorems about `reconcilePodTemplate`
  (`EdsModel/PodTemplateCtl.lean`), tied to `controllers/podtemplate` by the `podtemplate` stream.
-/
namespace Eds
open CliP

/-- what the controller itself guarantees about an object it wrote: the hash annotation is the hash
of the stored template. -/
def PodTpl.consistent (p : PodTpl) : Prop :=
  SMap.get? p.annotations K.templateHashAnnot = some p.templateHash

/-- what C13 asks of the stored object, relative to the ExtendedDaemonSet. -/
def PodTpl.mirrors (p : PodTpl) (d : EDS) : Prop :=
  p.name = d.name ∧ p.ns = d.ns ∧ p.templateHash = d.templateHash ∧
  SMap.get? p.annotations K.templateHashAnnot = some d.templateHash

theorem newPodTemplate_mirrors (d : EDS) :
    (newPodTemplate d).mirrors d ∧ (newPodTemplate d).template = d.template ∧
    (newPodTemplate d).ownerEds = some d.name ∧ (newPodTemplate d).consistent := by
  unfold PodTpl.mirrors PodTpl.consistent newPodTemplate
  simp [SMap.get?_set_self]

/-- **Every write is faithful**: whatever the controller creates or updates is the PodTemplate named
like the ExtendedDaemonSet, in its namespace, owned by it, carrying exactly `spec.template` and its
hash. -/
theorem C13_podtemplate_write_faithful (d : EDS) (cur : Option PodTpl) (p : PodTpl)
    (h : reconcilePodTemplate d cur = .create p ∨ reconcilePodTemplate d cur = .update p) :
    p.template = d.template ∧ p.mirrors d ∧ p.ownerEds = some d.name := by
  have hn := newPodTemplate_mirrors d
  unfold reconcilePodTemplate at h
  cases cur with
  | none =>
    rcases h with h | h
    · injection h with h; subst h; exact ⟨hn.2.1, hn.1, hn.2.2.1⟩
    · cases h
  | some q =>
    simp only [] at h
    split at h
    · rcases h with h | h <;> cases h
    · rcases h with h | h
      · cases h
      · injection h with h; subst h; exact ⟨hn.2.1, hn.1, hn.2.2.1⟩

/-- **Mirror after one reconcile**: from any store in which the PodTemplate, if present, is named like
the ExtendedDaemonSet and consistent (the invariant of controller-written objects), one reconcile
leaves a PodTemplate that mirrors `spec.template`'s hash, and the invariant is kept. -/
theorem C13_podtemplate_mirror (d : EDS) (cur : Option PodTpl)
    (hc : ∀ p, cur = some p → p.consistent ∧ p.name = d.name ∧ p.ns = d.ns) :
    ∃ p, (reconcilePodTemplate d cur).apply cur = some p ∧ p.mirrors d ∧ p.consistent := by
  have hn := newPodTemplate_mirrors d
  unfold reconcilePodTemplate
  cases cur with
  | none => exact ⟨newPodTemplate d, rfl, hn.1, hn.2.2.2⟩
  | some q =>
    simp only []
    split
    · rename_i heq
      have hq := hc q rfl
      have heq' : SMap.get? q.annotations K.templateHashAnnot = some d.templateHash := by
        simpa using heq
      exact ⟨q, rfl, ⟨hq.2.1, hq.2.2, Option.some.inj (Eq.trans (Eq.symm hq.1) heq'), heq'⟩, hq.1⟩
    · exact ⟨newPodTemplate d, rfl, hn.1, hn.2.2.2⟩

/-- **No loop**: a second reconcile on the result writes nothing. -/
theorem C13_podtemplate_idempotent (d : EDS) (cur : Option PodTpl) :
    reconcilePodTemplate d ((reconcilePodTemplate d cur).apply cur) = .none := by
  have hn := (newPodTemplate_mirrors d).1.2.2.2
  cases cur with
  | none => simp [reconcilePodTemplate, PodTplWrite.apply, hn]
  | some q =>
    by_cases heq : (SMap.get? q.annotations K.templateHashAnnot == some d.templateHash) = true
    · simp [reconcilePodTemplate, PodTplWrite.apply, heq]
    · simp [reconcilePodTemplate, PodTplWrite.apply, heq, hn]

/-- **A template change is always propagated**: when the stored hash annotation differs from the hash
of `spec.template`, the reconcile rewrites the object. -/
theorem C13_podtemplate_updates_when_stale (d : EDS) (q : PodTpl)
    (h : SMap.get? q.annotations K.templateHashAnnot ≠ some d.templateHash) :
    reconcilePodTemplate d (some q) = .update (newPodTemplate d) := by
  unfold reconcilePodTemplate
  simp [h]

/-- non-vacuity: a stale object is rewritten, an up-to-date one is left alone. -/
def exEds : EDS := { (default : EDS) with name := "foo", ns := "ns1", templateHash := "h2" }
def exStale : PodTpl :=
  { name := "foo", ns := "ns1", labels := [], templateHash := "h1", template := default,
    ownerEds := some "foo", annotations := [{ k := K.templateHashAnnot, v := "h1" }] }
example :
    reconcilePodTemplate exEds (some exStale) = .update (newPodTemplate exEds) ∧
    reconcilePodTemplate exEds (some (newPodTemplate exEds)) = .none := by decide +kernel

end Eds
