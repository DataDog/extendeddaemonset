import EdsProofs.BridgeDeployment
import EdsProofs.BridgeUnknown
import EdsProps.C02
import EdsProps.C03
import EdsProps.C08
import EdsProps.C09
/-
  EdsProps.DeploymentSrc — the theorems of C03 / C08 / C09 / C02 about one sync of the active role, stated directly about
  the Lean definition the translator regenerates from `ManageDeployment` (strategy/rollingupdate.go) on every run
  (EdsModel/Generated/DecDeployment.lean: the whole function, its API steps as parameters), obtained by transporting the
  model-level theorems along `Bridge.src_manageDeployment`.  They speak about the `*Result` the code returns: `R` below is
  the pointee of the first result of a run that computed a status (`R.NewStatus != nil`: not the early error return).
  Hypotheses: `Bridge.DeployRel` (what the model's parameters stand for on the Go side) and a clock that does not advance
  during the classification loop.
-/
namespace Eds
open Spec.C03

namespace Src
export Eds.Generated.Decisions (manageDeployment manageUnknown)
end Src

section
variable {D : GEds} {P : GParams} {p : StratParams} (h : Bridge.DeployRel D P p)
  (now : Time) (nilSlice : Bool) {w1 w2 : Int → Int} {wall : Time} (hw1 : ∀ i, w1 i = wall) (hw2 : ∀ i, w2 i = wall)
  (w4 : Time) (errs : List (Option String)) (apiErr : Option String) (apiRq : Bool)
  (R : GResult) (e : Option String) (P' : Option GParams)
  (hrun : Src.manageDeployment (some D) (some P) now nilSlice w1 w2 wall w4 errs apiErr apiRq = some (some R, e, P'))
  (hst : R.newStatus.isSome = true)
include h hw1 hw2 hrun hst

/-- **C03 (cap), on the code**: one sync deletes at most `maxUnavailable` pods for updating. -/
theorem C03_src_deploy_cap :
    ∃ mu, resolveIntOrPercent p.strategy.rollingUpdate.maxUnavailable (targeted p).length = some mu ∧
      (R.podsToDelete.length : Int) ≤ max 0 mu := by
  obtain ⟨r, hm, _, hd, _⟩ := Bridge.src_manageDeployment_ok h now nilSlice hw1 hw2 w4 errs apiErr apiRq R e P' hrun hst
  obtain ⟨mu, hmu, hle⟩ := C03_cap p now wall _ r hm
  exact ⟨mu, hmu, by rw [hd, List.length_map]; exact hle⟩

/-- **C03 (budget, unavailable first), on the code**: the node items in `PodsToDelete` are those of a deletion list
`(node, pod)` — pods of the map `PodByNodeName` — whose available pods fit the budget left by the nodes already
unavailable, and that takes an available pod only once every unavailable outdated pod is taken. -/
theorem C03_src_deploy_budget :
    ∃ (del : List (NodeItem × Pod)) (ms mu : Int), R.podsToDelete = del.map (fun x => some x.1) ∧
      resolveIntOrPercent p.strategy.rollingUpdate.maxPodSchedulerFailure (targeted p).length = some ms ∧
      resolveIntOrPercent p.strategy.rollingUpdate.maxUnavailable (targeted p).length = some mu ∧
      availDeleted del ≤ max 0 (mu - unavailableNodes p.ers.templateGeneration wall (targeted p) ms) ∧
      (0 < availDeleted del →
        (del.length : Int) - availDeleted del ≥ nOutdatedUnavail p.ers.templateGeneration wall (targeted p)) := by
  obtain ⟨r, hm, _, hd, _⟩ := Bridge.src_manageDeployment_ok h now nilSlice hw1 hw2 w4 errs apiErr apiRq R e P' hrun hst
  obtain ⟨ms, mu, hms, hmu, hb⟩ := C03_budget p now wall _ r hm
  exact ⟨r.deleteE, ms, mu, hd, hms, hmu, hb, C03_unavailable_first p now wall _ r hm⟩

/-- **C08 (paused / frozen), on the code**: the flags are those of the annotations, nothing is deleted for updating while
paused or frozen, nothing is created while frozen. -/
theorem C08_src_deploy_sync :
    R.isPaused = isRollingUpdatePaused D.annotations ∧ R.isFrozen = isRolloutFrozen D.annotations ∧
    (isRollingUpdatePaused D.annotations = true ∨ isRolloutFrozen D.annotations = true → R.podsToDelete = []) ∧
    (isRolloutFrozen D.annotations = true → R.podsToCreate = []) := by
  obtain ⟨r, hm, hc, hd, hp, hf, _⟩ :=
    Bridge.src_manageDeployment_ok h now nilSlice hw1 hw2 w4 errs apiErr apiRq R e P' hrun hst
  obtain ⟨h1, h2⟩ := C08_sync p now wall _ r hm
  obtain ⟨_, _, _, _, _, _, _, _, _, _, hfl⟩ := manageDeployment_inv p now wall _ r hm
  rw [h.ann]
  refine ⟨hp.trans hfl.1, hf.trans hfl.2, ?_, ?_⟩
  · intro hx; rw [hd, h1 hx]; rfl
  · intro hx; rw [hc, h2 hx]; rfl

/-- **C09 (slow start), on the code**: the number of pods one sync creates is bounded by the ramp. -/
theorem C09_src_deploy_create_bound :
    ∃ mc, calculateMaxCreation p.strategy.rollingUpdate.slowStartAdditiveIncrease
        p.strategy.rollingUpdate.slowStartInterval p.strategy.rollingUpdate.maxParallelPodCreation
        (targeted p).length (rollingUpdateStartTime p.ers.status now) now = .ok mc ∧
      (R.podsToCreate.length : Int) ≤ max 0 mc := by
  obtain ⟨r, hm, hc, _⟩ := Bridge.src_manageDeployment_ok h now nilSlice hw1 hw2 w4 errs apiErr apiRq R e P' hrun hst
  obtain ⟨mc, hmc, hle⟩ := C09_sync_create_bound p now wall _ r hm
  exact ⟨mc, hmc, by rw [hc, List.length_map]; exact hle⟩

/-- **C02 (fixpoint), on the code**: when every targeted node carries an up-to-date pod, the sync creates nothing and
deletes nothing for updating. -/
theorem C02_src_deploy_fixpoint
    (hall : ∀ x ∈ targeted p, ∃ a rd, classify p.ers.templateGeneration wall x = .upToDate a rd) :
    R.podsToCreate = [] ∧ R.podsToDelete = [] := by
  obtain ⟨r, hm, hc, hd, _⟩ := Bridge.src_manageDeployment_ok h now nilSlice hw1 hw2 w4 errs apiErr apiRq R e P' hrun hst
  obtain ⟨h1, h2⟩ := C02_fixpoint p now wall _ r hm hall
  rw [hc, hd, h1, h2]
  exact ⟨rfl, rfl⟩

end

/-- **no crash on a recognised strategy**: with the rolling-update parameters set (what defaulting guarantees) the
translated `ManageDeployment` does not panic — neither in `calculateMaxCreation`, nor in the sort of the deletion
candidates, nor in the two slicings `xs[:n]`. -/
theorem C03_src_deploy_total {D : GEds} {P : GParams} {p : StratParams} (h : Bridge.DeployRel D P p)
    (now : Time) (nilSlice : Bool) {w1 w2 : Int → Int} {wall : Time} (hw1 : ∀ i, w1 i = wall) (hw2 : ∀ i, w2 i = wall)
    (w4 : Time) (errs : List (Option String)) (apiErr : Option String) (apiRq : Bool)
    (hiv : p.strategy.rollingUpdate.slowStartInterval.isSome = true)
    (hmp : p.strategy.rollingUpdate.maxParallelPodCreation.isSome = true) :
    (Src.manageDeployment (some D) (some P) now nilSlice w1 w2 wall w4 errs apiErr apiRq).isSome = true := by
  cases hrun : Src.manageDeployment (some D) (some P) now nilSlice w1 w2 wall w4 errs apiErr apiRq with
  | some _ => rfl
  | none =>
    exfalso
    have hp := (Bridge.src_manageDeployment_panics_iff h now nilSlice hw1 hw2 w4 errs apiErr apiRq).mp hrun
    unfold manageDeployment at hp
    simp only [] at hp
    split at hp <;> try cases hp
    split at hp <;> try cases hp
    split at hp <;> try cases hp
    rename_i hmc
    unfold calculateMaxCreation at hmc
    obtain ⟨iv, hiv'⟩ := Option.isSome_iff_exists.mp hiv
    obtain ⟨mp, hmp'⟩ := Option.isSome_iff_exists.mp hmp
    simp only [hiv', hmp'] at hmc
    split at hmc <;> try cases hmc
    split at hmc <;> try cases hmc
    unfold goDiv at *
    split at hmc <;> try cases hmc
    rename_i hz _
    simp_all

end Eds
