import EdsProofs.ReconcileErs
import EdsProps.C04
import EdsProps.C10
/-
  C12 (replica-set side) — the replica-set controller only writes pods of its own daemon set.

  Subject: `reconcileErs` (EdsModel/ReconcileErs.lean); inversion lemmas EdsProofs/ReconcileErs.lean.

  Pods are identified by *name* in the write lists of the model; "the pod named `n` is owned" is stated
  as existence of a stored pod with that name having the property (with pod names distinct within
  the namespace this is the pod the API call hits).

    10 `C12_ers_writes_owned`       — every pod named in `cleanupDeletes ++ deletes ++ labelAdds ++
                                      labelRemoves` is a stored pod in the EDS's namespace carrying
                                      the EDS's name label or owned by the DaemonSet named by the
                                      old-daemonset annotation.        [full strength, no hypothesis
                                      beyond `ersOwner rs st = some d`]
       `C12_ers_deletes_owned`      — the first three lists: these pods are even listed pods
                                      (`ersPods d st`).
       `C12_ers_label_removes_owned` — `labelRemoves`: namespace, EDS name label, this replica set's
                                      name label and the canary label.
       `C12_ers_creates_owned`, `C12_ers_creates_eds_label` — created pods: namespace, both name
                                      labels, controller owner reference.            [full strength]
       The clean-up list `canaryLabelled` requires the EDS name label: selecting by namespace +
       ERS-name label + canary label only would make the statement false for `labelRemoves`
       (regression example `stray` below).
    11 `C12_ers_counts_own`         — frame: two stores with the same EDSs, nodes, settings and the same
                                      `ersPods d ·` yield the same writes, status and requeue
                                      decision, `labelRemoves` excepted (it reads `canaryLabelled`).
-/
namespace Eds

section
variable (rs : ERS) (st : ErsStore) (released : String → Bool) (aff : Bool) (now : Time) (d : EDS)

/-- the ownership predicate of the statement. -/
def ownedByEds (d : EDS) (p : Pod) : Prop :=
  p.ns = d.ns ∧
  (SMap.get? p.labels K.edsNameLabel = some d.name ∨
   ∃ dsName, SMap.get? d.annotations K.oldDaemonsetAnnot = some dsName ∧
     p.owners.any (fun o => o.kind == "DaemonSet" && o.name == dsName) = true)

/-- **Deleted / labelled pods are owned.**  Every pod the sync deletes (clean-up or update) or gives the
canary label is a listed pod (`ersPods d st`): a stored pod of the EDS's namespace that carries the
EDS's name label or belongs to the DaemonSet being migrated. -/
theorem C12_ers_deletes_owned (h : ersOwner rs st = some d) :
    ∀ name ∈ (reconcileErs rs st released aff now).cleanupDeletes ++
             (reconcileErs rs st released aff now).deletes ++
             (reconcileErs rs st released aff now).labelAdds,
      ∃ p ∈ st.pods, p.name = name ∧ ownedByEds d p := by
  intro name hn
  suffices hl : ∃ p ∈ ersPods d st, p.name = name by
    obtain ⟨p, hp, hpn⟩ := hl
    obtain ⟨a, b, c⟩ := mem_ersPods hp
    exact ⟨p, a, hpn, b, c⟩
  have hadds : name ∈ (reconcileErs rs st released aff now).labelAdds → ∃ p ∈ ersPods d st, p.name = name := by
    intro hm
    obtain ⟨p, hp, hpn, _⟩ := (C04_label_scope rs st released aff now d h).1 name hm
    exact ⟨p, hp, hpn⟩
  rcases reconcileErs_cases rs st released aff now d h with hno | ⟨items, r, adds, removes, se, st0, F⟩
  · rw [hno.1, hno.2.1, hno.2.2.2.1] at hn; cases hn
  · rcases List.mem_append.mp hn with hn | hn
    · rcases List.mem_append.mp hn with hn | hn
      · -- clean-up
        rw [F.cleanupDeletes_eq] at hn
        have hcl : name ∈ cleanupTargets (ersParams released d rs items (ersPods d st) now).toCleanUp := by
          rcases ersRole_cases d rs.name with hr | hr | hr
          · rcases F.active hr with ⟨hm, -, -, -⟩ | ⟨-, hre, -⟩
            · rwa [manageDeployment_cleanup _ now now false r hm] at hn
            · rw [hre] at hn; cases hn
          · obtain ⟨r0, -, rfl, -, -, -⟩ := F.canary hr
            exact hn
          · rw [(F.unknown hr).1] at hn; cases hn
        obtain ⟨p, hp, hpn, _⟩ := cleanup_pod_bound rs released now d items (ersPods d st) name hcl
        exact ⟨p, hp, hpn⟩
      · -- deletions for updating
        obtain ⟨x, hx, rfl⟩ := F.mem_deletes hn
        have hb : (x.1, some x.2) ∈ (ersParams released d rs items (ersPods d st) now).byNode := by
          rcases ersRole_cases d rs.name with hr | hr | hr
          · rcases F.active hr with ⟨hm, -, -, -⟩ | ⟨-, hre, -⟩
            · exact (mem_targeted.mp (manageDeployment_delete_mem _ now now false r hm x hx)).1
            · rw [hre] at hx; cases hx
          · obtain ⟨r0, hm, rfl, -, -, -⟩ := F.canary hr
            exact (manageCanaryStatus_delete_mem _ now r0 hm x hx).1
          · rw [(F.unknown hr).1] at hx
            exact (mem_nil_elim (C01_unknown_role_creates_nothing _ now).2 hx).elim
        exact ⟨x.2, (kept_pod_bound rs released now d items (ersPods d st) x.1 x.2 hb).1, rfl⟩
    · exact hadds hn

/-- pods whose canary label is removed: namespace, all three labels. -/
theorem C12_ers_label_removes_owned (h : ersOwner rs st = some d) :
    ∀ name ∈ (reconcileErs rs st released aff now).labelRemoves,
      ∃ p ∈ st.pods, p.name = name ∧ p.ns = d.ns ∧
        SMap.get? p.labels K.edsNameLabel = some d.name ∧
        SMap.get? p.labels K.ersNameLabel = some rs.name ∧
        SMap.get? p.labels K.canaryLabel = some "true" := by
  intro name hn
  obtain ⟨p, hp, hpn, hns, hl, hc, he⟩ := (C04_label_scope rs st released aff now d h).2.1 name hn
  exact ⟨p, hp, hpn, by rw [hns, (ersOwner_some h).2.1], he, hl, hc⟩

/-- **Writes are owned.**  Every pod named in any of the four pod-write lists of a sync is a stored
pod of the EDS's namespace that carries the EDS's name label or is owned by the DaemonSet named by
the old-daemonset annotation. -/
theorem C12_ers_writes_owned (h : ersOwner rs st = some d) :
    ∀ name ∈ (reconcileErs rs st released aff now).cleanupDeletes ++
             (reconcileErs rs st released aff now).deletes ++
             (reconcileErs rs st released aff now).labelAdds ++
             (reconcileErs rs st released aff now).labelRemoves,
      ∃ p ∈ st.pods, p.name = name ∧ p.ns = d.ns ∧
        (SMap.get? p.labels K.edsNameLabel = some d.name ∨
         ∃ dsName, SMap.get? d.annotations K.oldDaemonsetAnnot = some dsName ∧
           p.owners.any (fun o => o.kind == "DaemonSet" && o.name == dsName) = true) := by
  intro name hn
  rcases List.mem_append.mp hn with hn | hn
  · exact C12_ers_deletes_owned rs st released aff now d h name hn
  · obtain ⟨p, hp, hpn, hns, he, _⟩ := C12_ers_label_removes_owned rs st released aff now d h name hn
    exact ⟨p, hp, hpn, hns, Or.inl he⟩

/-- the same with the predicate folded. -/
theorem C12_ers_writes_ownedByEds (h : ersOwner rs st = some d) :
    ∀ name ∈ (reconcileErs rs st released aff now).cleanupDeletes ++
             (reconcileErs rs st released aff now).deletes ++
             (reconcileErs rs st released aff now).labelAdds ++
             (reconcileErs rs st released aff now).labelRemoves,
      ∃ p ∈ st.pods, p.name = name ∧ ownedByEds d p :=
  C12_ers_writes_owned rs st released aff now d h

/-- **Created pods are owned**: the replica set's namespace, both name labels (the EDS one copied from
the replica set's own label), the replica set as only owner reference (`C10_meta`). -/
theorem C12_ers_creates_owned (x : String × Pod) (hx : x ∈ (reconcileErs rs st released aff now).creates) :
    x.2.ns = rs.ns ∧
    SMap.get? x.2.labels K.ersNameLabel = some rs.name ∧
    SMap.get? x.2.labels K.edsNameLabel = some (SMap.getD rs.labels K.edsNameLabel) ∧
    x.2.owners = [{ kind := "ExtendedDaemonSetReplicaSet", name := rs.name }] ∧
    Spec.C10.metaOk x.2 rs = true := by
  obtain ⟨n, s, rfl⟩ := C04_created_shape rs st released aff now x hx
  exact ⟨rfl, createPod_label_ers rs (some n) s aff, createPod_label_eds rs (some n) s aff, rfl,
    C10_meta rs n s aff⟩

/-- … so when the replica set carries its EDS's name label (as every replica set the EDS controller
creates does), a created pod satisfies the very predicate `ersPods` lists by. -/
theorem C12_ers_creates_eds_label (h : ersOwner rs st = some d)
    (hl : SMap.get? rs.labels K.edsNameLabel = some d.name)
    (x : String × Pod) (hx : x ∈ (reconcileErs rs st released aff now).creates) :
    ownedByEds d x.2 := by
  obtain ⟨h1, _, h3, _⟩ := C12_ers_creates_owned rs st released aff now x hx
  refine ⟨by rw [h1, (ersOwner_some h).2.1], Or.inl ?_⟩
  rw [h3]
  unfold SMap.getD
  rw [hl]; rfl

end

/-- a write set with the canary-label removals blanked. -/
def ErsWrites.sansLabelRemoves (w : ErsWrites) : ErsWrites := { w with labelRemoves := [] }

theorem ersRun_labelled_irrelevant (d : EDS) (rs : ERS) (pods : List Pod) (l l' : List String)
    (released : String → Bool) (aff : Bool) (now : Time) (items : List NodeItem) :
    (ersRun d rs pods l released aff now items).sansLabelRemoves =
    (ersRun d rs pods l' released aff now items).sansLabelRemoves := by
  unfold ersRun ersStrategy
  by_cases ha : (ersRole d rs.name == "active") = true
  · simp only [ha, if_true]
    cases manageDeployment (ersParams released d rs items pods now) now now false with
    | ok r =>
      simp only []
      cases r.newStatus <;> rfl
    | err m => rfl
    | panic => rfl
  · have ha' : (ersRole d rs.name == "active") = false := by simpa using ha
    simp only [ha', Bool.false_eq_true, if_false]

/-- **Frame.**  Two stores that agree on the EDSs, nodes, settings and on the pod list `ersPods d ·`
produce the same deletions, creations, label additions, candidates, status (hence counters) and
requeue decision; only `labelRemoves` may differ.  In particular the status counters are computed
from `ersPods d st` alone. -/
theorem C12_ers_counts_own (rs : ERS) (st st' : ErsStore) (released : String → Bool) (aff : Bool) (now : Time)
    (d : EDS) (h : ersOwner rs st = some d)
    (he : st'.edss = st.edss) (hn : st'.nodes = st.nodes) (hs : st'.settings = st.settings)
    (hp : ersPods d st' = ersPods d st) :
    (reconcileErs rs st' released aff now).sansLabelRemoves =
    (reconcileErs rs st released aff now).sansLabelRemoves := by
  have h' : ersOwner rs st' = some d := by
    unfold ersOwner at h ⊢; rw [he]; exact h
  have hitems : ersNodeItems d rs st' = ersNodeItems d rs st := by
    unfold ersNodeItems; rw [hn, hs]
  rw [reconcileErs_eq rs st released aff now d h, reconcileErs_eq rs st' released aff now d h']
  unfold ersBody
  rw [hitems, hp]
  split
  · rfl
  · split
    · rfl
    · split
      · rfl
      · exact ersRun_labelled_irrelevant d rs _ _ _ released aff now _

/-- the individual fields of the frame theorem. -/
theorem C12_ers_counts_own_fields (rs : ERS) (st st' : ErsStore) (released : String → Bool) (aff : Bool)
    (now : Time) (d : EDS) (h : ersOwner rs st = some d)
    (he : st'.edss = st.edss) (hn : st'.nodes = st.nodes) (hs : st'.settings = st.settings)
    (hp : ersPods d st' = ersPods d st) :
    (reconcileErs rs st' released aff now).statusUpdate = (reconcileErs rs st released aff now).statusUpdate ∧
    (reconcileErs rs st' released aff now).creates = (reconcileErs rs st released aff now).creates ∧
    (reconcileErs rs st' released aff now).deletes = (reconcileErs rs st released aff now).deletes ∧
    (reconcileErs rs st' released aff now).cleanupDeletes = (reconcileErs rs st released aff now).cleanupDeletes ∧
    (reconcileErs rs st' released aff now).labelAdds = (reconcileErs rs st released aff now).labelAdds := by
  have := C12_ers_counts_own rs st st' released aff now d h he hn hs hp
  have h1 := congrArg (fun w : ErsWrites => w.statusUpdate) this
  have h2 := congrArg (fun w : ErsWrites => w.creates) this
  have h3 := congrArg (fun w : ErsWrites => w.deletes) this
  have h4 := congrArg (fun w : ErsWrites => w.cleanupDeletes) this
  have h5 := congrArg (fun w : ErsWrites => w.labelAdds) this
  exact ⟨h1, h2, h3, h4, h5⟩

/-! ### Examples (store of EdsProps/C04.lean) -/

/-- the canary is over, `d-new` is the active replica set.  `stray` lives in the namespace, carries
`d-new`'s name label and the canary label but NOT the EDS's name label (and no owner): it is not a
listed pod, and the canary-label clean-up leaves it alone. -/
def exPods12 : List Pod :=
  [exPod04 "new-1" "n1" "d-new" "new" true, exPod04 "stray" "n2" "d-new" "new" true false]

example : (reconcileErs (exErs04 "d-new" "new") (exStore04 exPods12 false) (fun _ => true) true 100).labelRemoves
    = ["new-1"] := by decide +kernel
example : "stray" ∉ (reconcileErs (exErs04 "d-new" "new") (exStore04 exPods12 false) (fun _ => true) true
    100).labelRemoves := by decide +kernel
/-- `stray` is indeed not owned: no EDS name label, no owner reference … -/
example : ∀ p ∈ (exStore04 exPods12 false).pods, p.name = "stray" →
    SMap.get? p.labels K.edsNameLabel ≠ some (exEds04 false).name ∧ p.owners = [] := by decide +kernel
example : (ersPods (exEds04 false) (exStore04 exPods12 false)).map (·.name) = ["new-1"] := by decide +kernel
/-- … and it is left alone by every write (it is not even listed, so `n2` gets a new pod). -/
example : (reconcileErs (exErs04 "d-new" "new") (exStore04 exPods12 false) (fun _ => true) true 100).deletes = [] ∧
    (reconcileErs (exErs04 "d-new" "new") (exStore04 exPods12 false) (fun _ => true) true 100).cleanupDeletes = [] ∧
    (reconcileErs (exErs04 "d-new" "new") (exStore04 exPods12 false) (fun _ => true) true 100).labelAdds = [] ∧
    (reconcileErs (exErs04 "d-new" "new") (exStore04 exPods12 false) (fun _ => true) true 100).creates.map (·.1)
      = ["n2"] := by decide +kernel

/-- created pods carry both labels and the owner reference. -/
example : (reconcileErs (exErs04 "d-new" "new") exStore04 (fun _ => true) true 100).creates.map
    (fun x => (x.2.ns, SMap.get? x.2.labels K.edsNameLabel, SMap.get? x.2.labels K.ersNameLabel, x.2.owners))
    = [("ns", some "d", some "d-new", [{ kind := "ExtendedDaemonSetReplicaSet", name := "d-new" }])] := by decide +kernel

end Eds
