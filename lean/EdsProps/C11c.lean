import EdsProps.C02c
import EdsProps.C11b
import EdsProps.L3Live
/-
  C11c — RECOVERY after faults as a theorem (property C11: "… Subsequent failure-free reconciliation then converges
  to the same final pods and status as the run without the failure").

  EdsProps/C11.lean and the `_faults` / `_stepF` theorems of EdsProps/L3.lean prove SAFETY under dropped writes;
  EdsProps/C11b.lean proves that the fixpoint is unique; EdsProps/C02c.lean proves convergence WITHOUT faults from any
  cooperative store.  This file closes the triangle: faulty cooperative rounds keep the cooperative-store invariant and
  never increase the measure, hence fault-free rounds afterwards converge — to the fixpoint of the fault-free run.
  The counting it rests on is shared with the fault-free refinement: `stepPods_counts` of EdsProps/C02c.lean gives
  the counters after ANY set of creations / deletions.

  Definitions
    `coopRoundStoreF f rs aff gen t st`   the faulty cooperative round on the store: the sync `reconcileErs` at `t`, of
                               which only the writes `maskErs f` lets through are applied (ANY subset of the planned
                               creations — by node —, update deletions and clean-up deletions — by pod name —; hard
                               deletion, generated names), then the cooperative instantaneous kubelet of C02c
    `nextErsF`, `coopRoundF`   the replica set after it (status write applied iff `f.ersStatus`), the round on both
    `stopFaults`               nothing is applied: the process stopped before its first write
    `plannedCreates`, `plannedDeletes`, `appliedCreates`, `appliedDeletes`   the plan of the ungated sync and what `f` lets through
    `storeMeasure`             `2·outdated + empty` (= `variant (storeAbs …)` of C02c)
    `coopRunF`, `recoverRun`   `n` faulty rounds (pattern `fs i` at `clock i`); … followed by `k` fault-free rounds
    `NoCanaryLabel`            no pod of the EDS carries the canary label (needed for `Quiescent` of C11b only)
    `convergedCounters N`      (N, N, N, N, 0)
    `coopOpsF`, `coopRunOpsF`, `coopRunWF`   faulty rounds as `runF` of the cluster machine (`stepF`)
  Theorems, by section of the file (all at full strength except the one marked FALSE)
    1  `coopRoundF_ok`                                       `f = {}` is the fault-free round of C02c
       `C11c_round`                                          a faulty round keeps ALL of `CoopStore`; nodes, EDS objects,
                                                             settings, template unchanged; the counters after it
       `nextErsF_gateFree`                                   the next spaced round is ungated whether the status write
                                                             was applied or dropped
    2  `C11c_faulty_round_keeps_coop`                        `C11c_round` without the counting part
       `C11c_measure_exact`, `C11c_measure_monotone`, `C11c_measure_progress`
                                                             measure' + #applied creations + #applied deletions = measure
       `C11c_stopped_round`, `_pods`, `C11c_answer_lost`     `stopFaults`: the kubelet alone; EDS pods, replica set
                                                             unchanged; an applied call reported as failed is `f = {}`
       `C11c_round_noCanaryLabel`                            a faulty round keeps `NoCanaryLabel`
    3  `coopRunF_ok`, `coopRunF_inv`, `recoverRun_inv`, `C11c_recovers_store` (`_bound`)
                                                             n faulty rounds, then k ≥ measure-after-faults fault-free
                                                             rounds ⟹ the conclusion of `C02_converges_store`
    4  `quiescent_of_converged`, `C11c_recovered_quiescent`  the recovered store is `Quiescent` (C11b)
       `C11c_same_fixpoint`, `C11c_same_as_fault_free`       with `C11_fixpoint_unique`: same (node, hash) multiset, same
                                                             counters, no pod write — as the run without failure
       `C11c_counters_explicit`, `C11c_recovered_counters`   the next ungated sync reports (N, N, N, N, 0), whatever
                                                             statuses were written or dropped on the way
    5  `coopRoundF_sim`, `coopRunWF_sim`                     faulty rounds of the cluster machine = faulty rounds here
       `C11c_cluster_recovers`                               `LiveOn` ⟹ n faulty + k fault-free rounds ⟹ `ClusterConverged`
       `C11c_recovers_after_promotion`, `C11c_recovers_after_rollback`   … after a FAULTY daemonset reconcile (deletions
                                                             dropped; the dropped spec write of `L3Live_rollback_pending`)
    6  `C11c_gated_round_stutters`                           a round held back by the LastFullSync gate is a stutter step
    7  examples: three nodes, a dropped creation, a dropped deletion + status write; bounds attained; then
       `C11c_same_pod_list` — FALSE (`C11c_same_pod_list_false`, by `decide`); `C11c_same_pod_list_partial`
    8  examples at cluster level: the two-node cluster of L3Live, faults in every phase

  What survives a dropped write: EVERYTHING `C02_converges_store` needs.  In particular a dropped STATUS write does not
  gate the next round: the stored conditions are then older than the ones the sync would have written (`nextErsF_gateFree`).
  What does not hold is progress at an arbitrary instant: a retry less than `reconcileFrequency` after an APPLIED status
  write is held back by the gate (stutter, `C11c_gated_round_stutters`; example at the end) — the rounds of a run are
  therefore `max 0 reconcileFrequency` apart, as in C02c.

  Simplifications (beyond those of C02c, all explicit):
    * fault kinds: "call rejected", "process stopped before / after the j-th write" and "answer lost" all leave a SUBSET
      of the planned writes applied; the pattern `f : Faults` says which (it describes what was applied, not what was
      reported).  Every subset is allowed — an over-approximation of the Go code, which stops at the first error;
    * label patches are not applied at store level (as in C02c: they touch the canary label only, which no component
      of `CoopStore` or of the measure reads); `Quiescent` of C11b does read it, hence `NoCanaryLabel` (start store) and
      "the template does not carry the canary label" (`hT`) in the fixpoint theorems.  At cluster level `stepF` applies the
      label patches `f` lets through and the cooperative kubelet op overwrites the pod list (as in L3Live);
    * a fresh controller instance = the empty back-off oracle `fun _ => false` every round uses.
-/
namespace Eds
open Spec.C03 Cluster

/-! ### 1. The faulty cooperative round -/

/-- **One faulty cooperative round on the store**: the sync of `rs` at `now`; of its writes only those the fault
pattern `f` lets through (`maskErs f`: any subset of the creations — by node name —, of the update and clean-up
deletions — by pod name —) are applied "hard", created pods under their generated names; then the cooperative
kubelet.  `f = {}` is `coopRoundStore` of C02c. -/
def coopRoundStoreF (f : Faults) (rs : ERS) (aff : Bool) (gen : String → String) (now : Time) (st : ErsStore) :
    ErsStore :=
  let w := nameCreates gen (maskErs f (reconcileErs rs st (fun _ => false) aff now))
  { st with pods := (applyPodWritesHard w st.pods).map (kubeletReady now) }

/-- the replica set after the faulty sync: the status it wrote is carried forward iff `f.ersStatus`. -/
def nextErsF (f : Faults) (rs : ERS) (aff : Bool) (now : Time) (st : ErsStore) : ERS :=
  { rs with status := ((maskErs f (reconcileErs rs st (fun _ => false) aff now)).statusUpdate).getD rs.status }

/-- one faulty cooperative round on (replica set, store). -/
def coopRoundF (f : Faults) (aff : Bool) (gen : String → String) (now : Time) (s : ERS × ErsStore) : ERS × ErsStore :=
  (nextErsF f s.1 aff now s.2, coopRoundStoreF f s.1 aff gen now s.2)

/-- **the process stopped** before the first write of the reconcile: nothing is applied. -/
def stopFaults : Faults :=
  { edsDefaulted := false, ersCreate := false, ersDelete := fun _ => false, edsStatus := false, edsSpec := false,
    podDelete := fun _ => false, podLabel := fun _ => false, podCreate := fun _ => false, ersStatus := false }

theorem coopRoundStoreF_ok (rs : ERS) (aff : Bool) (gen : String → String) (now : Time) (st : ErsStore) :
    coopRoundStoreF {} rs aff gen now st = coopRoundStore rs aff gen now st := by
  unfold coopRoundStoreF coopRoundStore
  rw [maskErs_ok]

theorem nextErsF_ok (rs : ERS) (aff : Bool) (now : Time) (st : ErsStore) :
    nextErsF {} rs aff now st = nextErs rs aff now st := by
  unfold nextErsF nextErs
  rw [maskErs_ok]

theorem coopRoundF_ok (aff : Bool) (gen : String → String) (now : Time) (s : ERS × ErsStore) :
    coopRoundF {} aff gen now s = coopRound aff gen now s := by
  unfold coopRoundF coopRound
  rw [coopRoundStoreF_ok, nextErsF_ok]

/-- the creations the ungated sync plans on a cooperative store: the first `min e mc` empty eligible nodes. -/
def plannedCreates (d : EDS) (rs : ERS) (items : List NodeItem) (st : ErsStore) (now : Time) : List NodeItem :=
  (createCands (storeEntries rs items (edsPodsOf d st))).take
    (min (coopE (storeEntries rs items (edsPodsOf d st))) (mcOf d rs (fitItems rs items).length now))

/-- the update deletions it plans: the first `min o (mu − e)` outdated pods. -/
def plannedDeletes (d : EDS) (rs : ERS) (items : List NodeItem) (st : ErsStore) (now : Time) : List (NodeItem × Pod) :=
  (oldCands rs.templateGeneration now (storeEntries rs items (edsPodsOf d st))).take
    (min (coopO rs.templateGeneration now (storeEntries rs items (edsPodsOf d st)))
      (muOf d (fitItems rs items).length - coopE (storeEntries rs items (edsPodsOf d st))))

/-- … of which the fault pattern lets these through. -/
def appliedCreates (f : Faults) (d : EDS) (rs : ERS) (items : List NodeItem) (st : ErsStore) (now : Time) :
    List NodeItem :=
  (plannedCreates d rs items st now).filter (fun ni => f.podCreate ni.node.name)

def appliedDeletes (f : Faults) (d : EDS) (rs : ERS) (items : List NodeItem) (st : ErsStore) (now : Time) :
    List (NodeItem × Pod) :=
  (plannedDeletes d rs items st now).filter (fun x => f.podDelete x.2.name)

section Step
variable {d : EDS} {rs : ERS} {aff : Bool} {gen : String → String} {items : List NodeItem} {st : ErsStore}

/-- the cooperative kubelet leaves the (settled) pods of the EDS of a cooperative store as they are. -/
theorem filter_kubeletReady (S : CoopStore d rs gen items st) (now : Time) (l : List Pod) (hl : ∀ p ∈ l, p ∈ st.pods) :
    (l.map (kubeletReady now)).filter (isEdsPod d) = l.filter (isEdsPod d) := by
  apply filter_map_fix (kubeletReady now) (isEdsPod d) _ (fun a _ => kubeletReady_isEdsPod d now a)
  intro p hp he
  have hpE : p ∈ edsPodsOf d st := List.mem_filter.mpr ⟨hl p hp, he⟩
  obtain ⟨hd, hph, hr, _⟩ := S.settled p hpE
  exact kubeletReady_settled now p (S.bound hpE) hd hph hr

/-- the writes of the masked sync, spelled out. -/
theorem maskedSync (C : CoopSetup d rs aff) (S : CoopStore d rs gen items st)
    (hK : StratOk d (fitItems rs items).length) (now : Time) (G : GateFree d rs now) (f : Faults) :
    (maskErs f (reconcileErs rs st (fun _ => false) aff now)).creates =
      (appliedCreates f d rs items st now).map (createdFor rs aff) ∧
    (maskErs f (reconcileErs rs st (fun _ => false) aff now)).deletes =
      (appliedDeletes f d rs items st now).map (·.2.name) ∧
    (maskErs f (reconcileErs rs st (fun _ => false) aff now)).cleanupDeletes = [] := by
  obtain ⟨_, hcre, hdel, hclean, _⟩ := C02c_sync C S hK now G (fun _ => false)
  unfold maskErs appliedCreates appliedDeletes plannedCreates plannedDeletes
  simp only []
  rw [hcre, hdel, hclean, List.filter_map, List.filter_map]
  exact ⟨rfl, rfl, rfl⟩

/-- the pods of the EDS after one faulty cooperative round. -/
theorem coopRoundF_edsPods (C : CoopSetup d rs aff) (S : CoopStore d rs gen items st)
    (hK : StratOk d (fitItems rs items).length) (now : Time) (G : GateFree d rs now) (f : Faults) :
    edsPodsOf d (coopRoundStoreF f rs aff gen now st) =
      stepPods (edsPodsOf d st) (coopPodFor rs aff gen now) (appliedCreates f d rs items st now)
        (appliedDeletes f d rs items st now) := by
  obtain ⟨hcre, hdel, hclean⟩ := maskedSync C S hK now G f
  have hns : d.ns = rs.ns := (ersOwner_some S.owner).2.1
  have hpods : (coopRoundStoreF f rs aff gen now st).pods =
      (st.pods.filter (fun p => !((appliedDeletes f d rs items st now).map (·.2.name)).contains p.name)).map
        (kubeletReady now) ++
      (appliedCreates f d rs items st now).map (coopPodFor rs aff gen now) := by
    unfold coopRoundStoreF applyPodWritesHard nameCreates
    simp only []
    rw [hcre, hdel, hclean, List.append_nil, List.map_append, List.map_map, List.map_map, List.map_map]
    exact congrArg _ (List.map_congr_left fun _ _ => rfl)
  show (coopRoundStoreF f rs aff gen now st).pods.filter (isEdsPod d) = _
  rw [hpods, List.filter_append, filter_kubeletReady S now _ (fun p hp => (List.mem_filter.mp hp).1), filter_swap]
  refine congrArg _ (List.filter_eq_self.mpr ?_)
  intro p hp
  obtain ⟨ni, hni, rfl⟩ := List.mem_map.mp hp
  have hit := fitItems_sub (mem_createCands_storeEntries (List.mem_of_mem_take (List.mem_filter.mp hni).1)).1
  exact (coopPodFor_props C hns gen now ni (S.nodeNamed ni hit) (S.noSetting ni hit) (S.hashOk ni hit)).2.2.2.2.2.1

/-- the hypotheses of the list-level step lemmas (C02c `stepPods_*`, `stepPods_counts`) for the applied writes. -/
theorem applied_facts (S : CoopStore d rs gen items st) (now : Time) (f : Faults) :
    (∀ ni ∈ appliedCreates f d rs items st now,
      ni ∈ fitItems rs items ∧ podOn (edsPodsOf d st) ni.node.name = none) ∧
    ((appliedCreates f d rs items st now).map (·.node.name)).Sublist ((fitItems rs items).map (·.node.name)) ∧
    (∀ x ∈ appliedDeletes f d rs items st now, x.1 ∈ fitItems rs items ∧
      podOn (edsPodsOf d st) x.1.node.name = some x.2 ∧ comparePod rs.templateGeneration x.2 x.1 = false) ∧
    ((appliedDeletes f d rs items st now).map (·.1.node.name)).Sublist ((fitItems rs items).map (·.node.name)) := by
  refine ⟨?_, ?_, ?_, ?_⟩
  · intro ni hni
    exact mem_createCands_storeEntries (List.mem_of_mem_take (List.mem_filter.mp hni).1)
  · have h1 := (List.filter_sublist (l := plannedCreates d rs items st now)
      (p := fun ni => f.podCreate ni.node.name)).map (fun ni : NodeItem => ni.node.name)
    have h2 := createCands_names_sublist (storeEntries rs items (edsPodsOf d st))
      (min (coopE (storeEntries rs items (edsPodsOf d st))) (mcOf d rs (fitItems rs items).length now))
    rw [storeEntries_names] at h2
    exact h1.trans h2
  · intro x hx
    exact mem_oldCands_storeEntries_old S (List.mem_of_mem_take (List.mem_filter.mp hx).1)
  · have h1 := ((List.filter_sublist (l := plannedDeletes d rs items st now)
      (p := fun x => f.podDelete x.2.name)).trans (List.take_sublist _ _)).map
        (fun x : NodeItem × Pod => x.1.node.name)
    have h2 := oldCands_names_sublist rs.templateGeneration now (storeEntries rs items (edsPodsOf d st))
    rw [storeEntries_names] at h2
    exact h1.trans h2

/-- **One faulty cooperative round** (no gate firing), whatever the fault pattern `f`:
  * the store stays cooperative — EVERY component of `CoopStore` survives;
  * `empty' + #applied creations = empty + #applied deletions` and `outdated' + #applied deletions = outdated`. -/
theorem C11c_round (C : CoopSetup d rs aff) (S : CoopStore d rs gen items st)
    (hK : StratOk d (fitItems rs items).length) (hinj : ∀ a b, gen a = gen b → a = b)
    (now : Time) (G : GateFree d rs now) (f : Faults) :
    CoopStore d rs gen items (coopRoundStoreF f rs aff gen now st) ∧
    emptyNodes rs items (edsPodsOf d (coopRoundStoreF f rs aff gen now st)) +
        (appliedCreates f d rs items st now).length =
      emptyNodes rs items (edsPodsOf d st) + (appliedDeletes f d rs items st now).length ∧
    outdatedNodes rs items (edsPodsOf d (coopRoundStoreF f rs aff gen now st)) +
        (appliedDeletes f d rs items st now).length = outdatedNodes rs items (edsPodsOf d st) := by
  have hE' := coopRoundF_edsPods C S hK now G f
  have hns : d.ns = rs.ns := (ersOwner_some S.owner).2.1
  obtain ⟨hC, hCs, hD, hDs⟩ := applied_facts S now f
  have hnd := fitItems_names_nodup S
  have hCnd := List.Nodup.sublist hCs hnd
  have hprops : ∀ ni ∈ fitItems rs items, _ := fun ni hni =>
    coopPodFor_props C hns gen now ni (S.nodeNamed ni (fitItems_sub hni)) (S.noSetting ni (fitItems_sub hni))
      (S.hashOk ni (fitItems_sub hni))
  have hmkNode : ∀ ni ∈ fitItems rs items, (coopPodFor rs aff gen now ni).nodeName = ni.node.name :=
    fun ni hni => (hprops ni hni).1
  have hmkCur : ∀ ni ∈ fitItems rs items,
      comparePod rs.templateGeneration (coopPodFor rs aff gen now ni) ni = true :=
    fun ni hni => (hprops ni hni).2.2.2.2.2.2
  refine ⟨S.step C hinj now hC hCnd (fun x hx => ⟨(hD x hx).1, (hD x hx).2.1⟩) hE' S.owner S.hitems S.nodesNodup, ?_⟩
  rw [hE']
  exact stepPods_counts S _ _ _ hmkNode hmkCur hC hCs hD hDs

/-- what the round does to the replica-set object: only its status may change, and the new status cannot gate
a round that runs at least `max 0 reconcileFrequency` later — whether the status write was applied (every
condition is stamped at or before `now`) or dropped (the stored conditions are older still). -/
theorem nextErsF_gateFree (C : CoopSetup d rs aff) (S : CoopStore d rs gen items st)
    (hK : StratOk d (fitItems rs items).length) (now : Time) (G : GateFree d rs now) (f : Faults)
    (t : Time) (ht : now + max 0 (ersFreq d) ≤ t) :
    (∃ s, nextErsF f rs aff now st = { rs with status := s }) ∧ GateFree d (nextErsF f rs aff now st) t := by
  refine ⟨⟨_, rfl⟩, ?_⟩
  have hle := (C02c_sync C S hK now G (fun _ => false)).2.2.2.2
  intro c hc
  unfold nextErsF maskErs at hc
  simp only [] at hc
  cases hf : f.ersStatus with
  | true =>
    rw [hf] at hc
    simp only [if_true] at hc
    have := hle c hc
    omega
  | false =>
    rw [hf] at hc
    simp only [Bool.false_eq_true, if_false, Option.getD_none] at hc
    have := G c hc
    omega

end Step

/-! ### 2. The named one-round theorems -/

section Named
variable {d : EDS} {rs : ERS} {aff : Bool} {gen : String → String} {items : List NodeItem} {st : ErsStore}

/-- the measure of C02: `2·outdated + empty`. -/
def storeMeasure (d : EDS) (rs : ERS) (items : List NodeItem) (st : ErsStore) : Nat :=
  2 * outdatedNodes rs items (edsPodsOf d st) + emptyNodes rs items (edsPodsOf d st)

theorem storeMeasure_eq_variant (d : EDS) (rs : ERS) (items : List NodeItem) (st : ErsStore) :
    storeMeasure d rs items st = variant (storeAbs d rs items st) := rfl

/-- A faulty cooperative round — ANY subset of the planned pod creations and
deletions applied, the status write applied or not — run when no gate can fire:
  * keeps the store cooperative: ALL ten components of `CoopStore` survive;
  * leaves the nodes, the EDS objects (spec and status), the settings and the DaemonSets of the store as they are;
  * changes nothing of the replica set but its status (name, labels, template, template generation unchanged);
  * cannot gate a later round: `GateFree` holds again at every instant `t ≥ now + max 0 reconcileFrequency`
    — a DROPPED status write leaves conditions that are older than the written ones, not newer, so it gates nothing. -/
theorem C11c_faulty_round_keeps_coop (C : CoopSetup d rs aff) (S : CoopStore d rs gen items st)
    (hK : StratOk d (fitItems rs items).length) (hinj : ∀ a b, gen a = gen b → a = b)
    (now : Time) (G : GateFree d rs now) (f : Faults) :
    CoopStore d rs gen items (coopRoundStoreF f rs aff gen now st) ∧
    (coopRoundStoreF f rs aff gen now st).nodes = st.nodes ∧
    (coopRoundStoreF f rs aff gen now st).edss = st.edss ∧
    (coopRoundStoreF f rs aff gen now st).settings = st.settings ∧
    (coopRoundStoreF f rs aff gen now st).daemonsets = st.daemonsets ∧
    (∃ s, nextErsF f rs aff now st = { rs with status := s }) ∧
    (nextErsF f rs aff now st).template = rs.template ∧
    (nextErsF f rs aff now st).templateGeneration = rs.templateGeneration ∧
    (∀ t, now + max 0 (ersFreq d) ≤ t → GateFree d (nextErsF f rs aff now st) t) :=
  ⟨(C11c_round C S hK hinj now G f).1, rfl, rfl, rfl, rfl, ⟨_, rfl⟩, rfl, rfl,
    fun t ht => (nextErsF_gateFree C S hK now G f t ht).2⟩

/-- The measure drops by exactly the number of APPLIED creations and deletions. -/
theorem C11c_measure_exact (C : CoopSetup d rs aff) (S : CoopStore d rs gen items st)
    (hK : StratOk d (fitItems rs items).length) (hinj : ∀ a b, gen a = gen b → a = b)
    (now : Time) (G : GateFree d rs now) (f : Faults) :
    storeMeasure d rs items (coopRoundStoreF f rs aff gen now st) +
      ((maskErs f (reconcileErs rs st (fun _ => false) aff now)).creates.length +
       (maskErs f (reconcileErs rs st (fun _ => false) aff now)).deletes.length) = storeMeasure d rs items st := by
  obtain ⟨_, h1, h2⟩ := C11c_round C S hK hinj now G f
  obtain ⟨hc, hd, _⟩ := maskedSync C S hK now G f
  rw [hc, hd, List.length_map, List.length_map]
  unfold storeMeasure
  omega

/-- The measure `2·outdated + empty` never increases in a faulty round; it is
unchanged when no creation and no deletion is applied. -/
theorem C11c_measure_monotone (C : CoopSetup d rs aff) (S : CoopStore d rs gen items st)
    (hK : StratOk d (fitItems rs items).length) (hinj : ∀ a b, gen a = gen b → a = b)
    (now : Time) (G : GateFree d rs now) (f : Faults) :
    storeMeasure d rs items (coopRoundStoreF f rs aff gen now st) ≤ storeMeasure d rs items st ∧
    ((maskErs f (reconcileErs rs st (fun _ => false) aff now)).creates = [] →
     (maskErs f (reconcileErs rs st (fun _ => false) aff now)).deletes = [] →
      storeMeasure d rs items (coopRoundStoreF f rs aff gen now st) = storeMeasure d rs items st) := by
  have h := C11c_measure_exact C S hK hinj now G f
  refine ⟨by omega, fun h1 h2 => ?_⟩
  rw [h1, h2] at h
  simpa using h

/-- and it drops by at least one in a round that loses no pod write (C02: `variant_absRound_le`). -/
theorem C11c_measure_progress (C : CoopSetup d rs aff) (S : CoopStore d rs gen items st)
    (hK : StratOk d (fitItems rs items).length) (hinj : ∀ a b, gen a = gen b → a = b)
    (now : Time) (G : GateFree d rs now) :
    storeMeasure d rs items (coopRoundStoreF {} rs aff gen now st) ≤ storeMeasure d rs items st - 1 := by
  rw [coopRoundStoreF_ok]
  obtain ⟨_, hmc1, habs⟩ := C02c_refines C S hK hinj now G
  rw [storeMeasure_eq_variant, storeMeasure_eq_variant, habs]
  exact variant_absRound_le _ _ hK.mu hmc1 _

/-! #### the process stops; the answer is lost -/

theorem maskErs_stop (w : ErsWrites) :
    (maskErs stopFaults w).creates = [] ∧ (maskErs stopFaults w).deletes = [] ∧
    (maskErs stopFaults w).cleanupDeletes = [] ∧ (maskErs stopFaults w).labelAdds = [] ∧
    (maskErs stopFaults w).labelRemoves = [] ∧ (maskErs stopFaults w).statusUpdate = none := by
  simp [maskErs, stopFaults]

/-- **the process stops before its first write**: the round is the kubelet alone, the replica set is untouched. -/
theorem C11c_stopped_round (rs : ERS) (aff : Bool) (gen : String → String) (now : Time) (st : ErsStore) :
    coopRoundStoreF stopFaults rs aff gen now st = { st with pods := st.pods.map (kubeletReady now) } ∧
    nextErsF stopFaults rs aff now st = rs := by
  obtain ⟨h1, h2, h3, _, _, h6⟩ := maskErs_stop (reconcileErs rs st (fun _ => false) aff now)
  constructor
  · unfold coopRoundStoreF applyPodWritesHard nameCreates
    simp only []
    rw [h1, h2, h3]
    have : st.pods.filter (fun _ => true) = st.pods := List.filter_eq_self.mpr (fun _ _ => rfl)
    simp [this]
  · unfold nextErsF
    rw [h6]
    rfl

/-- … on a cooperative store it leaves the pods of the EDS — hence the counters — as they are. -/
theorem C11c_stopped_round_pods (S : CoopStore d rs gen items st) (now : Time) :
    edsPodsOf d (coopRoundStoreF stopFaults rs aff gen now st) = edsPodsOf d st := by
  rw [(C11c_stopped_round rs aff gen now st).1]
  exact filter_kubeletReady S now _ (fun _ h => h)

/-- **the answer is lost**: a call that was applied although the client saw an error has the store effect of the
applied call — the fault pattern describes what was APPLIED, not what was reported.  In particular when every
call is applied and every answer lost the round is the fault-free round. -/
theorem C11c_answer_lost (aff : Bool) (gen : String → String) (now : Time) (s : ERS × ErsStore) :
    coopRoundF {} aff gen now s = coopRound aff gen now s := coopRoundF_ok aff gen now s

end Named

/-! #### the canary label -/

/-- no pod of the EDS carries the canary label (the store-level round does not model label patches: the
label-removal patches of the active role only concern pods that still carry it). -/
def NoCanaryLabel (d : EDS) (st : ErsStore) : Prop :=
  ∀ p ∈ edsPodsOf d st, SMap.get? p.labels K.canaryLabel ≠ some "true"

theorem kubeletReady_labels (now : Time) (p : Pod) : (kubeletReady now p).labels = p.labels := by
  unfold kubeletReady
  split <;> rfl

/-- a created pod carries the canary label only if the template does. -/
theorem coopPodFor_canaryLabel (rs : ERS) (aff : Bool) (gen : String → String) (now : Time) (ni : NodeItem)
    (hs : ni.setting = none) :
    SMap.get? (coopPodFor rs aff gen now ni).labels K.canaryLabel = SMap.get? rs.template.labels K.canaryLabel := by
  unfold coopPodFor
  rw [kubeletReady_labels, hs]
  show SMap.get? (SMap.set (SMap.set _ _ _) _ _) _ = _
  -- the keys are compared by `simp` on the literals (`decide` would have the kernel run the string comparisons)
  rw [SMap.get?_set_other _ _ _ _ (by simp [K.canaryLabel, K.edsNameLabel]),
    SMap.get?_set_other _ _ _ _ (by simp [K.canaryLabel, K.ersNameLabel])]

section Fix
variable {d : EDS} {rs : ERS} {aff : Bool} {gen : String → String} {items : List NodeItem} {st : ErsStore}

theorem C11c_round_noCanaryLabel (C : CoopSetup d rs aff) (S : CoopStore d rs gen items st)
    (hK : StratOk d (fitItems rs items).length) (now : Time) (G : GateFree d rs now) (f : Faults)
    (hT : SMap.get? rs.template.labels K.canaryLabel ≠ some "true") (L : NoCanaryLabel d st) :
    NoCanaryLabel d (coopRoundStoreF f rs aff gen now st) := by
  intro p hp
  rw [coopRoundF_edsPods C S hK now G f] at hp
  obtain ⟨hC, _, hD, _⟩ := applied_facts S now f
  rcases (mem_stepPods (fitItems rs items) _ _ _ _ S.onePer S.nameNode
      (fun x hx => ⟨(hD x hx).1, (hD x hx).2.1⟩)).mp hp with ⟨hpE, _⟩ | ⟨ni, hni, rfl⟩
  · exact L p hpE
  · rw [coopPodFor_canaryLabel rs aff gen now ni (S.noSetting ni (fitItems_sub (hC ni hni).1))]
    exact hT

end Fix

/-! ### 3. Runs: faulty rounds, then fault-free rounds -/

/-- `n` cooperative rounds, round `i` (from 0) at instant `clock i` under the fault pattern `fs i`. -/
def coopRunF (aff : Bool) (gen : String → String) (fs : Nat → Faults) (clock : Nat → Time) :
    Nat → ERS × ErsStore → ERS × ErsStore
  | 0, s => s
  | n + 1, s => coopRoundF (fs n) aff gen (clock n) (coopRunF aff gen fs clock n s)

theorem coopRunF_ok (aff : Bool) (gen : String → String) (clock : Nat → Time) (n : Nat) (s : ERS × ErsStore) :
    coopRunF aff gen (fun _ => {}) clock n s = coopRun aff gen clock n s := by
  induction n with
  | zero => rfl
  | succ n ih =>
    show coopRoundF {} aff gen (clock n) (coopRunF aff gen (fun _ => {}) clock n s) = coopRound aff gen (clock n) _
    rw [ih, coopRoundF_ok]

/-- the faulted run followed by `k` fault-free rounds (the clock goes on: round `n + i` at `clock (n + i)`). -/
def recoverRun (aff : Bool) (gen : String → String) (fs : Nat → Faults) (clock : Nat → Time) (n k : Nat)
    (s : ERS × ErsStore) : ERS × ErsStore :=
  coopRun aff gen (fun i => clock (n + i)) k (coopRunF aff gen fs clock n s)

section Run
variable {d : EDS} {rs : ERS} {aff : Bool} {gen : String → String} {items : List NodeItem} {st : ErsStore}

/-- **the invariant of a faulted run**: after `n` faulty rounds the replica set is `rs` with another status, the
store is cooperative, no gate can fire at `clock n`, the measure has not grown, and no pod of the EDS has gained
the canary label. -/
theorem coopRunF_inv (C : CoopSetup d rs aff) (S : CoopStore d rs gen items st)
    (hK : StratOk d (fitItems rs items).length) (hinj : ∀ a b, gen a = gen b → a = b)
    (fs : Nat → Faults) (clock : Nat → Time) (hclock : ∀ k, clock k + max 0 (ersFreq d) ≤ clock (k + 1))
    (G : GateFree d rs (clock 0)) (n : Nat) :
    ∃ s stn, coopRunF aff gen fs clock n (rs, st) = ({ rs with status := s }, stn) ∧
      CoopStore d rs gen items stn ∧ GateFree d { rs with status := s } (clock n) ∧
      storeMeasure d rs items stn ≤ storeMeasure d rs items st ∧
      (SMap.get? rs.template.labels K.canaryLabel ≠ some "true" → NoCanaryLabel d st → NoCanaryLabel d stn) := by
  induction n with
  | zero => exact ⟨rs.status, st, rfl, S, G, Nat.le_refl _, fun _ L => L⟩
  | succ n ih =>
    obtain ⟨s, stn, hrun, Sn, Gn, hv, hL⟩ := ih
    have Cn := C.withStatus s
    have Sn' := Sn.withStatus s
    refine ⟨_, _, ?_, CoopStore.ofStatus s (C11c_round Cn Sn' hK hinj (clock n) Gn (fs n)).1,
      (nextErsF_gateFree Cn Sn' hK (clock n) Gn (fs n) (clock (n + 1)) (hclock n)).2,
      Nat.le_trans (C11c_measure_monotone Cn Sn' hK hinj (clock n) Gn (fs n)).1 hv,
      fun hT L => C11c_round_noCanaryLabel Cn Sn' hK (clock n) Gn (fs n) hT (hL hT L)⟩
    show coopRoundF (fs n) aff gen (clock n) (coopRunF aff gen fs clock n (rs, st)) = _
    rw [hrun]
    rfl

/-- the same for the whole recovery: `n` faulty rounds, then `k` fault-free ones. -/
theorem recoverRun_inv (C : CoopSetup d rs aff) (S : CoopStore d rs gen items st)
    (hK : StratOk d (fitItems rs items).length) (hinj : ∀ a b, gen a = gen b → a = b)
    (fs : Nat → Faults) (clock : Nat → Time) (hclock : ∀ k, clock k + max 0 (ersFreq d) ≤ clock (k + 1))
    (G : GateFree d rs (clock 0)) (n k : Nat) :
    ∃ s st', recoverRun aff gen fs clock n k (rs, st) = ({ rs with status := s }, st') ∧
      CoopStore d rs gen items st' ∧ GateFree d { rs with status := s } (clock (n + k)) ∧
      (SMap.get? rs.template.labels K.canaryLabel ≠ some "true" → NoCanaryLabel d st → NoCanaryLabel d st') := by
  obtain ⟨s, stn, hrun, Sn, Gn, _, hL⟩ := coopRunF_inv C S hK hinj fs clock hclock G n
  obtain ⟨s', st', hrun', Sk, Gk, _, hL'⟩ := coopRunF_inv (C.withStatus s) (Sn.withStatus s) hK hinj (fun _ => {})
    (fun i => clock (n + i)) (fun i => hclock (n + i)) Gn k
  refine ⟨s', st', ?_, CoopStore.ofStatus s Sk, Gk, fun hT L => hL' hT (hL hT L)⟩
  unfold recoverRun
  rw [hrun, ← coopRunF_ok, hrun']

/-- `rs` is the active replica set of EDS `d`, no canary in progress (`CoopSetup`), the
strategy parses (`StratOk`), the store is cooperative (`CoopStore`), the name generator is injective; rounds are
at least `max 0 reconcileFrequency` apart and no gate can fire at the first one.

Run ANY number `n` of faulty rounds under ARBITRARY fault patterns `fs 0 … fs (n-1)` (any subset of the planned
pod creations / deletions applied, the status write applied or not, the process stopped, answers lost), then
`k ≥ 2·outdated + empty` fault-free rounds, the measure being taken AFTER the faults.  Then the conclusion of
`C02_converges_store` holds: the store is cooperative, no eligible node is empty, no pod is outdated, every
eligible node carries exactly one pod of the EDS — live, Running, Ready, stamped with `rs.templateGeneration` —
the EDS has no other pod, and a further sync (any instant, any back-off oracle) writes no pod. -/
theorem C11c_recovers_store (C : CoopSetup d rs aff) (S : CoopStore d rs gen items st)
    (hK : StratOk d (fitItems rs items).length) (hinj : ∀ a b, gen a = gen b → a = b)
    (fs : Nat → Faults) (clock : Nat → Time) (hclock : ∀ k, clock k + max 0 (ersFreq d) ≤ clock (k + 1))
    (G : GateFree d rs (clock 0)) (n k : Nat)
    (hk : storeMeasure d rs items (coopRunF aff gen fs clock n (rs, st)).2 ≤ k) :
    CoopStore d rs gen items (recoverRun aff gen fs clock n k (rs, st)).2 ∧
    emptyNodes rs items (edsPodsOf d (recoverRun aff gen fs clock n k (rs, st)).2) = 0 ∧
    outdatedNodes rs items (edsPodsOf d (recoverRun aff gen fs clock n k (rs, st)).2) = 0 ∧
    (∀ ni ∈ fitItems rs items, ∃ p,
      (edsPodsOf d (recoverRun aff gen fs clock n k (rs, st)).2).filter (fun q => q.nodeName == ni.node.name) = [p] ∧
      p.deletion = none ∧ p.phase = "Running" ∧ p.ready = true ∧
      SMap.get? p.annotations K.templateHashAnnot = some rs.templateGeneration ∧
      comparePod rs.templateGeneration p ni = true) ∧
    (∀ p ∈ edsPodsOf d (recoverRun aff gen fs clock n k (rs, st)).2, ∃ ni ∈ fitItems rs items, p.nodeName = ni.node.name) ∧
    (∀ (now : Time) (released : String → Bool),
      (reconcileErs (recoverRun aff gen fs clock n k (rs, st)).1 (recoverRun aff gen fs clock n k (rs, st)).2
        released aff now).creates = [] ∧
      (reconcileErs (recoverRun aff gen fs clock n k (rs, st)).1 (recoverRun aff gen fs clock n k (rs, st)).2
        released aff now).deletes = [] ∧
      (reconcileErs (recoverRun aff gen fs clock n k (rs, st)).1 (recoverRun aff gen fs clock n k (rs, st)).2
        released aff now).cleanupDeletes = []) ∧
    (∃ s, (recoverRun aff gen fs clock n k (rs, st)).1 = { rs with status := s }) := by
  obtain ⟨s, stn, hrun, Sn, Gn, _, _⟩ := coopRunF_inv C S hK hinj fs clock hclock G n
  unfold recoverRun
  rw [hrun] at hk ⊢
  have hclock' : ∀ i, clock (n + i) + max 0 (ersFreq d) ≤ clock (n + (i + 1)) := fun i => hclock (n + i)
  obtain ⟨h1, h2, h3, h4, h5, h6⟩ := C02_converges_store (C.withStatus s) (Sn.withStatus s) hK hinj
    (fun i => clock (n + i)) hclock' Gn k hk
  exact ⟨CoopStore.ofStatus s h1, h2, h3, h4, h5, h6,
    (coopRun_inv (C.withStatus s) (Sn.withStatus s) hK hinj (fun i => clock (n + i)) hclock' Gn k).1⟩

/-- the measure does not grow under faults: the bound may be taken BEFORE them. -/
theorem coopRunF_measure_le (C : CoopSetup d rs aff) (S : CoopStore d rs gen items st)
    (hK : StratOk d (fitItems rs items).length) (hinj : ∀ a b, gen a = gen b → a = b)
    (fs : Nat → Faults) (clock : Nat → Time) (hclock : ∀ k, clock k + max 0 (ersFreq d) ≤ clock (k + 1))
    (G : GateFree d rs (clock 0)) (n : Nat) :
    storeMeasure d rs items (coopRunF aff gen fs clock n (rs, st)).2 ≤ storeMeasure d rs items st := by
  obtain ⟨_, _, hrun, _, _, hm, _⟩ := coopRunF_inv C S hK hinj fs clock hclock G n
  rw [hrun]
  exact hm

/-- the same with the bound taken BEFORE the faults (the measure does not grow under faults). -/
theorem C11c_recovers_store_bound (C : CoopSetup d rs aff) (S : CoopStore d rs gen items st)
    (hK : StratOk d (fitItems rs items).length) (hinj : ∀ a b, gen a = gen b → a = b)
    (fs : Nat → Faults) (clock : Nat → Time) (hclock : ∀ k, clock k + max 0 (ersFreq d) ≤ clock (k + 1))
    (G : GateFree d rs (clock 0)) (n k : Nat) (hk : storeMeasure d rs items st ≤ k) :
    CoopStore d rs gen items (recoverRun aff gen fs clock n k (rs, st)).2 ∧
    emptyNodes rs items (edsPodsOf d (recoverRun aff gen fs clock n k (rs, st)).2) = 0 ∧
    outdatedNodes rs items (edsPodsOf d (recoverRun aff gen fs clock n k (rs, st)).2) = 0 := by
  obtain ⟨h1, h2, h3, _⟩ := C11c_recovers_store C S hK hinj fs clock hclock G n k
    (Nat.le_trans (coopRunF_measure_le C S hK hinj fs clock hclock G n) hk)
  exact ⟨h1, h2, h3⟩

end Run

/-! ### 4. The same fixpoint -/

section Fix
variable {d : EDS} {rs : ERS} {aff : Bool} {gen : String → String} {items : List NodeItem} {st : ErsStore}

/-- **a converged cooperative store is quiescent** in the sense of C11b (`QuiescentAt`), provided no pod of the
EDS carries the canary label. -/
theorem quiescent_of_converged (C : CoopSetup d rs aff) (S : CoopStore d rs gen items st)
    (he : emptyNodes rs items (edsPodsOf d st) = 0) (ho : outdatedNodes rs items (edsPodsOf d st) = 0)
    (L : NoCanaryLabel d st) : QuiescentAt d rs st items := by
  obtain ⟨h1, _⟩ := C02c_converged S he ho
  have hfit : ∀ ni ∈ items, fit rs.template ni.node = true → ni ∈ fitItems rs items := by
    intro ni hni hf
    unfold fitItems
    rw [candidates_nil_eq]
    exact List.mem_filter.mpr ⟨hni, hf⟩
  exact
    { owner := S.owner
      defaulted := C.defaulted
      active := ersRole_active C
      noCanary := C.noCanary
      listed := S.hitems
      nodeNames := items_names_nodup S
      onePod := by
        intro ni hni hf
        obtain ⟨p, hp, _⟩ := h1 ni (hfit ni hni hf)
        rw [ersPods_eq C, hp]
        rfl
      podOk := by
        intro p hp
        rw [ersPods_eq C] at hp
        obtain ⟨hd, hph, hr, ni, hni, hn⟩ := S.settled p hp
        obtain ⟨q, hq, _, _, _, _, hcmp⟩ := h1 ni hni
        have hmem : p ∈ (edsPodsOf d st).filter (fun q => q.nodeName == ni.node.name) :=
          List.mem_filter.mpr ⟨hp, by simp [hn]⟩
        rw [hq, List.mem_singleton] at hmem
        subst hmem
        have hni' := hni
        unfold fitItems at hni'
        rw [candidates_nil_eq] at hni'
        obtain ⟨hi, hf⟩ := List.mem_filter.mp hni'
        exact ⟨S.bound hp, hd, hph, hr, L p hp, ni, hi, hn.symm, hf, hcmp⟩ }

/-- the run never touches the nodes of the store. -/
theorem coopRunF_nodes (aff : Bool) (gen : String → String) (fs : Nat → Faults) (clock : Nat → Time) (n : Nat)
    (s : ERS × ErsStore) : (coopRunF aff gen fs clock n s).2.nodes = s.2.nodes := by
  induction n with
  | zero => rfl
  -- a round is a record update of the store that does not mention `.nodes`: the step goal unfolds to `ih`
  | succ n ih => exact ih

theorem recoverRun_nodes (aff : Bool) (gen : String → String) (fs : Nat → Faults) (clock : Nat → Time) (n k : Nat)
    (s : ERS × ErsStore) : (recoverRun aff gen fs clock n k s).2.nodes = s.2.nodes := by
  unfold recoverRun
  rw [← coopRunF_ok, coopRunF_nodes, coopRunF_nodes]

/-- **the recovered store is quiescent** for the replica set whatever status it carries. -/
theorem C11c_recovered_quiescent (C : CoopSetup d rs aff) (S : CoopStore d rs gen items st)
    (hK : StratOk d (fitItems rs items).length) (hinj : ∀ a b, gen a = gen b → a = b)
    (fs : Nat → Faults) (clock : Nat → Time) (hclock : ∀ k, clock k + max 0 (ersFreq d) ≤ clock (k + 1))
    (G : GateFree d rs (clock 0))
    (hT : SMap.get? rs.template.labels K.canaryLabel ≠ some "true") (L : NoCanaryLabel d st) (n k : Nat)
    (hk : storeMeasure d rs items (coopRunF aff gen fs clock n (rs, st)).2 ≤ k) (s : ERSStatus) :
    QuiescentAt d { rs with status := s } (recoverRun aff gen fs clock n k (rs, st)).2 items := by
  obtain ⟨h1, h2, h3, _⟩ := C11c_recovers_store C S hK hinj fs clock hclock G n k hk
  obtain ⟨_, _, hrun, _, _, hL⟩ := recoverRun_inv C S hK hinj fs clock hclock G n k
  exact quiescent_of_converged (C.withStatus s) (h1.withStatus s) h2 h3 (by rw [hrun]; exact hL hT L)

end Fix

/-- Two recoveries — possibly in different stores `st₁`, `st₂` holding different EDS
objects `d₁`, `d₂`, under different name generators, fault patterns, numbers of faulty rounds, clocks and affinity
modes — of the SAME replica set `rs` over the SAME stored nodes and the SAME strategy (the hypotheses of
`C11_fixpoint_unique`), each followed by enough fault-free rounds, end in stores that
  (a) carry the same multiset of (node, template hash) pairs of EDS pods,
  (b) make the sync of the replica set — under any common stored status `s`, at any instant, with any back-off
      oracles and affinity modes — report the same status counters, and
  (c) receive no pod write from it.
Nothing is assumed about pod names beyond each generator being injective and fresh for its own store. -/
theorem C11c_same_fixpoint {d₁ d₂ : EDS} {rs : ERS} {aff₁ aff₂ : Bool} {gen₁ gen₂ : String → String}
    {items₁ items₂ : List NodeItem} {st₁ st₂ : ErsStore}
    (C₁ : CoopSetup d₁ rs aff₁) (S₁ : CoopStore d₁ rs gen₁ items₁ st₁)
    (hK₁ : StratOk d₁ (fitItems rs items₁).length) (hinj₁ : ∀ a b, gen₁ a = gen₁ b → a = b)
    (fs₁ : Nat → Faults) (clock₁ : Nat → Time) (hclock₁ : ∀ k, clock₁ k + max 0 (ersFreq d₁) ≤ clock₁ (k + 1))
    (G₁ : GateFree d₁ rs (clock₁ 0)) (L₁ : NoCanaryLabel d₁ st₁)
    (C₂ : CoopSetup d₂ rs aff₂) (S₂ : CoopStore d₂ rs gen₂ items₂ st₂)
    (hK₂ : StratOk d₂ (fitItems rs items₂).length) (hinj₂ : ∀ a b, gen₂ a = gen₂ b → a = b)
    (fs₂ : Nat → Faults) (clock₂ : Nat → Time) (hclock₂ : ∀ k, clock₂ k + max 0 (ersFreq d₂) ≤ clock₂ (k + 1))
    (G₂ : GateFree d₂ rs (clock₂ 0)) (L₂ : NoCanaryLabel d₂ st₂)
    (hT : SMap.get? rs.template.labels K.canaryLabel ≠ some "true")
    (hnodes : st₁.nodes = st₂.nodes) (hstrat : d₁.strategy = d₂.strategy)
    (n₁ k₁ n₂ k₂ : Nat)
    (hk₁ : storeMeasure d₁ rs items₁ (coopRunF aff₁ gen₁ fs₁ clock₁ n₁ (rs, st₁)).2 ≤ k₁)
    (hk₂ : storeMeasure d₂ rs items₂ (coopRunF aff₂ gen₂ fs₂ clock₂ n₂ (rs, st₂)).2 ≤ k₂)
    (s : ERSStatus) (rel₁ rel₂ : String → Bool) (a₁ a₂ : Bool) (now : Time) :
    (hashAssignment d₁ (recoverRun aff₁ gen₁ fs₁ clock₁ n₁ k₁ (rs, st₁)).2).Perm
      (hashAssignment d₂ (recoverRun aff₂ gen₂ fs₂ clock₂ n₂ k₂ (rs, st₂)).2) ∧
    counters ((reconcileErs { rs with status := s } (recoverRun aff₁ gen₁ fs₁ clock₁ n₁ k₁ (rs, st₁)).2
        rel₁ a₁ now).statusUpdate.getD s) =
      counters ((reconcileErs { rs with status := s } (recoverRun aff₂ gen₂ fs₂ clock₂ n₂ k₂ (rs, st₂)).2
        rel₂ a₂ now).statusUpdate.getD s) ∧
    (reconcileErs { rs with status := s } (recoverRun aff₁ gen₁ fs₁ clock₁ n₁ k₁ (rs, st₁)).2 rel₁ a₁ now).noPodWrite ∧
    (reconcileErs { rs with status := s } (recoverRun aff₂ gen₂ fs₂ clock₂ n₂ k₂ (rs, st₂)).2 rel₂ a₂ now).noPodWrite := by
  have Q₁ := C11c_recovered_quiescent C₁ S₁ hK₁ hinj₁ fs₁ clock₁ hclock₁ G₁ hT L₁ n₁ k₁ hk₁ s
  have Q₂ := C11c_recovered_quiescent C₂ S₂ hK₂ hinj₂ fs₂ clock₂ hclock₂ G₂ hT L₂ n₂ k₂ hk₂ s
  exact C11_fixpoint_unique d₁ d₂ { rs with status := s } _ _ ⟨_, Q₁⟩ ⟨_, Q₂⟩
    (by rw [recoverRun_nodes, recoverRun_nodes]; exact hnodes) hstrat rel₁ rel₂ a₁ a₂ now

/-- the fault-free run is the recovery without faulty rounds. -/
theorem recoverRun_zero (aff : Bool) (gen : String → String) (fs : Nat → Faults) (clock : Nat → Time) (k : Nat)
    (s : ERS × ErsStore) : recoverRun aff gen fs clock 0 k s = coopRun aff gen clock k s := by
  unfold recoverRun
  simp only [Nat.zero_add]
  rfl

/-- From the same start, the run with `n` faulty rounds followed by `k` fault-free
ones (`k ≥` the measure after the faults) and the run WITHOUT any failure (`k' ≥ 2·outdated + empty`) end in stores
with the same (node, template hash) assignment, the same status counters reported by the next sync (under any
common stored status) and no pod write. -/
theorem C11c_same_as_fault_free {d : EDS} {rs : ERS} {aff : Bool} {gen : String → String} {items : List NodeItem}
    {st : ErsStore} (C : CoopSetup d rs aff) (S : CoopStore d rs gen items st)
    (hK : StratOk d (fitItems rs items).length) (hinj : ∀ a b, gen a = gen b → a = b)
    (fs : Nat → Faults) (clock : Nat → Time) (hclock : ∀ k, clock k + max 0 (ersFreq d) ≤ clock (k + 1))
    (G : GateFree d rs (clock 0)) (L : NoCanaryLabel d st)
    (hT : SMap.get? rs.template.labels K.canaryLabel ≠ some "true") (n k k' : Nat)
    (hk : storeMeasure d rs items (coopRunF aff gen fs clock n (rs, st)).2 ≤ k) (hk' : storeMeasure d rs items st ≤ k')
    (s : ERSStatus) (rel₁ rel₂ : String → Bool) (a₁ a₂ : Bool) (now : Time) :
    (hashAssignment d (recoverRun aff gen fs clock n k (rs, st)).2).Perm
      (hashAssignment d (coopRun aff gen clock k' (rs, st)).2) ∧
    counters ((reconcileErs { rs with status := s } (recoverRun aff gen fs clock n k (rs, st)).2
        rel₁ a₁ now).statusUpdate.getD s) =
      counters ((reconcileErs { rs with status := s } (coopRun aff gen clock k' (rs, st)).2
        rel₂ a₂ now).statusUpdate.getD s) ∧
    (reconcileErs { rs with status := s } (recoverRun aff gen fs clock n k (rs, st)).2 rel₁ a₁ now).noPodWrite ∧
    (reconcileErs { rs with status := s } (coopRun aff gen clock k' (rs, st)).2 rel₂ a₂ now).noPodWrite := by
  rw [← recoverRun_zero aff gen (fun _ => {}) clock k' (rs, st)]
  exact C11c_same_fixpoint C S hK hinj fs clock hclock G L C S hK hinj (fun _ => {}) clock hclock G L hT rfl rfl
    n k 0 k' hk hk' s rel₁ rel₂ a₁ a₂ now

section Counters
variable {d : EDS} {rs : ERS} {aff : Bool} {gen : String → String} {items : List NodeItem} {st : ErsStore}

/-- the counters of a converged replica set over `N` eligible nodes: desired = current = ready = available = `N`,
ignored = 0. -/
def convergedCounters (N : Nat) : Int × Int × Int × Int × Int := (N, N, N, N, 0)

theorem GateFree.mono {d : EDS} {rs : ERS} {t t' : Time} (G : GateFree d rs t) (h : t ≤ t') : GateFree d rs t' := by
  intro c hc
  have := G c hc
  omega

/-- **the counters at the fixpoint, explicitly.**  At a converged cooperative store a sync that no gate holds
back reports `desired = current = ready = available = N` (the number of eligible nodes) and `ignored = 0` —
whatever status the replica set stored before (written or dropped in earlier rounds). -/
theorem C11c_counters_explicit (C : CoopSetup d rs aff) (S : CoopStore d rs gen items st)
    (hK : StratOk d (fitItems rs items).length)
    (he : emptyNodes rs items (edsPodsOf d st) = 0) (ho : outdatedNodes rs items (edsPodsOf d st) = 0)
    (L : NoCanaryLabel d st) (now : Time) (G : GateFree d rs now) (released : String → Bool) (a : Bool) :
    counters ((reconcileErs rs st released a now).statusUpdate.getD rs.status) =
      convergedCounters (fitItems rs items).length := by
  have Q := quiescent_of_converged C S he ho L
  rw [C11_quiescent_counters Q released a now]
  have hN : fitItemsQ rs items = fitItems rs items := by unfold fitItems; exact candidates_nil_eq.symm
  rw [hN]
  unfold quiescentCounters convergedCounters
  rw [if_neg (fun h => by
    have h' : ersGated d rs now = true := h
    rw [ersGated_false G] at h'
    cases h')]
  obtain ⟨ms, mu, inc, iv, mp, hms, _, hmu, _, _, hinc, hinc1, hiv, hmp, hmp1⟩ := hK.resolved C.defaulted
  have hstart := rollingUpdateStartTime_le rs.status now G.condsLe
  obtain ⟨mc, hmc, _, _⟩ := calculateMaxCreation_ok d.strategy.rollingUpdate.slowStartAdditiveIncrease iv mp
    ((fitItems rs items).length : Nat) (rollingUpdateStartTime rs.status now) now inc hinc hinc1 hmp1 hstart
  have hres : mdResolve d.strategy.rollingUpdate ((fitItems rs items).length : Nat)
      (rollingUpdateStartTime rs.status now) now = .ok () := by
    unfold mdResolve
    rw [hms, hmu]
    simp only []
    rw [hiv, hmp, hmc]
    rfl
  rw [hres]

/-- **the status the recovered run reports**: the first sync at or after `clock (n + k)` writes (or leaves) the
counters `(N, N, N, N, 0)` — the same for every fault history, in particular for the run without failure. -/
theorem C11c_recovered_counters (C : CoopSetup d rs aff) (S : CoopStore d rs gen items st)
    (hK : StratOk d (fitItems rs items).length) (hinj : ∀ a b, gen a = gen b → a = b)
    (fs : Nat → Faults) (clock : Nat → Time) (hclock : ∀ k, clock k + max 0 (ersFreq d) ≤ clock (k + 1))
    (G : GateFree d rs (clock 0)) (L : NoCanaryLabel d st)
    (hT : SMap.get? rs.template.labels K.canaryLabel ≠ some "true") (n k : Nat)
    (hk : storeMeasure d rs items (coopRunF aff gen fs clock n (rs, st)).2 ≤ k)
    (now : Time) (hnow : clock (n + k) ≤ now) (released : String → Bool) (a : Bool) :
    counters ((reconcileErs (recoverRun aff gen fs clock n k (rs, st)).1 (recoverRun aff gen fs clock n k (rs, st)).2
        released a now).statusUpdate.getD (recoverRun aff gen fs clock n k (rs, st)).1.status) =
      convergedCounters (fitItems rs items).length := by
  obtain ⟨h1, h2, h3, _⟩ := C11c_recovers_store C S hK hinj fs clock hclock G n k hk
  obtain ⟨s, st', hrun, _, Gs, hL⟩ := recoverRun_inv C S hK hinj fs clock hclock G n k
  rw [hrun] at h1 h2 h3 ⊢
  exact C11c_counters_explicit (C.withStatus s) (h1.withStatus s) hK h2 h3 (hL hT L) now (Gs.mono hnow) released a

end Counters

/-! ### 5. The cluster machine: faulty rounds as runs of `stepF` -/

/-- **the operations of one faulty cooperative round** in the cluster machine: tick to `t`; `Op.reconcileErs` of
the replica set under the fault pattern `f` (`stepF f`: the status write and the pod writes `f` lets through
are applied by the cluster machine — graceful deletions, label patches included); then the cooperative,
instantaneous kubelet of C02c. -/
def coopOpsF (f : Faults) (name : String) (aff : Bool) (gen : String → String) (t : Time) (w : World) :
    List (Faults × Op) :=
  [ ({}, .tick (t - w.now).toNat),
    (f, .reconcileErs name (fun _ => false) aff),
    ({}, .kubelet (match findErs w name with
                   | some rs => (coopRoundStoreF f rs aff gen t w.store).pods
                   | none => w.pods)) ]

def coopRunOpsF (name : String) (aff : Bool) (gen : String → String) (fs : Nat → Faults) (clock : Nat → Time) :
    Nat → World → List (Faults × Op)
  | 0, _ => []
  | n + 1, w =>
    coopRunOpsF name aff gen fs clock n w ++
      coopOpsF (fs n) name aff gen (clock n) (runF w (coopRunOpsF name aff gen fs clock n w))

/-- the world after `n` faulty cooperative rounds: a `runF` of the cluster machine. -/
def coopRunWF (name : String) (aff : Bool) (gen : String → String) (fs : Nat → Faults) (clock : Nat → Time) (n : Nat)
    (w : World) : World :=
  runF w (coopRunOpsF name aff gen fs clock n w)

theorem runF_append (w : World) (l1 l2 : List (Faults × Op)) : runF w (l1 ++ l2) = runF (runF w l1) l2 := by
  unfold runF; rw [List.foldl_append]

theorem coopRunWF_succ (name : String) (aff : Bool) (gen : String → String) (fs : Nat → Faults) (clock : Nat → Time)
    (n : Nat) (w : World) :
    coopRunWF name aff gen fs clock (n + 1) w =
      runF (coopRunWF name aff gen fs clock n w)
        (coopOpsF (fs n) name aff gen (clock n) (coopRunWF name aff gen fs clock n w)) := by
  unfold coopRunWF
  rw [coopRunOpsF, runF_append]

/-- **one faulty round of the cluster machine is one faulty round at store level.** -/
theorem coopRoundF_sim (f : Faults) (w : World) (rs : ERS) (aff : Bool) (gen : String → String) (t : Time)
    (hf : findErs w rs.name = some rs) (ht : w.now ≤ t) :
    (runF w (coopOpsF f rs.name aff gen t w)).store = coopRoundStoreF f rs aff gen t w.store ∧
    findErs (runF w (coopOpsF f rs.name aff gen t w)) rs.name = some (nextErsF f rs aff t w.store) ∧
    (runF w (coopOpsF f rs.name aff gen t w)).eds = w.eds ∧
    (runF w (coopOpsF f rs.name aff gen t w)).now = t := by
  unfold coopOpsF
  rw [hf]
  exact round_sim f w rs aff t _ hf ht _ rfl

/-- **`n` faulty rounds of the cluster machine are `n` faulty rounds at store level.** -/
theorem coopRunWF_sim (w : World) (rs : ERS) (aff : Bool) (gen : String → String) (fs : Nat → Faults)
    (clock : Nat → Time) (hf : findErs w rs.name = some rs) (h0 : w.now ≤ clock 0)
    (hmono : ∀ k, clock k ≤ clock (k + 1)) (n : Nat) :
    (coopRunWF rs.name aff gen fs clock n w).store = (coopRunF aff gen fs clock n (rs, w.store)).2 ∧
    findErs (coopRunWF rs.name aff gen fs clock n w) rs.name = some (coopRunF aff gen fs clock n (rs, w.store)).1 ∧
    (coopRunF aff gen fs clock n (rs, w.store)).1.name = rs.name ∧
    (coopRunWF rs.name aff gen fs clock n w).eds = w.eds ∧
    (coopRunWF rs.name aff gen fs clock n w).now ≤ clock n := by
  induction n with
  | zero => exact ⟨rfl, hf, rfl, rfl, h0⟩
  | succ n ih =>
    obtain ⟨h1, h2, h3, h4, h5⟩ := ih
    rw [coopRunWF_succ]
    obtain ⟨g1, g2, g3, g4⟩ := coopRoundF_sim (fs n) (coopRunWF rs.name aff gen fs clock n w)
      (coopRunF aff gen fs clock n (rs, w.store)).1 aff gen (clock n) (by rw [h3]; exact h2) h5
    rw [h3, h1] at g1 g2
    rw [h3] at g3 g4
    exact ⟨g1, g2, h3, g3.trans h4, by rw [g4]; exact hmono n⟩

section ClusterF
variable {w w' : World} {rs : ERS} {aff : Bool} {gen : String → String} {items : List NodeItem}

/-- From a world `w'` with no canary in progress and `rs` live (reached from `w` by
whatever daemonset reconciles): `n` faulty cooperative rounds of the cluster machine (`runF`, arbitrary fault
patterns on the replica-set reconciles), then `k ≥ liveBound w rs items` fault-free rounds (`run`), end in the
converged cluster of L3Live — the one the run without failure reaches. -/
theorem C11c_cluster_recovers (L : LiveOn w' rs) (F : EdsFrame w w')
    (hdef : isDefaulted w.eds.strategy w.eds.templateName = true) (E : LiveEnv w rs aff)
    (hann : w'.eds.annotations = (clearCanaryAnnotations w.eds.annotations).1 ∨ w'.eds.annotations = w.eds.annotations)
    (hfind : findErs w' rs.name = some rs)
    (S : CoopStore w.eds rs gen items w.store) (hK : StratOk w.eds (fitItems rs items).length)
    (hinj : ∀ x y, gen x = gen y → x = y) (fs : Nat → Faults) (clock : Nat → Time) (h0 : w.now ≤ clock 0)
    (hclock : ∀ k, clock k + max 0 (ersFreq w.eds) ≤ clock (k + 1)) (G : GateFree w.eds rs (clock 0))
    (n k : Nat) (hk : liveBound w rs items ≤ k) :
    ClusterConverged
      (coopRunW rs.name aff gen (fun i => clock (n + i)) k (coopRunWF rs.name aff gen fs clock n w')) rs aff items ∧
    (coopRunW rs.name aff gen (fun i => clock (n + i)) k (coopRunWF rs.name aff gen fs clock n w')).eds = w'.eds ∧
    (coopRunW rs.name aff gen (fun i => clock (n + i)) k (coopRunWF rs.name aff gen fs clock n w')).store =
      (recoverRun aff gen fs clock n k (rs, w'.store)).2 := by
  obtain ⟨C, S', hK', G'⟩ := coop_premises_of_live L F hdef E hann S hK (clock 0) G
  have hclock' : ∀ k, clock k + max 0 (ersFreq w'.eds) ≤ clock (k + 1) := by
    rw [ersFreq_congr F.strategy]; exact hclock
  have hmono : ∀ k, clock k ≤ clock (k + 1) := fun k => by have := hclock k; omega
  obtain ⟨_, _, _, c4, c5, c6, hs⟩ := C11c_recovers_store C S' hK' hinj fs clock hclock' G' n k
    (Nat.le_trans (coopRunF_measure_le C S' hK' hinj fs clock hclock' G' n)
      (by unfold storeMeasure; rw [edsPods_of_frame F]; exact hk))
  obtain ⟨s1, s2, s3, s4, s5⟩ := coopRunWF_sim w' rs aff gen fs clock hfind (by rw [F.now]; exact h0) hmono n
  obtain ⟨t1, t2, _, t4, _⟩ := coopRunW_sim (coopRunWF rs.name aff gen fs clock n w')
    (coopRunF aff gen fs clock n (rs, w'.store)).1 aff gen (fun i => clock (n + i)) (by rw [s3]; exact s2) s5
    (fun i => hmono (n + i)) k
  rw [s3] at t1 t2 t4
  rw [s1] at t1 t2
  have heds := t4.trans s4
  refine ⟨ClusterConverged.of_store L heds t2 hs ?_ (by rw [t1]; exact c6), heds, t1⟩
  unfold LiveConverged
  rw [t1, heds, ← L.gen]
  exact ⟨c4, c5⟩

end ClusterF

section FinalF
variable {w : World} {a u : ERS} {c : Canary} {aff : Bool} {gen : String → String} {items : List NodeItem}

/-- **promotion, with faults everywhere but on the status and spec writes of the daemonset reconcile.**  The run

    `reconcileEds` under `fE` (replica-set deletions dropped at will)  ::  `n` faulty rounds of `u`  ::  `k` fault-free rounds

(`k ≥ liveBound w u items`) ends in the converged cluster for `u`, spec.template unchanged. -/
theorem C11c_recovers_after_promotion (H : CanaryWorld w a u c) (hdue : PromotionDue c w.eds.annotations u w.now)
    (E : LiveEnv w u aff) (hfind : findErs w u.name = some u)
    (S : CoopStore w.eds u gen items w.store) (hK : StratOk w.eds (fitItems u items).length)
    (hinj : ∀ x y, gen x = gen y → x = y) (fE : Faults) (hs : fE.edsStatus = true) (hp : fE.edsSpec = true)
    (fs : Nat → Faults) (clock : Nat → Time) (h0 : w.now ≤ clock 0)
    (hclock : ∀ k, clock k + max 0 (ersFreq w.eds) ≤ clock (k + 1)) (G : GateFree w.eds u (clock 0))
    (nn m : String) (n k : Nat) (hk : liveBound w u items ≤ k) :
    ClusterConverged (coopRunW u.name aff gen (fun i => clock (n + i)) k
      (coopRunWF u.name aff gen fs clock n (stepF fE w (.reconcileEds nn m)))) u aff items ∧
    (coopRunW u.name aff gen (fun i => clock (n + i)) k
      (coopRunWF u.name aff gen fs clock n (stepF fE w (.reconcileEds nn m)))).eds.templateHash = w.eds.templateHash ∧
    (coopRunW u.name aff gen (fun i => clock (n + i)) k
      (coopRunWF u.name aff gen fs clock n (stepF fE w (.reconcileEds nn m)))).eds.template = w.eds.template := by
  have R := L3Live_promotion_writes H hdue nn m _ (BothWrites.mask fE w m hs hp)
  obtain ⟨CC, heds, _⟩ := C11c_cluster_recovers R.live R.frame H.defaulted E (Or.inl R.annotations) (R.find hfind) S hK
    hinj fs clock h0 hclock G n k hk
  exact ⟨CC, (congrArg EDS.templateHash heds).trans (R.live.gen.symm.trans H.uGen),
    (congrArg EDS.template heds).trans R.template⟩

/-- **rollback, with the spec write of the first daemonset reconcile dropped, then faulty rounds.**  The run

    `reconcileEds` under `fE` (spec write dropped; status write, deletions at will)  ::  `reconcileEds`
      ::  `n` faulty rounds of `a`  ::  `k` fault-free rounds

(`k ≥ liveBound w a items`) ends in the converged cluster for `a`: spec.template is `a`'s template again. -/
theorem C11c_recovers_after_rollback (H : CanaryWorld w a u c) (hf : isCanaryFailed (some u) = true)
    (hv : isCanaryValid w.eds.annotations u.name = false)
    (E : LiveEnv w a aff) (hfind : findErs w a.name = some a)
    (S : CoopStore w.eds a gen items w.store) (hK : StratOk w.eds (fitItems a items).length)
    (hinj : ∀ x y, gen x = gen y → x = y) (fE : Faults) (hp : fE.edsSpec = false)
    (fs : Nat → Faults) (clock : Nat → Time) (h0 : w.now ≤ clock 0)
    (hclock : ∀ k, clock k + max 0 (ersFreq w.eds) ≤ clock (k + 1)) (G : GateFree w.eds a (clock 0))
    (nn m nn' m' : String) (n k : Nat) (hk : liveBound w a items ≤ k) :
    ClusterConverged (coopRunW a.name aff gen (fun i => clock (n + i)) k
      (coopRunWF a.name aff gen fs clock n (step (stepF fE w (.reconcileEds nn m)) (.reconcileEds nn' m')))) a aff items ∧
    (coopRunW a.name aff gen (fun i => clock (n + i)) k
      (coopRunWF a.name aff gen fs clock n (step (stepF fE w (.reconcileEds nn m)) (.reconcileEds nn' m')))).eds.templateHash
        = a.templateGeneration ∧
    (coopRunW a.name aff gen (fun i => clock (n + i)) k
      (coopRunWF a.name aff gen fs clock n (step (stepF fE w (.reconcileEds nn m)) (.reconcileEds nn' m')))).eds.template
        = a.template ∧
    ersRole (coopRunW a.name aff gen (fun i => clock (n + i)) k
      (coopRunWF a.name aff gen fs clock n (step (stepF fE w (.reconcileEds nn m)) (.reconcileEds nn' m')))).eds u.name
        = "unknown" := by
  obtain ⟨R, _⟩ := L3Live_rollback_retry H hf hv nn m _ (SpecDropped.mask fE w m hp) nn' m'
  obtain ⟨CC, heds, _⟩ := C11c_cluster_recovers R.live R.frame H.defaulted E (Or.inl R.annotations) (R.find hfind) S hK
    hinj fs clock h0 hclock G n k hk
  exact ⟨CC, (congrArg EDS.templateHash heds).trans R.live.gen.symm, (congrArg EDS.template heds).trans R.template,
    (CC.leftover u (fun h => H.ne h.symm)).1⟩

end FinalF

/-! ### 6. Gated rounds are stutter steps -/

section Gated
variable {d : EDS} {rs : ERS} {aff : Bool} {gen : String → String} {items : List NodeItem} {st : ErsStore}

/-- **a round the LastFullSync gate holds back is a stutter step** (e.g. a fresh controller instance that
reconciles at once after the previous one stopped, less than `reconcileFrequency` after the last status write):
whatever the fault pattern, the pods of the EDS, the replica set and hence the store predicate and the measure
are as before. -/
theorem C11c_gated_round_stutters (C : CoopSetup d rs aff) (S : CoopStore d rs gen items st) (now : Time)
    (hg : ersGated d rs now = true) (f : Faults) :
    edsPodsOf d (coopRoundStoreF f rs aff gen now st) = edsPodsOf d st ∧
    nextErsF f rs aff now st = rs ∧
    CoopStore d rs gen items (coopRoundStoreF f rs aff gen now st) ∧
    storeMeasure d rs items (coopRoundStoreF f rs aff gen now st) = storeMeasure d rs items st := by
  have hw : reconcileErs rs st (fun _ => false) aff now = { requeueAfter := ersGateWait d rs now } := by
    rw [reconcileErs_eq rs st _ aff now d S.owner]
    unfold ersBody
    simp [C.defaulted, hg]
  have hE : edsPodsOf d (coopRoundStoreF f rs aff gen now st) = edsPodsOf d st := by
    have hp : (coopRoundStoreF f rs aff gen now st).pods = st.pods.map (kubeletReady now) := by
      unfold coopRoundStoreF applyPodWritesHard nameCreates maskErs
      rw [hw]
      have : st.pods.filter (fun _ => true) = st.pods := List.filter_eq_self.mpr (fun _ _ => rfl)
      simp [this]
    show (coopRoundStoreF f rs aff gen now st).pods.filter (isEdsPod d) = _
    rw [hp]
    exact filter_kubeletReady S now _ (fun _ h => h)
  refine ⟨hE, ?_, ?_, ?_⟩
  · unfold nextErsF maskErs
    rw [hw]
    cases f.ersStatus <;> rfl
  · exact
      { owner := S.owner, hitems := S.hitems, noSetting := S.noSetting, nodesNodup := S.nodesNodup,
        nodeNamed := S.nodeNamed, hashOk := S.hashOk,
        settled := by rw [hE]; exact S.settled
        onePer := by rw [hE]; exact S.onePer
        nameNode := by rw [hE]; exact S.nameNode
        genFresh := by rw [hE]; exact S.genFresh }
  · unfold storeMeasure
    rw [hE]

end Gated

/-! ### 7. Non-vacuity: a three-node store, a rolling update with a dropped creation and a dropped deletion

EDS `d` of C02c (reconcile frequency 10 s, maxUnavailable 1), active replica set `d-new` (generation `new`), eligible
nodes `n1`, `n2`, `n3`; `n1` and `n2` run the Ready pods `old-1`, `old-2` of generation `old`, `n3` is empty:
measure `2·2 + 1 = 5`.  Faulty rounds: round 0 loses its creation (on `n3`), round 1 loses nothing, round 2 loses its
deletion (of `old-1`) AND its status write.  Then fault-free rounds. -/

def exSt11c : ErsStore :=
  { exStore04 [exPod04 "old-1" "n1" "d-old" "old", exPod04 "old-2" "n2" "d-old" "old"] false with
    nodes := [(exNode01 "n1").node, (exNode01 "n2").node, (exNode01 "n3").node] }
def exItems11c : List NodeItem := [exNode01 "n1", exNode01 "n2", exNode01 "n3"]

def exFs11c : Nat → Faults
  | 0 => { podCreate := fun _ => false }
  | 2 => { podDelete := fun _ => false, ersStatus := false }
  | _ => {}

theorem exStratOk11c : StratOk exEds02c (fitItems exRs02c exItems11c).length :=
  StratOk.of_spec _ _ (by decide +kernel) (by decide +kernel) (by decide +kernel) (by decide +kernel) (by decide +kernel)

theorem exPods11c : edsPodsOf exEds02c exSt11c =
    [exPod04 "old-1" "n1" "d-old" "old", exPod04 "old-2" "n2" "d-old" "old"] := by rfl

theorem exStore11c : CoopStore exEds02c exRs02c exGen02c exItems11c exSt11c where
  owner := by decide +kernel
  hitems := by decide +kernel
  noSetting := by decide +kernel
  nodesNodup := by decide +kernel
  nodeNamed := by decide +kernel
  hashOk := by decide +kernel
  settled := by rw [exPods11c]; decide +kernel
  onePer := by rw [exPods11c]; exact onePerNode_of_nodup (by decide +kernel)
  nameNode := by rw [exPods11c]; decide +kernel
  genFresh := by
    rw [exPods11c]
    intro q hq m hm
    simp only [List.mem_cons, List.mem_nil_iff, or_false] at hq
    rcases hq with rfl | rfl
    · exact absurd hm (ExLive.gen_ne "d-new-" _ ['d', '-', 'n', 'e', 'w', '-'] ['o', 'l', 'd', '-', '1'] (by decide +kernel)
        (by decide +kernel) (by intro rest h; simp at h) m)
    · exact absurd hm (ExLive.gen_ne "d-new-" _ ['d', '-', 'n', 'e', 'w', '-'] ['o', 'l', 'd', '-', '2'] (by decide +kernel)
        (by decide +kernel) (by intro rest h; simp at h) m)

theorem exNoLabel11c : NoCanaryLabel exEds02c exSt11c := by rw [NoCanaryLabel, exPods11c]; decide +kernel

theorem exTemplate11c : SMap.get? exRs02c.template.labels K.canaryLabel ≠ some "true" := by decide +kernel

/-- two outdated pods, one empty node: measure 5. -/
theorem exMeasure11c :
    storeAbs exEds02c exRs02c exItems11c exSt11c = ⟨1, 2⟩ ∧ storeMeasure exEds02c exRs02c exItems11c exSt11c = 5 := by
  decide +kernel
example : storeAbs exEds02c exRs02c exItems11c exSt11c = ⟨1, 2⟩ ∧ storeMeasure exEds02c exRs02c exItems11c exSt11c = 5 :=
  exMeasure11c

/-- the faulted rounds, evaluated: round 0 (creation on `n3` dropped) changes nothing; round 1 creates on `n3`;
round 2 (deletion of `old-1` dropped) changes nothing. -/
example : podView02c (coopRunF true exGen02c exFs11c exClock02c 1 (exRs02c, exSt11c)) =
    [("old-1", "n1", some "old", true), ("old-2", "n2", some "old", true)] := by decide +kernel
example : podView02c (coopRunF true exGen02c exFs11c exClock02c 2 (exRs02c, exSt11c)) =
    [("old-1", "n1", some "old", true), ("old-2", "n2", some "old", true), ("d-new-n3", "n3", some "new", true)] := by
  decide +kernel
example : podView02c (coopRunF true exGen02c exFs11c exClock02c 3 (exRs02c, exSt11c)) =
    podView02c (coopRunF true exGen02c exFs11c exClock02c 2 (exRs02c, exSt11c)) := by decide +kernel
/-- the measure after the three faulty rounds is 4: only the one applied creation counted. -/
theorem exMeasureF11c :
    storeMeasure exEds02c exRs02c exItems11c (coopRunF true exGen02c exFs11c exClock02c 3 (exRs02c, exSt11c)).2 = 4 := by
  decide +kernel
example : storeMeasure exEds02c exRs02c exItems11c (coopRunF true exGen02c exFs11c exClock02c 3 (exRs02c, exSt11c)).2 = 4 :=
  exMeasureF11c
/-- the dropped status write of round 2 left the status of round 1 in place. -/
example : (coopRunF true exGen02c exFs11c exClock02c 3 (exRs02c, exSt11c)).1 =
    (coopRunF true exGen02c exFs11c exClock02c 2 (exRs02c, exSt11c)).1 := by decide +kernel

/-- after 4 fault-free rounds the faulted run carries the same pods as the run without failure after 5 rounds … -/
example : podView02c (recoverRun true exGen02c exFs11c exClock02c 3 4 (exRs02c, exSt11c)) =
    [("d-new-n3", "n3", some "new", true), ("d-new-n1", "n1", some "new", true), ("d-new-n2", "n2", some "new", true)] := by
  decide +kernel
example : podView02c (coopRun true exGen02c exClock02c 5 (exRs02c, exSt11c)) =
    [("d-new-n3", "n3", some "new", true), ("d-new-n1", "n1", some "new", true), ("d-new-n2", "n2", some "new", true)] := by
  decide +kernel
/-- … and both bounds are attained: one round less and a pod is still missing. -/
example : storeAbs exEds02c exRs02c exItems11c (recoverRun true exGen02c exFs11c exClock02c 3 3 (exRs02c, exSt11c)).2 = ⟨1, 0⟩ ∧
    storeAbs exEds02c exRs02c exItems11c (coopRun true exGen02c exClock02c 4 (exRs02c, exSt11c)).2 = ⟨1, 0⟩ := by
  decide +kernel

/-- `C11c_recovers_store` applied to the example (k = 4 = the measure after the faults). -/
example :
    emptyNodes exRs02c exItems11c (edsPodsOf exEds02c (recoverRun true exGen02c exFs11c exClock02c 3 4 (exRs02c, exSt11c)).2) = 0 ∧
    outdatedNodes exRs02c exItems11c (edsPodsOf exEds02c (recoverRun true exGen02c exFs11c exClock02c 3 4 (exRs02c, exSt11c)).2) = 0 :=
  let h := C11c_recovers_store exSetup02c exStore11c exStratOk11c exGen02c_inj exFs11c exClock02c exClock02c_ok exGate02c 3 4
    (Nat.le_of_eq exMeasureF11c)
  ⟨h.2.1, h.2.2.1⟩

/-- `C11c_same_as_fault_free` applied: same assignment, same counters, no write — and the assignment evaluated. -/
example : (hashAssignment exEds02c (recoverRun true exGen02c exFs11c exClock02c 3 4 (exRs02c, exSt11c)).2).Perm
    (hashAssignment exEds02c (coopRun true exGen02c exClock02c 5 (exRs02c, exSt11c)).2) :=
  (C11c_same_as_fault_free exSetup02c exStore11c exStratOk11c exGen02c_inj exFs11c exClock02c exClock02c_ok exGate02c
    exNoLabel11c exTemplate11c 3 4 5 (Nat.le_of_eq exMeasureF11c) (Nat.le_of_eq exMeasure11c.2) exRs02c.status
    (fun _ => false) (fun _ => false) true true 0).1
example : hashAssignment exEds02c (recoverRun true exGen02c exFs11c exClock02c 3 4 (exRs02c, exSt11c)).2 =
    [("n3", some "new"), ("n1", some "new"), ("n2", some "new")] := by decide +kernel

/-- `C11c_recovered_counters` applied and evaluated: the next ungated sync reports (3, 3, 3, 3, 0). -/
example : counters ((reconcileErs (recoverRun true exGen02c exFs11c exClock02c 3 4 (exRs02c, exSt11c)).1
      (recoverRun true exGen02c exFs11c exClock02c 3 4 (exRs02c, exSt11c)).2 (fun _ => false) true (exClock02c 7)).statusUpdate.getD
      (recoverRun true exGen02c exFs11c exClock02c 3 4 (exRs02c, exSt11c)).1.status) = convergedCounters 3 :=
  C11c_recovered_counters exSetup02c exStore11c exStratOk11c exGen02c_inj exFs11c exClock02c exClock02c_ok exGate02c
    exNoLabel11c exTemplate11c 3 4 (Nat.le_of_eq exMeasureF11c) (exClock02c 7) (Int.le_refl _) _ _

/-- the process stops before its first write: nothing changes (`C11c_stopped_round`). -/
example : podView02c (coopRoundF stopFaults true exGen02c (exClock02c 0) (exRs02c, exSt11c)) = podView02c (exRs02c, exSt11c) ∧
    (coopRoundF stopFaults true exGen02c (exClock02c 0) (exRs02c, exSt11c)).1 = exRs02c := by decide +kernel

/-- why the spacing matters (`C11c_gated_round_stutters`): the status write of round 0 was applied, its creation
dropped; a retry 1 s later is held back by the LastFullSync gate and creates nothing — the retry one reconcile
period later does. -/
example : ersGated exEds02c (coopRunF true exGen02c exFs11c exClock02c 1 (exRs02c, exSt11c)).1 (1 * sec) = true ∧
    podView02c (coopRoundF {} true exGen02c (1 * sec) (coopRunF true exGen02c exFs11c exClock02c 1 (exRs02c, exSt11c))) =
      podView02c (coopRunF true exGen02c exFs11c exClock02c 1 (exRs02c, exSt11c)) := by decide +kernel

end Eds

/-! #### a statement that is FALSE as literally read -/
namespace Eds

/-- "the recovered store holds literally the same pod list as the run without failure" — FALSE: pods created in
different rounds carry different Ready-condition timestamps (and, in general, other names and another list order).
The true statement is `C11c_same_as_fault_free` (same multiset of (node, template hash), every pod settled). -/
def C11c_same_pod_list : Prop :=
  ∀ (d : EDS) (rs : ERS) (aff : Bool) (gen : String → String) (items : List NodeItem) (st : ErsStore),
    CoopSetup d rs aff → CoopStore d rs gen items st → StratOk d (fitItems rs items).length →
    (∀ a b, gen a = gen b → a = b) →
    ∀ (fs : Nat → Faults) (clock : Nat → Time), (∀ k, clock k + max 0 (ersFreq d) ≤ clock (k + 1)) →
    GateFree d rs (clock 0) → NoCanaryLabel d st → SMap.get? rs.template.labels K.canaryLabel ≠ some "true" →
    ∀ (n k k' : Nat), storeMeasure d rs items (coopRunF aff gen fs clock n (rs, st)).2 ≤ k →
      storeMeasure d rs items st ≤ k' →
      (recoverRun aff gen fs clock n k (rs, st)).2.pods = (coopRun aff gen clock k' (rs, st)).2.pods

/-- the two pod lists of the example do differ — in the Ready timestamp of `d-new-n3` (created in round 1 instead of
round 0) — although their views (name, node, hash, Ready) coincide. -/
theorem exConds11c : ((recoverRun true exGen02c exFs11c exClock02c 3 4 (exRs02c, exSt11c)).2.pods.map (·.conds)) ≠
    ((coopRun true exGen02c exClock02c 5 (exRs02c, exSt11c)).2.pods.map (·.conds)) := by decide +kernel

theorem C11c_same_pod_list_false : ¬ C11c_same_pod_list := fun h =>
  exConds11c (by
    rw [h exEds02c exRs02c true exGen02c exItems11c exSt11c exSetup02c exStore11c exStratOk11c exGen02c_inj
      exFs11c exClock02c exClock02c_ok exGate02c exNoLabel11c exTemplate11c 3 4 5 (Nat.le_of_eq exMeasureF11c)
      (Nat.le_of_eq exMeasure11c.2)])

/-- the strongest true variant: the same pods up to names, timestamps and order — equal multisets of
(node, template hash), and in both stores every eligible node carries exactly one pod, live, Running, Ready. -/
theorem C11c_same_pod_list_partial {d : EDS} {rs : ERS} {aff : Bool} {gen : String → String} {items : List NodeItem}
    {st : ErsStore} (C : CoopSetup d rs aff) (S : CoopStore d rs gen items st)
    (hK : StratOk d (fitItems rs items).length) (hinj : ∀ a b, gen a = gen b → a = b)
    (fs : Nat → Faults) (clock : Nat → Time) (hclock : ∀ k, clock k + max 0 (ersFreq d) ≤ clock (k + 1))
    (G : GateFree d rs (clock 0)) (L : NoCanaryLabel d st)
    (hT : SMap.get? rs.template.labels K.canaryLabel ≠ some "true") (n k k' : Nat)
    (hk : storeMeasure d rs items (coopRunF aff gen fs clock n (rs, st)).2 ≤ k) (hk' : storeMeasure d rs items st ≤ k') :
    (hashAssignment d (recoverRun aff gen fs clock n k (rs, st)).2).Perm
      (hashAssignment d (coopRun aff gen clock k' (rs, st)).2) ∧
    (∀ ni ∈ fitItems rs items, ∃ p q,
      (edsPodsOf d (recoverRun aff gen fs clock n k (rs, st)).2).filter (fun x => x.nodeName == ni.node.name) = [p] ∧
      (edsPodsOf d (coopRun aff gen clock k' (rs, st)).2).filter (fun x => x.nodeName == ni.node.name) = [q] ∧
      p.deletion = none ∧ q.deletion = none ∧ p.phase = "Running" ∧ q.phase = "Running" ∧
      p.ready = true ∧ q.ready = true ∧
      SMap.get? p.annotations K.templateHashAnnot = some rs.templateGeneration ∧
      SMap.get? q.annotations K.templateHashAnnot = some rs.templateGeneration) := by
  refine ⟨(C11c_same_as_fault_free C S hK hinj fs clock hclock G L hT n k k' hk hk' rs.status (fun _ => false)
    (fun _ => false) aff aff 0).1, ?_⟩
  intro ni hni
  obtain ⟨_, _, _, h4, _⟩ := C11c_recovers_store C S hK hinj fs clock hclock G n k hk
  obtain ⟨_, _, _, g4, _⟩ := C02_converges_store C S hK hinj clock hclock G k' hk'
  obtain ⟨p, hp, hp1, hp2, hp3, hp4, _⟩ := h4 ni hni
  obtain ⟨q, hq, hq1, hq2, hq3, hq4, _⟩ := g4 ni hni
  exact ⟨p, q, hp, hq, hp1, hq1, hp2, hq2, hp3, hq3, hp4, hq4⟩

example : ((recoverRun true exGen02c exFs11c exClock02c 3 4 (exRs02c, exSt11c)).2.pods.map (·.conds)) ≠
    ((coopRun true exGen02c exClock02c 5 (exRs02c, exSt11c)).2.pods.map (·.conds)) := exConds11c

end Eds

/-! ### 8. Non-vacuity at cluster level: the two-node cluster of L3Live, faults in every phase -/
namespace Eds.ExC11c
open Eds Eds.Cluster Eds.ExLive

/-- promotion: the clean-up deletion of the daemonset reconcile fails; round 0 of `d-new` loses its deletion (of
`old-2`) and its status write; then two fault-free rounds. -/
def fsP : Nat → Faults
  | 0 => { podDelete := fun _ => false, ersStatus := false }
  | _ => {}

def wPF : World :=
  coopRunW "d-new" true genNew (fun i => clockP (1 + i)) 2
    (coopRunWF "d-new" true genNew fsP clockP 1 (stepF { ersDelete := fun _ => false } wP (.reconcileEds "x" "auto")))

example : ClusterConverged wPF uL true itemsL :=
  (C11c_recovers_after_promotion canaryWorldP dueP envP findP storeP stratP genNew_inj
    { ersDelete := fun _ => false } rfl rfl fsP clockP (by decide +kernel) clockP_ok gateP "x" "auto" 1 2
    (Nat.le_of_eq liveBoundP)).1

/-- the faulty round leaves the pods where they were; the recovered cluster is the one of the run without failure. -/
example : viewL (coopRunWF "d-new" true genNew fsP clockP 1 (stepF { ersDelete := fun _ => false } wP (.reconcileEds "x" "auto"))) =
    (("d-new", none, "new"), [("d-new-n1", "n1", some "new", true), ("old-2", "n2", some "old", true)]) := by decide +kernel
example : viewL wPF = viewL (coopRunW "d-new" true genNew clockP 2 (step wP (.reconcileEds "x" "auto"))) := by decide +kernel

/-- rollback: the spec write of the first daemonset reconcile is dropped, a second reconcile completes it; round 0 of
`d-old` deletes the failed canary pod, round 1 loses its creation; then two fault-free rounds. -/
def fsR : Nat → Faults
  | 1 => { podCreate := fun _ => false }
  | _ => {}

def wRF : World :=
  coopRunW "d-old" true genOld (fun i => clockR (2 + i)) 2
    (coopRunWF "d-old" true genOld fsR clockR 2
      (step (stepF { edsSpec := false } wR (.reconcileEds "x" "auto")) (.reconcileEds "y" "auto")))

example : ClusterConverged wRF aL true itemsL :=
  (C11c_recovers_after_rollback canaryWorldR failedR notValidR envR findR storeR stratR genOld_inj
    { edsSpec := false } rfl fsR clockR (by decide +kernel) clockR_ok gateR "x" "auto" "y" "auto" 2 2
    (Nat.le_of_eq liveBoundR)).1

example : viewL (coopRunWF "d-old" true genOld fsR clockR 2
      (step (stepF { edsSpec := false } wR (.reconcileEds "x" "auto")) (.reconcileEds "y" "auto"))) =
    (("d-old", none, "old"), [("old-2", "n2", some "old", true)]) := by decide +kernel
example : viewL wRF = viewL (coopRunW "d-old" true genOld clockR 2 (step wR (.reconcileEds "x" "auto"))) := by decide +kernel

end Eds.ExC11c
