import EdsProps.C15
/-
  C15b — metamorphic property of `selectNodes`: a previously selected name whose node is listed but no
  longer fit has no influence on the outcome.

      selectNodes t c base cur pods nodes
        = selectNodes t c base (cur.filter (fun nm => !listedUnfit t c nodes nm)) pods nodes

  The first loop of `selectNodes` (`Sel.filt`) walks over the listed nodes and, for every *unfit* one whose
  name occurs in the list, erases ONE (the first) occurrence of that name.  So a name `x` loses
  `min (cur.count x) (unfitMult x)` occurrences, `unfitMult x` being the number of listed unfit nodes named
  `x` (`C15_kept_count`).  The loop therefore coincides with `cur.filter (!listedUnfit ·)` exactly when no
  listed-unfit name occurs in `cur` more often than there are listed unfit nodes of that name
  (`C15_kept_eq_filter_iff`); this is the hypothesis of `C15_invalid_previous_irrelevant`.  It holds in
  particular

    * when every listed-unfit name occurs at most once in `cur`   (`…_of_count_le_one`),
    * when `cur` is duplicate free                                  (`…_of_nodup`);

  the right-hand side never needs it (`kept_filter_listedUnfit`: on the filtered list the loop is the
  identity).  Without the hypothesis the equality is false: `C15_invalid_previous_needs_hyp`
  (`cur = ["a", "a"]`, one unfit node `a`: only one `a` is erased, the other one is kept and fills the
  request).  Nothing is assumed about `nodes` (names may repeat, a fit and an unfit node may share a name)
  and nothing about names of `cur` that are not listed (finding F6a: they stay on both sides).
-/
namespace Eds
open Sel

/-- names of `cur` whose node is listed (matches the canary node selector, as `selectNodes` computes
`listed`, i.e. `Sel.listed`) but is not fit for the template: exactly the names the first loop of
`selectNodes` erases (one occurrence per such node). -/
def listedUnfit (t : Template) (canary : Canary) (allNodes : List Node) (nm : String) : Bool :=
  (listed canary allNodes).any (fun n => n.name == nm && !fit t n)

/-- how many listed nodes named `nm` are unfit (`1` at most when node names are unique). -/
def unfitMult (t : Template) (canary : Canary) (allNodes : List Node) (nm : String) : Nat :=
  (listed canary allNodes).countP (fun n => n.name == nm && !fit t n)

namespace Sel

/-- **the first loop is a filter** as soon as no name occurs more often than there are unfit nodes of that
name (only names of unfit nodes are constrained): both are sublists of `cur` with the same multiplicities
(`count_filt`). -/
theorem filt_eq_filter (t : Template) (l : List Node) (cur : List String)
    (h : ∀ x, 0 < umult t l x → cur.count x ≤ umult t l x) :
    filt t l cur = cur.filter (fun x => umult t l x == 0) := by
  have hall : ∀ x ∈ filt t l cur, (umult t l x == 0) = true := by
    intro x hx
    have hpos := List.count_pos_iff.mpr hx
    rw [count_filt] at hpos
    exact beq_iff_eq.mpr (Nat.eq_zero_of_not_pos fun hp => by have := h x hp; omega)
  have hsub : (filt t l cur).Sublist (cur.filter (fun x => umult t l x == 0)) := by
    have := (filt_sublist t l cur).filter (fun x => umult t l x == 0)
    rwa [List.filter_eq_self.mpr hall] at this
  apply hsub.eq_of_length
  apply List.Perm.length_eq
  rw [List.perm_iff_count]
  intro x
  rw [count_filt]
  by_cases hx : umult t l x = 0
  · rw [List.count_filter (by simp [hx]), hx, Nat.sub_zero]
  · have hnm : x ∉ cur.filter (fun x => umult t l x == 0) :=
      fun hm => hx (by simpa using (List.mem_filter.mp hm).2)
    rw [List.count_eq_zero_of_not_mem hnm]
    have := h x (by omega)
    omega

/-- the multiplicity is the same in the sorted list. -/
theorem umult_sorted (t : Template) (c : Canary) (pods : List Pod) (nodes : List Node) (x : String) :
    umult t (sortByRestarts pods (listed c nodes)) x = unfitMult t c nodes x :=
  (sortByRestarts_perm pods (listed c nodes)).countP_eq _

theorem unfitMult_eq_zero_iff (t : Template) (c : Canary) (nodes : List Node) (x : String) :
    (unfitMult t c nodes x == 0) = !listedUnfit t c nodes x := by
  unfold unfitMult listedUnfit
  rw [Bool.eq_iff_iff]
  simp only [beq_iff_eq, List.countP_eq_zero, Bool.not_eq_true', List.any_eq_false]

theorem listedUnfit_iff_pos (t : Template) (c : Canary) (nodes : List Node) (x : String) :
    listedUnfit t c nodes x = true ↔ 0 < unfitMult t c nodes x := by
  unfold listedUnfit unfitMult
  rw [List.any_eq_true, List.countP_pos_iff]

/-- a listed-unfit name does not pass the filter. -/
theorem not_mem_filter_listedUnfit {t : Template} {c : Canary} {nodes : List Node} {x : String}
    (hx : listedUnfit t c nodes x = true) (cur : List String) :
    x ∉ cur.filter (fun x => !listedUnfit t c nodes x) := by
  simp [hx]

end Sel

/-- multiplicities after the first phase, without any hypothesis: a name loses as many occurrences as
there are listed unfit nodes of that name. -/
theorem C15_kept_count (t : Template) (canary : Canary) (cur : List String) (pods : List Pod)
    (allNodes : List Node) (x : String) :
    (kept t canary pods allNodes cur).count x = cur.count x - unfitMult t canary allNodes x := by
  unfold kept
  rw [count_filt, umult_sorted]

/-- what survives the first loop (`Sel.kept` of C15) is the filtered list, provided no listed-unfit name
occurs in `cur` more often than there are listed unfit nodes of that name. -/
theorem C15_kept_eq_filter (t : Template) (canary : Canary) (cur : List String) (pods : List Pod)
    (allNodes : List Node)
    (hmult : ∀ x, listedUnfit t canary allNodes x = true → cur.count x ≤ unfitMult t canary allNodes x) :
    kept t canary pods allNodes cur = cur.filter (fun nm => !listedUnfit t canary allNodes nm) := by
  unfold kept
  rw [filt_eq_filter]
  · apply List.filter_congr
    intro x _
    rw [umult_sorted, unfitMult_eq_zero_iff]
  · intro x hx
    rw [umult_sorted] at hx ⊢
    exact hmult x ((listedUnfit_iff_pos t canary allNodes x).mpr hx)

/-- the proviso is exactly the condition under which the first phase is the filter. -/
theorem C15_kept_eq_filter_iff (t : Template) (canary : Canary) (cur : List String) (pods : List Pod)
    (allNodes : List Node) :
    kept t canary pods allNodes cur = cur.filter (fun nm => !listedUnfit t canary allNodes nm)
      ↔ ∀ x, listedUnfit t canary allNodes x = true → cur.count x ≤ unfitMult t canary allNodes x := by
  constructor
  · intro heq x hx
    have hc := C15_kept_count t canary cur pods allNodes x
    rw [heq, List.count_eq_zero_of_not_mem (not_mem_filter_listedUnfit hx cur)] at hc
    omega
  · exact C15_kept_eq_filter t canary cur pods allNodes

/-- on the filtered list the first phase is the identity (no hypothesis needed). -/
theorem kept_filter_listedUnfit (t : Template) (canary : Canary) (cur : List String) (pods : List Pod)
    (allNodes : List Node) :
    kept t canary pods allNodes (cur.filter (fun nm => !listedUnfit t canary allNodes nm))
      = cur.filter (fun nm => !listedUnfit t canary allNodes nm) := by
  rw [C15_kept_eq_filter, List.filter_filter]
  · apply List.filter_congr
    intro x _
    simp
  · intro x hx
    rw [List.count_eq_zero_of_not_mem (not_mem_filter_listedUnfit hx cur)]
    exact Nat.zero_le _

/-- **C15 — an invalid previous selection is irrelevant.**  Removing beforehand the previously selected
names whose node is listed but no longer fit does not change the outcome of `selectNodes` (same list, in
the same order, same "not enough nodes" flag, same error) — provided no such name occurs in `cur` more
often than there are listed unfit nodes of that name (`C15_invalid_previous_needs_hyp`: the proviso
cannot be dropped).  No assumption on `allNodes`. -/
theorem C15_invalid_previous_irrelevant (t : Template) (canary : Canary) (base : Int) (cur : List String)
    (pods : List Pod) (allNodes : List Node)
    (hmult : ∀ x, listedUnfit t canary allNodes x = true → cur.count x ≤ unfitMult t canary allNodes x) :
    selectNodes t canary base cur pods allNodes
      = selectNodes t canary base (cur.filter (fun nm => !listedUnfit t canary allNodes nm)) pods allNodes := by
  have hres : ∀ nb, result t canary nb cur pods allNodes =
      result t canary nb (cur.filter (fun nm => !listedUnfit t canary allNodes nm)) pods allNodes := by
    intro nb
    unfold result
    rw [kept_filter_listedUnfit, C15_kept_eq_filter t canary cur pods allNodes hmult]
  simp only [selectNodes_eq, hres]

/-- … in particular when every listed-unfit name occurs at most once in `cur`. -/
theorem C15_invalid_previous_irrelevant_of_count_le_one (t : Template) (canary : Canary) (base : Int)
    (cur : List String) (pods : List Pod) (allNodes : List Node)
    (h1 : ∀ x, listedUnfit t canary allNodes x = true → cur.count x ≤ 1) :
    selectNodes t canary base cur pods allNodes
      = selectNodes t canary base (cur.filter (fun nm => !listedUnfit t canary allNodes nm)) pods allNodes := by
  apply C15_invalid_previous_irrelevant
  intro x hx
  have := (listedUnfit_iff_pos t canary allNodes x).mp hx
  have := h1 x hx
  omega

/-- … in particular when `cur` is duplicate free (as `status.canary.nodes` is, `C15_distinct`). -/
theorem C15_invalid_previous_irrelevant_of_nodup (t : Template) (canary : Canary) (base : Int)
    (cur : List String) (pods : List Pod) (allNodes : List Node) (hnd : cur.Nodup) :
    selectNodes t canary base cur pods allNodes
      = selectNodes t canary base (cur.filter (fun nm => !listedUnfit t canary allNodes nm)) pods allNodes :=
  C15_invalid_previous_irrelevant_of_count_le_one t canary base cur pods allNodes
    (fun x _ => List.nodup_iff_count.mp hnd x)

/-- `listedUnfit` on the nodes of C15 (`n3` is tainted): only `n3`; a name that is not listed is not
"listed unfit" (F6a: it stays). -/
example : ["n1", "n2", "n3", "n4", "gone"].map (listedUnfit exT15 (exCanary15 ⟨"int", 2⟩) exNodes15)
    = [false, false, true, false, false] := by decide +kernel

/-- non-vacuity: `cur` contains the listed-unfit `n3` (and the unlisted `gone`, which stays); the filtered
list is `["gone", "n1"]`; both sides are `["gone", "n1", "n2"]`, one node being added. -/
example :
    ["n3", "gone", "n1"].filter (fun nm => !listedUnfit exT15 (exCanary15 ⟨"int", 3⟩) exNodes15 nm)
      = ["gone", "n1"] ∧
    selectNodes exT15 (exCanary15 ⟨"int", 3⟩) 4 ["n3", "gone", "n1"] exPods15 exNodes15
      = .ok (["gone", "n1", "n2"], false) ∧
    selectNodes exT15 (exCanary15 ⟨"int", 3⟩) 4
        (["n3", "gone", "n1"].filter (fun nm => !listedUnfit exT15 (exCanary15 ⟨"int", 3⟩) exNodes15 nm))
        exPods15 exNodes15
      = .ok (["gone", "n1", "n2"], false) := by decide +kernel

/-- the same through the theorem (the hypothesis is discharged by `Nodup`). -/
example :
    selectNodes exT15 (exCanary15 ⟨"int", 3⟩) 4 ["n3", "gone", "n1"] exPods15 exNodes15
      = selectNodes exT15 (exCanary15 ⟨"int", 3⟩) 4 ["gone", "n1"] exPods15 exNodes15 :=
  (C15_invalid_previous_irrelevant_of_nodup exT15 (exCanary15 ⟨"int", 3⟩) 4 ["n3", "gone", "n1"] exPods15
    exNodes15 (by decide +kernel)).trans
    (congrArg (fun l => selectNodes exT15 (exCanary15 ⟨"int", 3⟩) 4 l exPods15 exNodes15) (by decide +kernel))

/-- with anti-affinity keys and a node selector: `n3` (zone `b`, unfit) was selected; with or without it
the outcome is `n1` plus `n2` and `n4` (the unfit `n3` still takes one of the two places of zone `b` in the
second loop, on both sides: that is a property of the listing, not of `cur`). -/
example :
    selectNodes exT15 (exCanary15 ⟨"int", 3⟩ (some { matchLabels := [⟨"pool", "c"⟩], exprs := [] }) ["zone"]) 4
        ["n3", "n1"] []
        [exNode15 "n1" [⟨"pool", "c"⟩, ⟨"zone", "a"⟩], exNode15 "n2" [⟨"pool", "c"⟩, ⟨"zone", "a"⟩],
         exNode15 "n3" [⟨"pool", "c"⟩, ⟨"zone", "b"⟩] [exTaint15], exNode15 "n4" [⟨"pool", "c"⟩, ⟨"zone", "b"⟩]]
      = .ok (["n1", "n2", "n4"], false) ∧
    selectNodes exT15 (exCanary15 ⟨"int", 3⟩ (some { matchLabels := [⟨"pool", "c"⟩], exprs := [] }) ["zone"]) 4
        ["n1"] []
        [exNode15 "n1" [⟨"pool", "c"⟩, ⟨"zone", "a"⟩], exNode15 "n2" [⟨"pool", "c"⟩, ⟨"zone", "a"⟩],
         exNode15 "n3" [⟨"pool", "c"⟩, ⟨"zone", "b"⟩] [exTaint15], exNode15 "n4" [⟨"pool", "c"⟩, ⟨"zone", "b"⟩]]
      = .ok (["n1", "n2", "n4"], false) := by decide +kernel

/-- an unfit node that is NOT listed (it does not match the canary node selector) is not dropped:
`listedUnfit` is false for it and it stays on both sides (F6a). -/
example :
    listedUnfit exT15 (exCanary15 ⟨"int", 2⟩ (some { matchLabels := [⟨"pool", "c"⟩], exprs := [] }))
      [exNode15 "n1" [⟨"pool", "c"⟩], exNode15 "n3" [] [exTaint15]] "n3" = false ∧
    selectNodes exT15 (exCanary15 ⟨"int", 2⟩ (some { matchLabels := [⟨"pool", "c"⟩], exprs := [] })) 4
        ["n3"] [] [exNode15 "n1" [⟨"pool", "c"⟩], exNode15 "n3" [] [exTaint15]]
      = .ok (["n3", "n1"], false) := by decide +kernel

/-- **the hypothesis cannot be dropped**: `cur = ["a", "a"]`, one listed unfit node `a`.  The first loop
erases ONE `a`; the other one stays and fills the request.  On the filtered list (`[]`) nothing can be
selected and the call comes short. -/
theorem C15_invalid_previous_needs_hyp :
    listedUnfit exT15 (exCanary15 ⟨"int", 1⟩) [exNode15 "a" [] [exTaint15]] "a" = true ∧
    unfitMult exT15 (exCanary15 ⟨"int", 1⟩) [exNode15 "a" [] [exTaint15]] "a" = 1 ∧
    ["a", "a"].filter (fun nm => !listedUnfit exT15 (exCanary15 ⟨"int", 1⟩) [exNode15 "a" [] [exTaint15]] nm)
      = [] ∧
    selectNodes exT15 (exCanary15 ⟨"int", 1⟩) 4 ["a", "a"] [] [exNode15 "a" [] [exTaint15]]
      = .ok (["a"], false) ∧
    selectNodes exT15 (exCanary15 ⟨"int", 1⟩) 4
        (["a", "a"].filter
          (fun nm => !listedUnfit exT15 (exCanary15 ⟨"int", 1⟩) [exNode15 "a" [] [exTaint15]] nm))
        [] [exNode15 "a" [] [exTaint15]]
      = .ok ([], true) := by decide +kernel

/-- … and the outcomes differ not only as lists but as sets and in the flag. -/
theorem C15_invalid_previous_needs_hyp_ne :
    selectNodes exT15 (exCanary15 ⟨"int", 1⟩) 4 ["a", "a"] [] [exNode15 "a" [] [exTaint15]]
      ≠ selectNodes exT15 (exCanary15 ⟨"int", 1⟩) 4
          (["a", "a"].filter
            (fun nm => !listedUnfit exT15 (exCanary15 ⟨"int", 1⟩) [exNode15 "a" [] [exTaint15]] nm))
          [] [exNode15 "a" [] [exTaint15]] := by decide +kernel

/-- the multiplicity hypothesis is the right one: with TWO listed unfit nodes named `a`, a doubled `a` is
erased twice and the equality holds although `cur` has a duplicate. -/
example :
    selectNodes exT15 (exCanary15 ⟨"int", 1⟩) 4 ["a", "a"] []
        [exNode15 "a" [] [exTaint15], exNode15 "a" [] [exTaint15], exNode15 "b"]
      = .ok (["b"], false) ∧
    selectNodes exT15 (exCanary15 ⟨"int", 1⟩) 4
        (["a", "a"].filter (fun nm => !listedUnfit exT15 (exCanary15 ⟨"int", 1⟩)
          [exNode15 "a" [] [exTaint15], exNode15 "a" [] [exTaint15], exNode15 "b"] nm))
        []
        [exNode15 "a" [] [exTaint15], exNode15 "a" [] [exTaint15], exNode15 "b"]
      = .ok (["b"], false) := by decide +kernel

end Eds
