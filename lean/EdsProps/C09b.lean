import EdsProofs.ErsRun
import EdsProps.C04
/-
  C09 (replica-set side) — the LastFullSync gate: full syncs of one replica set are spaced by at
  least `spec.strategy.reconcileFrequency`.

  Subject: `reconcileErs` (EdsModel/ReconcileErs.lean); inversion lemmas EdsProofs/ReconcileErs.lean.
  `freq` is `d.strategy.reconcileFrequency.getD 0` (`ersFreq d`) for the owner EDS `d`.

    7  `C09_gate`        — a gated sync issues no write at all and requeues for the remaining time
    8  `C09_stamp`       — a written status of a defaulted, non-gated sync carries
                           `LastFullSync = True` with `lastUpdate = now`;
       `C09_stamp_read`  — so does the status the next sync will read, written or not;
       `C09_stamp_written`, `C09_stamp_of_write` — a full / write-issuing sync does write the status
                           [hyp `hlast`: the stored `LastFullSync.lastUpdate ≠ now`];
       `C09_stamp_of_write_pos` — `hlast` follows from `0 < freq`;
       the hypothesis is necessary: with `freq = 0` a sync repeated at the same instant re-issues its
       creations and writes no status (last `example`).
    9  `C09_spacing`, `C09_spacing_unchanged`, `C09_spacing_read` — two write-issuing syncs, the
       second reading the status the first left, are `freq` apart.  No `t₁ < t₂` hypothesis needed.

  Remark (time resolution).  Instants are unbounded integers (nanoseconds) in the model and
  `lastUpdate` is stored as given.  The real API server persists `metav1.Time` with one-second
  resolution, so the timestamp the second sync reads back is `t₁` truncated to the second
  (`⌊t₁⌋ ≤ t₁`); `C09_spacing_read` with `c.lastUpdate = ⌊t₁⌋` then gives `t₂ ≥ ⌊t₁⌋ + freq`, i.e. the
  guaranteed spacing is `freq` minus less than one second.
-/
namespace Eds

theorem ersGated_of_cond {rs : ERS} {c : Cond} (now : Time) (d : EDS)
    (hc : findCond rs.status.conds "LastFullSync" = some c) :
    ersGated d rs now = decide (c.lastUpdate + ersFreq d > now) := by
  unfold ersGated; rw [hc]

/-- a full run reads a LastFullSync stamp that is at least `freq` old. -/
theorem FullRun.stamp_old {d : EDS} {rs : ERS} {st : ErsStore} {released : String → Bool} {aff : Bool} {now : Time}
    {w : ErsWrites} {items : List NodeItem} {r : StratResult} {adds removes : List String}
    {se : Bool} {st0 : ERSStatus} (F : FullRun d rs st released aff now w items r adds removes se st0)
    {c : Cond} (hc : findCond rs.status.conds "LastFullSync" = some c) :
    c.lastUpdate + d.strategy.reconcileFrequency.getD 0 ≤ now := by
  have hg := F.notGated
  rw [ersGated_of_cond now d hc] at hg
  have : ¬ (c.lastUpdate + ersFreq d > now) := by simpa using hg
  have hf : ersFreq d = d.strategy.reconcileFrequency.getD 0 := rfl
  omega

section
variable (rs : ERS) (st : ErsStore) (released : String → Bool) (aff : Bool) (now : Time) (d : EDS)

/-- **Gate.**  While `LastFullSync.lastUpdate + freq` is in the future the sync issues no pod write
and no status write, and asks to be requeued after exactly the remaining time. -/
theorem C09_gate (h : ersOwner rs st = some d) (hd : isDefaulted d.strategy d.templateName = true)
    (c : Cond) (hc : findCond rs.status.conds "LastFullSync" = some c)
    (hlt : c.lastUpdate + d.strategy.reconcileFrequency.getD 0 > now) :
    (reconcileErs rs st released aff now).creates = [] ∧
    (reconcileErs rs st released aff now).deletes = [] ∧
    (reconcileErs rs st released aff now).cleanupDeletes = [] ∧
    (reconcileErs rs st released aff now).labelAdds = [] ∧
    (reconcileErs rs st released aff now).labelRemoves = [] ∧
    (reconcileErs rs st released aff now).statusUpdate = none ∧
    (reconcileErs rs st released aff now).requeueAfter =
      c.lastUpdate + d.strategy.reconcileFrequency.getD 0 - now ∧
    (reconcileErs rs st released aff now).earlyErr = false := by
  have hg : ersGated d rs now = true := by
    rw [ersGated_of_cond now d hc]; exact decide_eq_true hlt
  have hw : ersGateWait d rs now = c.lastUpdate + d.strategy.reconcileFrequency.getD 0 - now := by
    unfold ersGateWait; rw [hc]; rfl
  rw [reconcileErs_eq rs st released aff now d h, ersBody_gated released aff hd hg]
  exact ⟨rfl, rfl, rfl, rfl, rfl, rfl, hw, rfl⟩

theorem fullRun_stamp {w : ErsWrites} {items : List NodeItem} {r : StratResult} {adds removes : List String}
    {se : Bool} {st0 : ERSStatus} (F : FullRun d rs st released aff now w items r adds removes se st0) :
    ∃ c, findCond (w.statusUpdate.getD rs.status).conds "LastFullSync" = some c ∧
      c.lastUpdate = now ∧ c.status = "True" := by
  obtain ⟨cs, -, he⟩ := ersFinish_read rs (ersRole d rs.name) (ersFreq d)
    (ersParams released d rs items (ersPods d st) now) r adds removes se st0 aff now
  rw [F.eq, he]
  exact findCond_updateCond_same_true cs now "LastFullSync" "" "full sync" true

set_option linter.unusedVariables false in
/-- **Stamp.**  A status written by a defaulted, non-gated sync has `LastFullSync = True` with
`lastUpdate = now`.  (A written status rules the early returns out; the not-defaulted sync writes
`ReconcileError` only, hence `hd`.) -/
theorem C09_stamp (h : ersOwner rs st = some d) (hd : isDefaulted d.strategy d.templateName = true)
    (hg : ersGated d rs now = false)
    (s : ERSStatus) (hs : (reconcileErs rs st released aff now).statusUpdate = some s) :
    ∃ c, findCond s.conds "LastFullSync" = some c ∧ c.lastUpdate = now ∧ c.status = "True" := by
  rcases reconcileErs_status_cases rs st released aff now d h hs with
    ⟨hd', _⟩ | ⟨items, r, adds, removes, se, st0, F⟩
  · rw [hd] at hd'; cases hd'
  · have := fullRun_stamp rs st released aff now d F
    rw [hs] at this
    exact this

/-- the status the next sync reads after a full run — written or left as it was — carries the stamp. -/
theorem C09_stamp_read (h : ersOwner rs st = some d) (hd : isDefaulted d.strategy d.templateName = true)
    (hg : ersGated d rs now = false) (he : (reconcileErs rs st released aff now).earlyErr = false) :
    ∃ c, findCond ((reconcileErs rs st released aff now).statusUpdate.getD rs.status).conds "LastFullSync" = some c ∧
      c.lastUpdate = now ∧ c.status = "True" := by
  obtain ⟨items, r, adds, removes, se, st0, F⟩ := reconcileErs_full rs st released aff now d h hd hg he
  exact fullRun_stamp rs st released aff now d F

/-- **The stamp is written.**  A full run whose stored `LastFullSync.lastUpdate` is not `now` (or that
has no stored `LastFullSync`) writes the status. -/
theorem C09_stamp_written (h : ersOwner rs st = some d) (hd : isDefaulted d.strategy d.templateName = true)
    (hg : ersGated d rs now = false) (he : (reconcileErs rs st released aff now).earlyErr = false)
    (hlast : ∀ c, findCond rs.status.conds "LastFullSync" = some c → c.lastUpdate ≠ now) :
    (reconcileErs rs st released aff now).statusUpdate ≠ none := by
  intro hn
  obtain ⟨c, hc, hu, _⟩ := C09_stamp_read rs st released aff now d h hd hg he
  rw [hn] at hc
  exact hlast c hc hu

/-- a sync that issues any pod write writes the status (same hypothesis on the stored stamp). -/
theorem C09_stamp_of_write (h : ersOwner rs st = some d)
    (hw : (reconcileErs rs st released aff now).issuesPodWrite)
    (hlast : ∀ c, findCond rs.status.conds "LastFullSync" = some c → c.lastUpdate ≠ now) :
    (reconcileErs rs st released aff now).statusUpdate ≠ none := by
  obtain ⟨items, r, adds, removes, se, st0, F⟩ := reconcileErs_full_of_write rs st released aff now d h hw
  intro hn
  obtain ⟨c, hc, hu, _⟩ := fullRun_stamp rs st released aff now d F
  rw [hn] at hc
  exact hlast c hc hu

/-- with a positive reconcile frequency the hypothesis on the stored stamp is automatic: the sync is
not gated, so the stored stamp is at least `freq` old. -/
theorem C09_stamp_of_write_pos (h : ersOwner rs st = some d)
    (hw : (reconcileErs rs st released aff now).issuesPodWrite)
    (hpos : 0 < d.strategy.reconcileFrequency.getD 0) :
    (reconcileErs rs st released aff now).statusUpdate ≠ none := by
  obtain ⟨items, r, adds, removes, se, st0, F⟩ := reconcileErs_full_of_write rs st released aff now d h hw
  refine C09_stamp_of_write rs st released aff now d h hw ?_
  intro c hc hu
  have := F.stamp_old hc
  omega

end

/-- **Spacing**, general form: a write-issuing sync at `t₂` that reads a status whose `LastFullSync`
was stamped at `t` satisfies `t₂ ≥ t + freq`. -/
theorem C09_spacing_read (rs : ERS) (st : ErsStore) (released : String → Bool) (aff : Bool) (t₂ : Time) (d : EDS)
    (h : ersOwner rs st = some d) (hw : (reconcileErs rs st released aff t₂).issuesPodWrite)
    (c : Cond) (hc : findCond rs.status.conds "LastFullSync" = some c) :
    t₂ ≥ c.lastUpdate + d.strategy.reconcileFrequency.getD 0 := by
  obtain ⟨items, r, adds, removes, se, st0, F⟩ := reconcileErs_full_of_write rs st released aff t₂ d h hw
  exact F.stamp_old hc

/-- two write-issuing syncs, the second reading whatever status the first left behind. -/
theorem C09_spacing_getD (rs₁ rs₂ : ERS) (st₁ st₂ : ErsStore) (rel₁ rel₂ : String → Bool) (aff₁ aff₂ : Bool)
    (t₁ t₂ : Time) (d₁ d₂ : EDS)
    (h₁ : ersOwner rs₁ st₁ = some d₁) (h₂ : ersOwner rs₂ st₂ = some d₂)
    (hw₁ : (reconcileErs rs₁ st₁ rel₁ aff₁ t₁).issuesPodWrite)
    (hw₂ : (reconcileErs rs₂ st₂ rel₂ aff₂ t₂).issuesPodWrite)
    (hread : rs₂.status = (reconcileErs rs₁ st₁ rel₁ aff₁ t₁).statusUpdate.getD rs₁.status) :
    t₂ ≥ t₁ + d₂.strategy.reconcileFrequency.getD 0 := by
  obtain ⟨items, r, adds, removes, se, st0, F⟩ := reconcileErs_full_of_write rs₁ st₁ rel₁ aff₁ t₁ d₁ h₁ hw₁
  obtain ⟨c, hc, hu, _⟩ := fullRun_stamp rs₁ st₁ rel₁ aff₁ t₁ d₁ F
  rw [← hread] at hc
  have := C09_spacing_read rs₂ st₂ rel₂ aff₂ t₂ d₂ h₂ hw₂ c hc
  omega

/-- **Spacing.**  Two write-issuing syncs of a replica set at instants `t₁`, `t₂`, where the second
reads the status `s₁` the first wrote, are at least `freq` apart (`freq` = the reconcile frequency
of the EDS the second sync reads).  If `t₂ < t₁ + freq` the second sync is gated and, by `C09_gate`,
issues no write. -/
theorem C09_spacing (rs₁ rs₂ : ERS) (st₁ st₂ : ErsStore) (rel₁ rel₂ : String → Bool) (aff₁ aff₂ : Bool)
    (t₁ t₂ : Time) (d₁ d₂ : EDS)
    (h₁ : ersOwner rs₁ st₁ = some d₁) (h₂ : ersOwner rs₂ st₂ = some d₂)
    (hw₁ : (reconcileErs rs₁ st₁ rel₁ aff₁ t₁).issuesPodWrite)
    (hw₂ : (reconcileErs rs₂ st₂ rel₂ aff₂ t₂).issuesPodWrite)
    (s₁ : ERSStatus) (hs₁ : (reconcileErs rs₁ st₁ rel₁ aff₁ t₁).statusUpdate = some s₁)
    (hread : rs₂.status = s₁) :
    t₂ ≥ t₁ + d₂.strategy.reconcileFrequency.getD 0 :=
  C09_spacing_getD rs₁ rs₂ st₁ st₂ rel₁ rel₂ aff₁ aff₂ t₁ t₂ d₁ d₂ h₁ h₂ hw₁ hw₂ (by rw [hs₁]; exact hread)

/-- the same when the first sync found its status already current and wrote nothing. -/
theorem C09_spacing_unchanged (rs₁ rs₂ : ERS) (st₁ st₂ : ErsStore) (rel₁ rel₂ : String → Bool) (aff₁ aff₂ : Bool)
    (t₁ t₂ : Time) (d₁ d₂ : EDS)
    (h₁ : ersOwner rs₁ st₁ = some d₁) (h₂ : ersOwner rs₂ st₂ = some d₂)
    (hw₁ : (reconcileErs rs₁ st₁ rel₁ aff₁ t₁).issuesPodWrite)
    (hw₂ : (reconcileErs rs₂ st₂ rel₂ aff₂ t₂).issuesPodWrite)
    (hs₁ : (reconcileErs rs₁ st₁ rel₁ aff₁ t₁).statusUpdate = none)
    (hread : rs₂.status = rs₁.status) :
    t₂ ≥ t₁ + d₂.strategy.reconcileFrequency.getD 0 :=
  C09_spacing_getD rs₁ rs₂ st₁ st₂ rel₁ rel₂ aff₁ aff₂ t₁ t₂ d₁ d₂ h₁ h₂ hw₁ hw₂ (by rw [hs₁]; exact hread)

/-- contrapositive, as the informal statement has it: too early ⇒ no write. -/
theorem C09_too_early_no_write (rs₁ rs₂ : ERS) (st₁ st₂ : ErsStore) (rel₁ rel₂ : String → Bool) (aff₁ aff₂ : Bool)
    (t₁ t₂ : Time) (d₁ d₂ : EDS)
    (h₁ : ersOwner rs₁ st₁ = some d₁) (h₂ : ersOwner rs₂ st₂ = some d₂)
    (hw₁ : (reconcileErs rs₁ st₁ rel₁ aff₁ t₁).issuesPodWrite)
    (hread : rs₂.status = (reconcileErs rs₁ st₁ rel₁ aff₁ t₁).statusUpdate.getD rs₁.status)
    (hearly : t₂ < t₁ + d₂.strategy.reconcileFrequency.getD 0) :
    (reconcileErs rs₂ st₂ rel₂ aff₂ t₂).noPodWrite := by
  rcases reconcileErs_cases rs₂ st₂ rel₂ aff₂ t₂ d₂ h₂ with hno | ⟨items, r, adds, removes, se, st0, F⟩
  · exact hno
  · exfalso
    obtain ⟨items₁, r₁, adds₁, removes₁, se₁, st0₁, F₁⟩ :=
      reconcileErs_full_of_write rs₁ st₁ rel₁ aff₁ t₁ d₁ h₁ hw₁
    obtain ⟨c, hc, hu, _⟩ := fullRun_stamp rs₁ st₁ rel₁ aff₁ t₁ d₁ F₁
    rw [← hread] at hc
    have := F.stamp_old hc
    omega

/-! ### Non-vacuity (store of EdsProps/C04.lean: canary replica set `d-new`, `freq` = 10 s) -/

/-- the status written by the first sync at `t₁ = 100`. -/
def exStatus09 : ERSStatus :=
  ((reconcileErs (exErs04 "d-new" "new") exStore04 (fun _ => true) true 100).statusUpdate).getD default

/-- the first sync creates a pod and stamps `LastFullSync.lastUpdate = 100`. -/
example : (reconcileErs (exErs04 "d-new" "new") exStore04 (fun _ => true) true 100).creates.map (·.1) = ["n1"] ∧
    (findCond exStatus09.conds "LastFullSync").map (·.lastUpdate) = some 100 := by decide +kernel

/-- 5 s later the sync is gated: nothing is written and it requeues for the remaining 5 s. -/
example : (reconcileErs { exErs04 "d-new" "new" with status := exStatus09 } exStore04 (fun _ => true) true
      (100 + 5 * sec)).noPodWrite ∧
    (reconcileErs { exErs04 "d-new" "new" with status := exStatus09 } exStore04 (fun _ => true) true
      (100 + 5 * sec)).statusUpdate = none ∧
    (reconcileErs { exErs04 "d-new" "new" with status := exStatus09 } exStore04 (fun _ => true) true
      (100 + 5 * sec)).requeueAfter = 5 * sec := by decide +kernel

/-- 10 s later it runs again (the pod is still missing in this store, so it is created again). -/
example : (reconcileErs { exErs04 "d-new" "new" with status := exStatus09 } exStore04 (fun _ => true) true
      (100 + 10 * sec)).creates.map (·.1) = ["n1"] := by decide +kernel

/-- `hlast` of `C09_stamp_written` is needed: with `reconcileFrequency = 0` a sync repeated at the very
same instant on the status it has just written re-issues the creation and writes no status. -/
def exStatus09z : ERSStatus :=
  ((reconcileErs (exErs04 "d-new" "new") (exStore04 [] true 0) (fun _ => true) true 100).statusUpdate).getD default
example : (reconcileErs { exErs04 "d-new" "new" with status := exStatus09z } (exStore04 [] true 0) (fun _ => true) true
      100).creates.map (·.1) = ["n1"] ∧
    (reconcileErs { exErs04 "d-new" "new" with status := exStatus09z } (exStore04 [] true 0) (fun _ => true) true
      100).statusUpdate = none := by decide +kernel

end Eds
