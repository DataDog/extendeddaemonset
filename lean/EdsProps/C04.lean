import EdsProofs.ReconcileErs
import EdsProps.C01
import EdsProps.C10
/-
  C04 — Canary blast radius: the new template runs only on the selected canary nodes.

  Subject: `Reconcile` of the replica-set controller as modelled by `reconcileErs`
  (EdsModel/ReconcileErs.lean); helper lemmas and the inversion `reconcileErs_cases` /
  `reconcileErs_full` in EdsProofs/ReconcileErs.lean.  The creations of a sync of any role are
  summarised once (`SyncCreates`, `sync_creates`, `ersCreates_item`) for this file, C01b and Sync7.

  Vocabulary (EdsProofs/ReconcileErs.lean): `ersOwner rs st = some d` — the owner EDS `d` was found;
  `ersCanaryNodes d` — `d.status.canary.nodes` (`[]` without canary); `ersIgnore d rs` — the ignore list
  handed to `filterAndMap`; `ersFilter`, `ersParams` — filter output and strategy parameters.

  Quantification: every replica set, store, back-off oracle `released`, affinity mode and instant.
  Every write theorem only assumes `ersOwner rs st = some d` and the role; the early-return, not
  defaulted and gated syncs are covered (they write no pod at all).

  Pods are identified by *name* in the write lists of the model, so "the pod named in `w.deletes`"
  is stated as existence of a listed pod with that name (`∃ p ∈ ersPods d st, p.name = name ∧ …`);
  the `…_named` corollaries turn this into a statement about every listed pod with that name under
  the hypothesis that listed pod names are distinct (true in a namespace).

    1  `C04_roles_disjoint`, `C04_role_cases`, `C04_role_active_iff`, `C04_role_canary_iff`
    2  `C04_canary_creates_in_list` (creates + deletes), `C04_created_pinned` [hyp: node name ≠ "",
       and `affRequired ≠ some []` in affinity mode — both necessary, see C10],
       `C04_created_node_listed` (the node is a listed node, so `≠ ""` follows from the store)
    3  `C04_active_avoids_list` (+ `C04_active_avoids_list_named`)
    4  `C04_active_serves_rest` (iff), `C04_active_serves_rest_cands`
    5  `C04_unknown_inert`
    6  `C04_label_scope`, `C04_label_on`,
       `C04_label_off`, `C04_label_off_cond` [hyp `hok`: `ManageDeployment` does not return its early error.
       Necessary: that sync is not an early return (`earlyErr = false`); it writes a status with
       ReconcileError=True but patches no label — counterexample `cxStore04` at the end of this file]
-/
namespace Eds

theorem C04_role_cases (d : EDS) (n : String) :
    ersRole d n = "active" ∨ ersRole d n = "canary" ∨ ersRole d n = "unknown" := ersRole_cases d n

theorem C04_role_active_iff (d : EDS) (n : String) :
    ersRole d n = "active" ↔ d.status.activeReplicaSet ≠ "" ∧ d.status.activeReplicaSet = n :=
  ersRole_active_iff d n

theorem C04_role_canary_iff (d : EDS) (n : String) :
    ersRole d n = "canary" ↔
      d.status.activeReplicaSet ≠ "" ∧ d.status.activeReplicaSet ≠ n ∧
      ∃ cs, d.status.canary = some cs ∧ cs.replicaSet = n := ersRole_canary_iff d n

/-- at most one replica set is active, at most one is the canary, and none is both. -/
theorem C04_roles_disjoint (d : EDS) (n₁ n₂ : String) :
    (ersRole d n₁ = "active" → ersRole d n₂ = "active" → n₁ = n₂) ∧
    (ersRole d n₁ = "canary" → ersRole d n₂ = "canary" → n₁ = n₂) ∧
    (ersRole d n₁ = "active" → ersRole d n₁ ≠ "canary") := by
  refine ⟨?_, ?_, ?_⟩
  · intro h1 h2
    rw [ersRole_active_iff] at h1 h2
    rw [← h1.2, ← h2.2]
  · intro h1 h2
    rw [ersRole_canary_iff] at h1 h2
    obtain ⟨_, _, cs, hc, h1⟩ := h1
    obtain ⟨_, _, cs', hc', h2⟩ := h2
    rw [hc] at hc'
    cases hc'
    rw [← h1, ← h2]
  · intro h1 h2
    rw [h1] at h2
    exact absurd h2 (by simp)

/-- the active and the canary replica set are different objects. -/
theorem C04_active_ne_canary (d : EDS) (n₁ n₂ : String)
    (h1 : ersRole d n₁ = "active") (h2 : ersRole d n₂ = "canary") : n₁ ≠ n₂ := by
  intro h; subst h; rw [h1] at h2; exact absurd h2 (by simp)

section Writes
variable (rs : ERS) (st : ErsStore) (released : String → Bool) (aff : Bool) (now : Time) (d : EDS)

theorem ersParams_byNode (items : List NodeItem) (pods : List Pod) :
    (ersParams released d rs items pods now).byNode =
      (filterAndMap released rs.template items pods (ersIgnore d rs)).byNode := rfl

theorem ersParams_toCleanUp (items : List NodeItem) (pods : List Pod) :
    (ersParams released d rs items pods now).toCleanUp =
      (filterAndMap released rs.template items pods (ersIgnore d rs)).toDelete := rfl

theorem ersParams_canaryNodes (items : List NodeItem) (pods : List Pod) :
    (ersParams released d rs items pods now).canaryNodes = ersCanaryNodes d := rfl

theorem ersCanaryNodes_some {cs : CanaryStatus} (hc : d.status.canary = some cs) :
    ersCanaryNodes d = cs.nodes := by
  unfold ersCanaryNodes; rw [hc]

theorem ersCanaryNodes_of_no_canary {d : EDS} (hc : d.status.canary = none) : ersCanaryNodes d = [] := by
  unfold ersCanaryNodes; rw [hc]

theorem ersIgnore_of_no_canary {d : EDS} (rs : ERS) (hc : d.status.canary = none) : ersIgnore d rs = [] := by
  unfold ersIgnore; rw [hc]; rfl

theorem ersIgnore_sub (n : String) (h : (ersIgnore d rs).contains n = true) : n ∈ ersCanaryNodes d := by
  unfold ersIgnore at h
  split at h
  · exact List.contains_iff_mem.mp h
  · simp at h

theorem ersIgnore_active {cs : CanaryStatus} (hr : ersRole d rs.name = "active")
    (hc : d.status.canary = some cs) : ersIgnore d rs = cs.nodes := by
  have h2 := ((ersRole_active_iff d rs.name).mp hr).2
  unfold ersIgnore
  rw [ersCanaryNodes_some d hc, hc, h2]
  simp

theorem kept_pod_bound (items : List NodeItem) (pods : List Pod) (ni : NodeItem) (k : Pod)
    (h : (ni, some k) ∈ (ersParams released d rs items pods now).byNode) :
    k ∈ pods ∧ k.nodeOf = some ni.node.name := by
  rw [ersParams_byNode] at h
  obtain ⟨a, b, _⟩ := C01_dup_resolution released rs.template items pods (ersIgnore d rs) ni k h
  exact ⟨a, b⟩

theorem key_listed (items : List NodeItem) (pods : List Pod) (e : NodeItem × Option Pod)
    (h : e ∈ (ersParams released d rs items pods now).byNode) :
    e.1 ∈ items ∧ (ersIgnore d rs).contains e.1.node.name = false ∧ fit rs.template e.1.node = true := by
  rw [ersParams_byNode] at h
  exact (C01_keys released rs.template items pods (ersIgnore d rs) e.1).mp (List.mem_map.mpr ⟨e, h, rfl⟩)

theorem mem_cleanupTargets {pods : List Pod} {name : String} (h : name ∈ cleanupTargets pods) :
    ∃ p ∈ pods, p.name = name ∧ p.deletion = none := by
  unfold cleanupTargets at h
  obtain ⟨p, hp, rfl⟩ := List.mem_map.mp h
  rw [List.mem_filter] at hp
  exact ⟨p, hp.1, rfl, by simpa using hp.2⟩

theorem cleanup_pod_bound (items : List NodeItem) (pods : List Pod) (name : String)
    (h : name ∈ cleanupTargets (ersParams released d rs items pods now).toCleanUp) :
    ∃ p ∈ pods, p.name = name ∧ ∃ n, p.nodeOf = some n ∧ (ersIgnore d rs).contains n = false := by
  obtain ⟨p, hp, hn, _⟩ := mem_cleanupTargets h
  rw [ersParams_toCleanUp] at hp
  obtain ⟨hm, _, n, hno, hc⟩ := C01_ignored_kept released rs.template items pods (ersIgnore d rs) p hp
  refine ⟨p, hm, hn, n, hno, ?_⟩
  rcases hc with hc | ⟨hc, _⟩
  · obtain ⟨e, he, hen⟩ := List.mem_map.mp hc
    have := (C01_keys released rs.template items pods (ersIgnore d rs) e.1).mp (List.mem_map.mpr ⟨e, he, rfl⟩)
    rw [← hen]; exact this.2.1
  · exact hc

/-- the pod the controller builds for node item `ni`. -/
def createdFor (rs : ERS) (aff : Bool) (ni : NodeItem) : String × Pod :=
  (ni.node.name, (createPod rs (some ni.node) ni.setting aff).pod)

/-- Summary of the creations of one sync: they are the pods built for a list `cr` of node items of
the listing `items`; each of them is a key of the per-node map whose kept pod is `none`; only the
active and the canary role create, each at most once per node name; and the clean-up of the same sync
deletes the non-terminating pods of the filter's deletion list. -/
structure SyncCreates (w : ErsWrites) (items cr : List NodeItem) : Prop where
  eq : w.creates = cr.map (createdFor rs aff)
  hitems : cr = [] ∨ ersNodeItems d rs st = some items
  empty : ∀ ni ∈ cr, (ni, none) ∈ (filterAndMap released rs.template items (ersPods d st) (ersIgnore d rs)).byNode
  role : cr = [] ∨ ersRole d rs.name = "active" ∨ ersRole d rs.name = "canary"
  nodupA : ersRole d rs.name = "active" → (items.map (·.node.name)).Nodup → (cr.map (·.node.name)).Nodup
  nodupC : ersRole d rs.name = "canary" → (ersCanaryNodes d).Nodup → (cr.map (·.node.name)).Nodup
  cleanup : cr = [] ∨ w.cleanupDeletes =
    cleanupTargets (filterAndMap released rs.template items (ersPods d st) (ersIgnore d rs)).toDelete

theorem SyncCreates.nil (w : ErsWrites) (hw : w.creates = []) : SyncCreates rs st released aff d w [] [] where
  eq := by rw [hw]; rfl
  hitems := Or.inl rfl
  empty := fun ni hni => by cases hni
  role := Or.inl rfl
  nodupA := fun _ _ => List.nodup_nil
  nodupC := fun _ _ => List.nodup_nil
  cleanup := Or.inl rfl

theorem sync_creates (h : ersOwner rs st = some d) :
    ∃ items cr, SyncCreates rs st released aff d (reconcileErs rs st released aff now) items cr := by
  rcases reconcileErs_cases rs st released aff now d h with hno | ⟨items, r, adds, removes, se, st0, F⟩
  · exact ⟨[], [], .nil rs st released aff d _ hno.2.2.2.2⟩
  · obtain ⟨b, hb⟩ := ersFinish_creates_eq rs (ersRole d rs.name) (ersFreq d)
      (ersParams released d rs items (ersPods d st) now) r adds removes se st0 aff now
    rw [← F.eq] at hb
    cases b with
    | true => exact ⟨[], [], .nil rs st released aff d _ hb⟩
    | false =>
      rcases ersRole_cases d rs.name with hr | hr | hr
      · rcases F.active hr with ⟨hm, -⟩ | ⟨-, -, hno⟩
        · exact ⟨items, r.createE, hb, .inr F.hitems,
            fun ni hni => (C01_create_only_empty_byNode _ now now false r hm ni hni).1, .inr (.inl hr),
            fun _ hn => C01_create_nodup _ now now false r hm
              (by rw [ersParams_byNode]; exact C01_keys_nodup released rs.template items _ _ hn),
            fun hc => absurd (hr.symm.trans hc) (by decide),
            .inr (by rw [F.cleanupDeletes_eq, manageDeployment_cleanup _ now now false r hm]; rfl)⟩
        · exact ⟨[], [], .nil rs st released aff d _ hno.2.2.2.2⟩
      · obtain ⟨r0, hm, rfl, -⟩ := F.canary hr
        exact ⟨items, r0.createE, hb, .inr F.hitems,
          fun ni hni => (C01_canary_create_only_empty _ now r0 hm ni hni).1, .inr (.inr hr),
          fun ha => absurd (hr.symm.trans ha) (by decide),
          fun _ hc => C01_canary_create_nodup _ now r0 hm hc, .inr F.cleanupDeletes_eq⟩
      · exact ⟨[], [], .nil rs st released aff d _ (by
          rw [hb, (F.unknown hr).1, (C01_unknown_role_creates_nothing _ now).1]; rfl)⟩

/-- **What a creation is** (any role): the pod built for an item of the node listing whose entry in the
per-node map holds no pod, on a node fit for the template. -/
theorem ersCreates_item (h : ersOwner rs st = some d)
    (x : String × Pod) (hx : x ∈ (reconcileErs rs st released aff now).creates) :
    ∃ items ni, ersNodeItems d rs st = some items ∧ ni ∈ items ∧
      x = (ni.node.name, (createPod rs (some ni.node) ni.setting aff).pod) ∧
      (ni, none) ∈ (ersFilter released d rs items (ersPods d st)).byNode ∧
      fit rs.template ni.node = true := by
  obtain ⟨items, cr, S⟩ := sync_creates rs st released aff now d h
  rw [S.eq] at hx
  obtain ⟨ni, hni, rfl⟩ := List.mem_map.1 hx
  have hkey := S.empty ni hni
  obtain ⟨h1, _, h3⟩ := (C01_keys released rs.template items (ersPods d st) (ersIgnore d rs) ni).mp
    (List.mem_map.mpr ⟨_, hkey, rfl⟩)
  exact ⟨items, ni, S.hitems.resolve_left (List.ne_nil_of_mem hni), h1, rfl, hkey, h3⟩

/-- **Canary blast radius.**  In the canary role every creation targets a node of
`eds.status.canary.nodes`, and every pod deleted for updating is a listed pod bound to such a node. -/
theorem C04_canary_creates_in_list (h : ersOwner rs st = some d) (hr : ersRole d rs.name = "canary") :
    (∀ x ∈ (reconcileErs rs st released aff now).creates, x.1 ∈ ersCanaryNodes d) ∧
    (∀ name ∈ (reconcileErs rs st released aff now).deletes,
      ∃ p ∈ ersPods d st, p.name = name ∧ ∃ n ∈ ersCanaryNodes d, p.nodeOf = some n) := by
  rcases reconcileErs_cases rs st released aff now d h with hno | ⟨items, r, adds, removes, se, st0, F⟩
  · exact ⟨fun x hx => (mem_nil_elim hno.2.2.2.2 hx).elim, fun x hx => (mem_nil_elim hno.2.2.2.1 hx).elim⟩
  · obtain ⟨r0, hm, rfl, -, -, -⟩ := F.canary hr
    constructor
    · intro x hx
      obtain ⟨ni, hni, rfl⟩ := F.mem_creates hx
      exact (C01_canary_create_only_empty _ now r0 hm ni hni).2
    · intro name hn
      obtain ⟨x, hx, rfl⟩ := F.mem_deletes hn
      obtain ⟨hb, hc⟩ := manageCanaryStatus_delete_mem _ now r0 hm x hx
      obtain ⟨hp, hno⟩ := kept_pod_bound rs released now d items (ersPods d st) x.1 x.2 hb
      exact ⟨x.2, hp, rfl, x.1.node.name, hc, hno⟩

theorem C04_created_shape (x : String × Pod) (hx : x ∈ (reconcileErs rs st released aff now).creates) :
    ∃ (n : Node) (s : Option Setting), x = (n.name, (createPod rs (some n) s aff).pod) := by
  cases ho : ersOwner rs st with
  | none => exact (mem_nil_elim (reconcileErs_noPodWrite_of_no_owner rs st released aff now ho).2.2.2.2 hx).elim
  | some d =>
    obtain ⟨_, ni, -, -, rfl, -⟩ := ersCreates_item rs st released aff now d ho x hx
    exact ⟨ni.node, ni.setting, rfl⟩

/-- **Pinned.**  The created pod is bound (`GetNodeNameFromPod`) to the node it is created for: by
`spec.nodeName` in node-name mode, by the rewritten node-name affinity in affinity mode (which needs a
template whose required node affinity is not the empty term list, see `C10_pinned_affinity`). -/
theorem C04_created_pinned (x : String × Pod) (hx : x ∈ (reconcileErs rs st released aff now).creates)
    (hne : x.1 ≠ "") (ha : aff = true → rs.template.affRequired ≠ some []) :
    x.2.nodeOf = some x.1 := by
  obtain ⟨n, s, rfl⟩ := C04_created_shape rs st released aff now x hx
  cases aff with
  | true => exact C10_nodeOf_affinity rs n s (ha rfl) hne
  | false => exact C10_nodeOf_nodeName rs n s hne

/-- a creation targets a stored node that the listing returned, fit for the template — so
`x.1 ≠ ""` in `C04_created_pinned` holds as soon as stored nodes have names. -/
theorem C04_created_node_listed (h : ersOwner rs st = some d)
    (x : String × Pod) (hx : x ∈ (reconcileErs rs st released aff now).creates) :
    ∃ n ∈ st.nodes, n.name = x.1 ∧ fit rs.template n = true := by
  obtain ⟨items, ni, hi, hni, rfl, -, hfit⟩ := ersCreates_item rs st released aff now d h x hx
  exact ⟨ni.node, ersNodeItems_mem d rs st items hi ni hni, rfl, hfit⟩

/-- **Active role avoids the canary nodes.**  During a canary (`eds.status.canary = some cs`) the
active replica set creates no pod on a node of `cs.nodes`, and every pod it deletes — for updating
or in its clean-up — is a listed pod bound to a node outside `cs.nodes`. -/
theorem C04_active_avoids_list (h : ersOwner rs st = some d) (hr : ersRole d rs.name = "active")
    (cs : CanaryStatus) (hc : d.status.canary = some cs) :
    (∀ x ∈ (reconcileErs rs st released aff now).creates, x.1 ∉ cs.nodes) ∧
    (∀ name ∈ (reconcileErs rs st released aff now).deletes,
      ∃ p ∈ ersPods d st, p.name = name ∧ ∃ n, p.nodeOf = some n ∧ n ∉ cs.nodes) ∧
    (∀ name ∈ (reconcileErs rs st released aff now).cleanupDeletes,
      ∃ p ∈ ersPods d st, p.name = name ∧ ∃ n, p.nodeOf = some n ∧ n ∉ cs.nodes) := by
  have hcn := ersCanaryNodes_some d hc
  have hig := ersIgnore_active rs d hr hc
  rcases reconcileErs_active_cases rs st released aff now d h hr with
    hno | ⟨items, r, adds, removes, se, st0, F, hm⟩
  · exact ⟨fun x hx => (mem_nil_elim hno.2.2.2.2 hx).elim, fun x hx => (mem_nil_elim hno.2.2.2.1 hx).elim,
      fun x hx => (mem_nil_elim hno.1 hx).elim⟩
  · refine ⟨?_, ?_, ?_⟩
    · intro x hx
      obtain ⟨ni, hni, rfl⟩ := F.mem_creates hx
      have := (C01_create_only_empty_byNode _ now now false r hm ni hni).2
      rw [ersParams_canaryNodes, hcn] at this
      simpa using this
    · intro name hn
      obtain ⟨x, hx, rfl⟩ := F.mem_deletes hn
      obtain ⟨hb, hnc⟩ := mem_targeted.mp (manageDeployment_delete_mem _ now now false r hm x hx)
      obtain ⟨hp, hno⟩ := kept_pod_bound rs released now d items (ersPods d st) x.1 x.2 hb
      rw [ersParams_canaryNodes, hcn] at hnc
      exact ⟨x.2, hp, rfl, x.1.node.name, hno, hnc⟩
    · intro name hn
      rw [F.cleanupDeletes_eq, manageDeployment_cleanup _ now now false r hm] at hn
      obtain ⟨p, hp, hpn, n, hno, hi⟩ := cleanup_pod_bound rs released now d items (ersPods d st) name hn
      rw [hig] at hi
      exact ⟨p, hp, hpn, n, hno, by simpa using hi⟩

/-- with distinct listed pod names: no listed pod bound to a canary node is named in the active
role's deletion lists. -/
theorem C04_active_avoids_list_named (h : ersOwner rs st = some d) (hr : ersRole d rs.name = "active")
    (cs : CanaryStatus) (hc : d.status.canary = some cs)
    (hnd : ((ersPods d st).map (·.name)).Nodup)
    (p : Pod) (hp : p ∈ ersPods d st) (n : String) (hn : p.nodeOf = some n) (hcn : n ∈ cs.nodes) :
    p.name ∉ (reconcileErs rs st released aff now).deletes ∧
    p.name ∉ (reconcileErs rs st released aff now).cleanupDeletes := by
  obtain ⟨_, h2, h3⟩ := C04_active_avoids_list rs st released aff now d h hr cs hc
  -- a list whose names all belong to listed pods off the canary nodes does not name `p`
  have key : ∀ {l : List String},
      (∀ name ∈ l, ∃ q ∈ ersPods d st, q.name = name ∧ ∃ m, q.nodeOf = some m ∧ m ∉ cs.nodes) → p.name ∉ l := by
    intro l hl hm
    obtain ⟨q, hq, hqn, m, hqm, hnm⟩ := hl _ hm
    obtain rfl := eq_of_nodup_map _ hnd hq hp hqn
    rw [hn] at hqm; cases hqm
    exact hnm hcn
  exact ⟨key h2, key h3⟩

/-- **The rest is served.**  The entries the active (and unknown) role works on — `targeted` — have
as keys exactly the listed nodes that are fit for the template and are not canary nodes.  (Holds for
every role; only the active and unknown strategies read `targeted`.) -/
theorem C04_active_serves_rest (items : List NodeItem) (pods : List Pod) (ni : NodeItem) :
    ni ∈ (targeted (ersParams released d rs items pods now)).map (·.1) ↔
      ni ∈ items ∧ fit rs.template ni.node = true ∧ ni.node.name ∉ ersCanaryNodes d := by
  constructor
  · intro hm
    obtain ⟨e, he, rfl⟩ := List.mem_map.mp hm
    obtain ⟨hb, hnc⟩ := mem_targeted.mp he
    obtain ⟨h1, _, h3⟩ := key_listed rs released now d items pods e hb
    exact ⟨h1, h3, hnc⟩
  · rintro ⟨h1, h2, h3⟩
    have hig : (ersIgnore d rs).contains ni.node.name = false := by
      cases hc : (ersIgnore d rs).contains ni.node.name with
      | false => rfl
      | true => exact absurd (ersIgnore_sub rs d _ hc) h3
    have hk := (C01_keys released rs.template items pods (ersIgnore d rs) ni).mpr ⟨h1, hig, h2⟩
    obtain ⟨e, he, rfl⟩ := List.mem_map.mp hk
    exact List.mem_map.mpr ⟨e, mem_targeted.mpr ⟨he, h3⟩, rfl⟩

/-- end to end: in a full active sync a listed, fit, non-canary node to which no listed pod is bound
is a creation candidate. -/
theorem C04_active_serves_rest_cands (h : ersOwner rs st = some d) (hr : ersRole d rs.name = "active")
    (hd : isDefaulted d.strategy d.templateName = true) (hg : ersGated d rs now = false)
    (he : (reconcileErs rs st released aff now).earlyErr = false)
    (items : List NodeItem) (hi : ersNodeItems d rs st = some items)
    (ni : NodeItem) (hni : ni ∈ items) (hfit : fit rs.template ni.node = true)
    (hnc : ni.node.name ∉ ersCanaryNodes d)
    (hfree : ∀ p ∈ ersPods d st, p.nodeOf ≠ some ni.node.name) :
    ni ∈ (reconcileErs rs st released aff now).createCands := by
  obtain ⟨items', r, adds, removes, se, st0, F⟩ := reconcileErs_full rs st released aff now d h hd hg he
  have : items' = items := by have := F.hitems; rw [hi] at this; exact (Option.some.inj this).symm
  subst this
  rw [F.eq]
  have hc : (ersFinish rs (ersRole d rs.name) (ersFreq d) (ersParams released d rs items' (ersPods d st) now)
      r adds removes se st0 aff now).createCands =
      (countAll rs.templateGeneration now (targeted (ersParams released d rs items' (ersPods d st) now))).toCreate := by
    unfold ersFinish
    simp only [hr, beq_self_eq_true, if_true]
  rw [hc, countAll_toCreate, mem_noneNodes]
  have hk := (C04_active_serves_rest rs released now d items' (ersPods d st) ni).mpr ⟨hni, hfit, hnc⟩
  obtain ⟨⟨ni', o⟩, hm, hfst⟩ := List.mem_map.mp hk
  simp only at hfst
  subst hfst
  cases o with
  | none => exact hm
  | some k =>
    obtain ⟨hp, hno⟩ := kept_pod_bound rs released now d items' (ersPods d st) ni' k (mem_targeted.mp hm).1
    exact absurd hno (hfree k hp)

/-- **Unknown role**: no pod write at all. -/
theorem C04_unknown_inert (h : ersOwner rs st = some d) (hr : ersRole d rs.name = "unknown") :
    (reconcileErs rs st released aff now).creates = [] ∧
    (reconcileErs rs st released aff now).deletes = [] ∧
    (reconcileErs rs st released aff now).cleanupDeletes = [] ∧
    (reconcileErs rs st released aff now).labelAdds = [] ∧
    (reconcileErs rs st released aff now).labelRemoves = [] := by
  rcases reconcileErs_cases rs st released aff now d h with hno | ⟨items, r, adds, removes, se, st0, F⟩
  · exact ⟨hno.2.2.2.2, hno.2.2.2.1, hno.1, hno.2.1, hno.2.2.1⟩
  · obtain ⟨rfl, rfl, rfl, -⟩ := F.unknown hr
    obtain ⟨hc, hdel⟩ := C01_unknown_role_creates_nothing
      (ersParams released d rs items (ersPods d st) now) now
    refine ⟨List.eq_nil_iff_forall_not_mem.mpr fun x hx => ?_, List.eq_nil_iff_forall_not_mem.mpr fun x hx => ?_,
      F.cleanupDeletes_eq, F.labelAdds_eq, F.labelRemoves_eq⟩
    · obtain ⟨ni, hni, -⟩ := F.mem_creates hx
      exact mem_nil_elim hc hni
    · obtain ⟨y, hy, -⟩ := F.mem_deletes hx
      exact mem_nil_elim hdel hy

theorem mem_canaryLabelAdds {sp : StratParams} {name : String} (h : name ∈ canaryLabelAdds sp) :
    ∃ n ∈ sp.canaryNodes, ∃ ni pod, lookupNode sp.byNode n = some (ni, some pod) ∧ pod.name = name ∧
      pod.hasLabels = true ∧ SMap.get? pod.labels K.ersNameLabel = some sp.ers.name ∧
      SMap.get? pod.labels K.canaryLabel ≠ some "true" := by
  unfold canaryLabelAdds at h
  obtain ⟨n, hn, hf⟩ := List.mem_filterMap.mp h
  refine ⟨n, hn, ?_⟩
  split at hf
  · rename_i ni pod hl
    split at hf
    · rename_i hcond
      simp only [Bool.and_eq_true, beq_iff_eq, bne_iff_ne, ne_eq] at hcond
      simp only [Option.some.injEq] at hf
      exact ⟨ni, pod, hl, hf, hcond.1.1, hcond.1.2, hcond.2⟩
    · cases hf
  · cases hf

/-- **Label scope.**  The canary label is only ever added to / removed from pods carrying this
replica set's name label (for a removal also the EDS's name label); it is added only in the canary
role and removed only in the active role. -/
theorem C04_label_scope (h : ersOwner rs st = some d) :
    (∀ name ∈ (reconcileErs rs st released aff now).labelAdds,
      ∃ p ∈ ersPods d st, p.name = name ∧ SMap.get? p.labels K.ersNameLabel = some rs.name ∧
        ∃ n ∈ ersCanaryNodes d, p.nodeOf = some n) ∧
    (∀ name ∈ (reconcileErs rs st released aff now).labelRemoves,
      ∃ p ∈ st.pods, p.name = name ∧ p.ns = rs.ns ∧ SMap.get? p.labels K.ersNameLabel = some rs.name ∧
        SMap.get? p.labels K.canaryLabel = some "true" ∧
        SMap.get? p.labels K.edsNameLabel = some d.name) ∧
    (ersRole d rs.name ≠ "canary" → (reconcileErs rs st released aff now).labelAdds = []) ∧
    (ersRole d rs.name ≠ "active" → (reconcileErs rs st released aff now).labelRemoves = []) := by
  rcases reconcileErs_cases rs st released aff now d h with hno | ⟨items, r, adds, removes, se, st0, F⟩
  · exact ⟨fun x hx => (mem_nil_elim hno.2.1 hx).elim, fun x hx => (mem_nil_elim hno.2.2.1 hx).elim,
      fun _ => hno.2.1, fun _ => hno.2.2.1⟩
  · rw [F.labelAdds_eq, F.labelRemoves_eq]
    rcases ersRole_cases d rs.name with hr | hr | hr
    · rcases F.active hr with ⟨-, hadds, hrem, -⟩ | ⟨-, -, hno⟩
      case inr =>
        rw [← F.labelAdds_eq, ← F.labelRemoves_eq]
        exact ⟨fun x hx => (mem_nil_elim hno.2.1 hx).elim, fun x hx => (mem_nil_elim hno.2.2.1 hx).elim,
          fun _ => hno.2.1, fun _ => hno.2.2.1⟩
      refine ⟨fun x hx => (mem_nil_elim hadds hx).elim, ?_, fun _ => hadds, fun hne => absurd hr hne⟩
      intro name hn
      rw [hrem] at hn
      split at hn
      · obtain ⟨p, hp, rfl⟩ := List.mem_map.mp hn
        obtain ⟨a, b, c, e, f⟩ := mem_canaryLabelled.mp hp
        exact ⟨p, a, rfl, b, e, c, f⟩
      · cases hn
    · obtain ⟨r0, -, -, hadds, hrem, -⟩ := F.canary hr
      refine ⟨?_, fun x hx => (mem_nil_elim hrem hx).elim, fun hne => absurd hr hne, fun _ => hrem⟩
      intro name hn
      rw [hadds] at hn
      obtain ⟨n, hn', ni, pod, hl, hname, _, hlab, _⟩ := mem_canaryLabelAdds hn
      obtain ⟨hmem, hnn⟩ := lookupNode_some hl
      simp only at hnn
      obtain ⟨hp, hno⟩ := kept_pod_bound rs released now d items (ersPods d st) ni pod hmem
      exact ⟨pod, hp, hname, hlab, n, hn', by rw [hno, hnn]⟩
    · obtain ⟨-, hadds, hrem, -⟩ := F.unknown hr
      exact ⟨fun x hx => (mem_nil_elim hadds hx).elim, fun x hx => (mem_nil_elim hrem hx).elim,
        fun _ => hadds, fun _ => hrem⟩

/-- entries of the per-node map with the same node name hold the same kept pod (the pod lists are
keyed by node *name*). -/
theorem keptOf_congr_name (att : List (String × List Pod)) (ni ni' : NodeItem)
    (h : ni.node.name = ni'.node.name) : (keptOf att ni).2 = (keptOf att ni').2 := by
  unfold keptOf
  rw [h]
  split <;> rfl

theorem lookupNode_kept (released : String → Bool) (t : Template) (nodes : List NodeItem) (pods : List Pod)
    (ignore : List String) (ni : NodeItem) (o : Option Pod)
    (h : (ni, o) ∈ (filterAndMap released t nodes pods ignore).byNode) :
    ∃ ni', lookupNode (filterAndMap released t nodes pods ignore).byNode ni.node.name = some (ni', o) := by
  unfold lookupNode
  cases hf : (filterAndMap released t nodes pods ignore).byNode.find? (fun e => e.1.node.name == ni.node.name) with
  | none =>
    rw [List.find?_eq_none] at hf
    exact absurd (by simp) (hf _ h)
  | some e =>
    obtain ⟨ni', o'⟩ := e
    have h1 := List.find?_some hf
    have h2 := List.mem_of_find?_eq_some hf
    simp only [beq_iff_eq] at h1
    have e1 := (mem_filter_byNode h2).2
    have e2 := (mem_filter_byNode h).2
    rw [keptOf_congr_name _ ni' ni h1, e2] at e1
    exact ⟨ni', by rw [e1]⟩

/-- **Label on.**  In a full canary sync the kept pod of a canary node that carries this replica
set's name label but not the canary label gets the label.  (No distinctness hypothesis on node
names: entries of the map with the same node name hold the same kept pod.) -/
theorem C04_label_on (h : ersOwner rs st = some d) (hr : ersRole d rs.name = "canary")
    (hd : isDefaulted d.strategy d.templateName = true) (hg : ersGated d rs now = false)
    (he : (reconcileErs rs st released aff now).earlyErr = false)
    (items : List NodeItem) (hi : ersNodeItems d rs st = some items)
    (ni : NodeItem) (p : Pod)
    (hm : (ni, some p) ∈ (ersFilter released d rs items (ersPods d st)).byNode)
    (hcn : ni.node.name ∈ ersCanaryNodes d) (hl : p.hasLabels = true)
    (hers : SMap.get? p.labels K.ersNameLabel = some rs.name)
    (hnc : SMap.get? p.labels K.canaryLabel ≠ some "true") :
    p.name ∈ (reconcileErs rs st released aff now).labelAdds := by
  obtain ⟨items', r, adds, removes, se, st0, F⟩ := reconcileErs_full rs st released aff now d h hd hg he
  have : items' = items := by have := F.hitems; rw [hi] at this; exact (Option.some.inj this).symm
  subst this
  obtain ⟨r0, -, -, hadds, -, -⟩ := F.canary hr
  rw [F.labelAdds_eq, hadds]
  unfold canaryLabelAdds
  rw [List.mem_filterMap]
  refine ⟨ni.node.name, hcn, ?_⟩
  obtain ⟨ni', hlk⟩ := lookupNode_kept released rs.template items' (ersPods d st) (ersIgnore d rs) ni (some p) hm
  rw [ersParams_byNode]
  rw [hlk]
  have hcond : (p.hasLabels && SMap.get? p.labels K.ersNameLabel ==
      some (ersParams released d rs items' (ersPods d st) now).ers.name &&
      SMap.get? p.labels K.canaryLabel != some "true") = true := by
    simp only [Bool.and_eq_true, beq_iff_eq, bne_iff_ne, ne_eq]
    exact ⟨⟨hl, hers⟩, hnc⟩
  simp only [hcond, if_true]

/-- **Label off.**  In a full active sync within five minutes of the rolling update's start, every
pod of the namespace carrying the EDS's name label, this replica set's name label and the canary
label is unlabelled.  (The EDS-label requirement is the list selector of the clean-up; it is what
makes `C12_ers_writes_owned` hold for `labelRemoves`.)

`hok`: the rolling-update parameters parse, i.e. `ManageDeployment` does not return its early error.
That case is not an early return (`he` does not exclude it): the sync goes on, writes the status with
ReconcileError=True and patches no label, so without `hok` the statement is false (counterexample
`cxStore04` below). -/
theorem C04_label_off (h : ersOwner rs st = some d) (hr : ersRole d rs.name = "active")
    (hd : isDefaulted d.strategy d.templateName = true) (hg : ersGated d rs now = false)
    (he : (reconcileErs rs st released aff now).earlyErr = false)
    (hok : ∀ items, ersNodeItems d rs st = some items →
      ∀ msg, manageDeployment (ersParams released d rs items (ersPods d st) now) now now false ≠ .err msg)
    (ht : now - rollingUpdateStartTime rs.status now < 5 * minute)
    (p : Pod) (hp : p ∈ st.pods) (hns : p.ns = rs.ns)
    (hcl : SMap.get? p.labels K.canaryLabel = some "true")
    (hers : SMap.get? p.labels K.ersNameLabel = some rs.name)
    (heds : SMap.get? p.labels K.edsNameLabel = some d.name) :
    p.name ∈ (reconcileErs rs st released aff now).labelRemoves := by
  obtain ⟨items, r, adds, removes, se, st0, F⟩ := reconcileErs_full rs st released aff now d h hd hg he
  rcases F.active hr with ⟨-, -, hrem, -⟩ | ⟨⟨msg, hmsg⟩, -, -⟩
  case inr => exact absurd hmsg (hok items F.hitems msg)
  rw [F.labelRemoves_eq, hrem, if_pos ht]
  exact List.mem_map.mpr ⟨p, mem_canaryLabelled.mpr ⟨hp, hns, hcl, hers, heds⟩, rfl⟩

/-- … in terms of the stored Active condition: it is True and its last transition is less than five
minutes old (or the condition is absent / not True: the rolling update starts now). -/
theorem C04_label_off_cond (h : ersOwner rs st = some d) (hr : ersRole d rs.name = "active")
    (hd : isDefaulted d.strategy d.templateName = true) (hg : ersGated d rs now = false)
    (he : (reconcileErs rs st released aff now).earlyErr = false)
    (hok : ∀ items, ersNodeItems d rs st = some items →
      ∀ msg, manageDeployment (ersParams released d rs items (ersPods d st) now) now now false ≠ .err msg)
    (ht : ∀ c, findCond rs.status.conds "Active" = some c → c.status = "True" →
          now - c.lastTransition < 5 * minute)
    (p : Pod) (hp : p ∈ st.pods) (hns : p.ns = rs.ns)
    (hcl : SMap.get? p.labels K.canaryLabel = some "true")
    (hers : SMap.get? p.labels K.ersNameLabel = some rs.name)
    (heds : SMap.get? p.labels K.edsNameLabel = some d.name) :
    p.name ∈ (reconcileErs rs st released aff now).labelRemoves := by
  refine C04_label_off rs st released aff now d h hr hd hg he hok ?_ p hp hns hcl hers heds
  unfold rollingUpdateStartTime
  split
  · rename_i c hc
    split
    · rename_i hst
      exact ht c hc (by simpa using hst)
    · simp only [Int.sub_self]; decide
  · simp only [Int.sub_self]; decide

end Writes

/-! ### Non-vacuity.  EDS `d` (namespace `ns`, defaulted, reconcile frequency 10 s) with active replica
set `d-old` and a canary `d-new` on node `n1`; two fit nodes `n1`, `n2`; a third replica set `d-x` is a
leftover.  Every hypothesis used above (`ersOwner … = some d`, the three roles, defaulted, not gated,
not an early return) is satisfied by these syncs. -/

def exStrategy04 (freq : Dur := 10 * sec) : Strategy :=
  { rollingUpdate := { maxUnavailable := some ⟨"int", 1⟩, maxPodSchedulerFailure := some ⟨"int", 0⟩,
                       maxParallelPodCreation := some 250, slowStartInterval := some minute,
                       slowStartAdditiveIncrease := some ⟨"int", 5⟩ },
    canary := some { replicas := some ⟨"int", 1⟩, duration := some (10 * minute),
                     nodeSelector := some { matchLabels := [], exprs := [] },
                     antiAffinityKeys := [],
                     autoPause := some { enabled := some true, maxRestarts := some 2, maxSlowStartDuration := none },
                     autoFail := some { enabled := some true, maxRestarts := some 5,
                                        maxRestartsDuration := none, canaryTimeout := none },
                     noRestartsDuration := none, validationMode := "auto" },
    reconcileFrequency := some freq }

/-- `canary = true`: `d-old` active, `d-new` canary on `n1`; `false`: canary over, `d-new` active. -/
def exEds04 (canary : Bool := true) (freq : Dur := 10 * sec) : EDS :=
  { name := "d", ns := "ns", labels := [], annotations := [], templateHash := "h", templateName := "",
    template := exTemplate01, strategy := exStrategy04 freq,
    status := { desired := 0, current := 0, ready := 0, available := 0, upToDate := 0, ignored := 0, state := "",
                activeReplicaSet := if canary then "d-old" else "d-new", reason := "",
                canary := if canary then some { replicaSet := "d-new", nodes := ["n1"] } else none,
                conds := [] } }

def exErs04 (name tg : String) (conds : List Cond := []) : ERS :=
  { name := name, ns := "ns", uid := "u", labels := [⟨K.edsNameLabel, "d"⟩], annotations := [], creation := 0,
    deleted := false, ownerEds := some "d", selector := none, templateGeneration := tg, template := exTemplate01,
    status := { status := "", desired := 0, current := 0, ready := 0, available := 0, ignored := 0, conds := conds } }

def exStore04 (pods : List Pod := []) (canary : Bool := true) (freq : Dur := 10 * sec) : ErsStore :=
  { edss := [exEds04 canary freq], nodes := [(exNode01 "n1").node, (exNode01 "n2").node], pods := pods,
    settings := [], daemonsets := [] }

/-- a ready pod of replica set `ers` (template generation `tg`) running on `node`. -/
def exPod04 (name node ers tg : String) (canaryLabel : Bool := false) (edsLabel : Bool := true) : Pod :=
  { name := name, ns := "ns",
    labels := (if edsLabel then [⟨K.edsNameLabel, "d"⟩] else []) ++ [⟨K.ersNameLabel, ers⟩] ++
              (if canaryLabel then [⟨K.canaryLabel, "true"⟩] else []),
    annotations := [⟨K.templateHashAnnot, tg⟩], owners := [], creation := 1, deletion := none,
    gracePeriod := none, nodeName := node, affOther := "", affRequired := none, tolerations := [],
    containers := [], phase := "Running", startTime := some 1, conds := [⟨"Ready", "True", "", 1⟩], cstats := [] }

/-- the hypotheses: owner found, roles, defaulted, not gated, full run. -/
example : ersOwner (exErs04 "d-new" "new") exStore04 = some exEds04 ∧
    ersRole exEds04 "d-new" = "canary" ∧ ersRole exEds04 "d-old" = "active" ∧ ersRole exEds04 "d-x" = "unknown" ∧
    isDefaulted (exEds04).strategy (exEds04).templateName = true ∧
    ersGated exEds04 (exErs04 "d-new" "new") 100 = false ∧
    (reconcileErs (exErs04 "d-new" "new") exStore04 (fun _ => true) true 100).earlyErr = false := by decide +kernel

/-- no pod yet: the canary replica set creates on the canary node only, the active one on the other
node only, the leftover nowhere. -/
example : (reconcileErs (exErs04 "d-new" "new") exStore04 (fun _ => true) true 100).creates.map (·.1) = ["n1"] := by
  decide +kernel
example : (reconcileErs (exErs04 "d-old" "old") exStore04 (fun _ => true) true 100).creates.map (·.1) = ["n2"] := by
  decide +kernel
example : (reconcileErs (exErs04 "d-x" "x") exStore04 (fun _ => true) true 100).creates = [] := by decide +kernel
/-- the created pod is bound to its node (affinity mode and node-name mode). -/
example : (reconcileErs (exErs04 "d-new" "new") exStore04 (fun _ => true) true 100).creates.map (·.2.nodeOf)
    = [some "n1"] := by decide +kernel
example : (reconcileErs (exErs04 "d-new" "new") exStore04 (fun _ => true) false 100).creates.map (·.2.nodeOf)
    = [some "n1"] := by decide +kernel

/-- both nodes run the old generation: the canary replica set replaces the pod of `n1` only; the active
one (whose pods are up to date) and the leftover touch nothing. -/
def exPodsOld04 : List Pod := [exPod04 "old-1" "n1" "d-old" "old", exPod04 "old-2" "n2" "d-old" "old"]
example : (reconcileErs (exErs04 "d-new" "new") (exStore04 exPodsOld04) (fun _ => true) true 100).deletes = ["old-1"] ∧
    (reconcileErs (exErs04 "d-new" "new") (exStore04 exPodsOld04) (fun _ => true) true 100).creates = [] := by decide +kernel
example : (reconcileErs (exErs04 "d-old" "old") (exStore04 exPodsOld04) (fun _ => true) true 100).noPodWrite := by
  decide +kernel
example : (reconcileErs (exErs04 "d-x" "x") (exStore04 exPodsOld04) (fun _ => true) true 100).noPodWrite := by
  decide +kernel
/-- an active replica set of a *newer* generation would replace `old-2` but still leaves `old-1`
(on the canary node) alone. -/
example : (reconcileErs (exErs04 "d-old" "old2") (exStore04 exPodsOld04) (fun _ => true) true 100).deletes
    = ["old-2"] := by decide +kernel

/-- the canary pod of `n1` gets the canary label (`C04_label_on`) … -/
example : (reconcileErs (exErs04 "d-new" "new")
    (exStore04 [exPod04 "new-1" "n1" "d-new" "new", exPod04 "old-2" "n2" "d-old" "old"]) (fun _ => true) true 100).labelAdds
    = ["new-1"] := by decide +kernel
/-- … and loses it once `d-new` has become the active replica set (`C04_label_off`). -/
example : (reconcileErs (exErs04 "d-new" "new")
    (exStore04 [exPod04 "new-1" "n1" "d-new" "new" true, exPod04 "old-2" "n2" "d-old" "old"] false)
    (fun _ => true) true 100).labelRemoves = ["new-1"] := by decide +kernel

/-! ### Why `hok` in `C04_label_off`.  A *defaulted* strategy only needs `maxUnavailable` to be set, not
to parse.  With a kind that is neither "int" nor "pct" `ManageDeployment` returns its early error; the
sync is then a full one (`earlyErr = false`) that writes ReconcileError=True, but it patches no label:
every other hypothesis of `C04_label_off` holds and the conclusion fails. -/

def cxStrategy04 : Strategy :=
  { exStrategy04 with
    rollingUpdate := { (exStrategy04).rollingUpdate with maxUnavailable := some ⟨"bad", 1⟩ } }

def cxEds04 : EDS := { exEds04 false with strategy := cxStrategy04 }

def cxStore04 : ErsStore :=
  { exStore04 [exPod04 "new-1" "n1" "d-new" "new" true] false with edss := [cxEds04] }

example : ersOwner (exErs04 "d-new" "new") cxStore04 = some cxEds04 ∧
    ersRole cxEds04 (exErs04 "d-new" "new").name = "active" ∧
    isDefaulted cxEds04.strategy cxEds04.templateName = true ∧
    ersGated cxEds04 (exErs04 "d-new" "new") 100 = false ∧
    (reconcileErs (exErs04 "d-new" "new") cxStore04 (fun _ => true) true 100).earlyErr = false ∧
    (100 : Int) - rollingUpdateStartTime (exErs04 "d-new" "new").status 100 < 5 * minute ∧
    exPod04 "new-1" "n1" "d-new" "new" true ∈ cxStore04.pods ∧
    (exPod04 "new-1" "n1" "d-new" "new" true).ns = (exErs04 "d-new" "new").ns ∧
    SMap.get? (exPod04 "new-1" "n1" "d-new" "new" true).labels K.canaryLabel = some "true" ∧
    SMap.get? (exPod04 "new-1" "n1" "d-new" "new" true).labels K.ersNameLabel = some "d-new" ∧
    SMap.get? (exPod04 "new-1" "n1" "d-new" "new" true).labels K.edsNameLabel = some cxEds04.name ∧
    (reconcileErs (exErs04 "d-new" "new") cxStore04 (fun _ => true) true 100).labelRemoves = [] ∧
    (reconcileErs (exErs04 "d-new" "new") cxStore04 (fun _ => true) true 100).noPodWrite := by decide +kernel

end Eds
