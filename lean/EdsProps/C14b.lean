import EdsProps.C14
import EdsProps.C02b
/-
  EdsProps.C14b — C14, last sentence, for the active replica set: "once the system is quiescent,
  desired equals the number of eligible nodes and current, ready, available … equal the numbers of
  daemon pods that exist, are Ready, and run the live template".  On a cooperative entry list with
  no empty node and no outdated pod (the state `C02_converges_coop` reaches) the status a sync of the
  active replica set reports has all four counters equal to the number of targeted nodes, nothing
  ignored, and the sync creates and deletes nothing.
-/
namespace Eds

/-- **Quiescent counters of the active replica set.** -/
theorem C14_quiescent_counts (p : StratParams) (now wall : Time) (cf : Bool) (r : StratResult) (st : ERSStatus)
    (h : manageDeployment p now wall cf = .ok r) (hst : r.newStatus = some st)
    (hc : coop p.ers.templateGeneration wall (targeted p) = true)
    (he : coopE (targeted p) = 0) (ho : coopO p.ers.templateGeneration wall (targeted p) = 0) :
    st.desired = (targeted p).length ∧ st.current = (targeted p).length ∧
    st.ready = (targeted p).length ∧ st.available = (targeted p).length ∧ st.ignored = 0 ∧
    r.createE = [] ∧ r.deleteE = [] := by
  obtain ⟨h1, h2, h3, h4, h5, _⟩ := manageDeployment_status p now wall cf r st h hst
  obtain ⟨d1, _, d3, d4, d5, _, _, d8, _, _, _, _⟩ := countAll_coop p.ers.templateGeneration wall (targeted p) hc
  obtain ⟨ms, mu, mc, _, _, _, hcr, hdl⟩ := manageDeployment_plan p now wall cf r h
  have hfix := C02_fixpoint_plan (countAll p.ers.templateGeneration wall (targeted p)) (targeted p).length ms mu mc
    (isRollingUpdatePaused p.edsAnnotations) (isRolloutFrozen p.edsAnnotations)
  have eqs := countAll_coop_eq p.ers.templateGeneration wall (targeted p) hc
  have hE : createCands (targeted p) = [] :=
    List.eq_nil_of_length_eq_zero ((createCands_length (targeted p)).trans he)
  have hO : oldCands p.ers.templateGeneration wall (targeted p) = [] :=
    List.eq_nil_of_length_eq_zero ((oldCands_length p.ers.templateGeneration wall (targeted p)).trans ho)
  have hplan := hfix (by rw [eqs]; exact hE) (by rw [eqs]) (by rw [eqs]; exact hO)
  rw [he, ho] at d3 d4 d5
  refine ⟨by rw [h1, d1], by rw [h3, d3]; simp, by rw [h2, d5]; simp, by rw [h4, d4]; simp,
          by rw [h5, d8], by rw [hcr, hplan], by rw [hdl, hplan]⟩

end Eds
