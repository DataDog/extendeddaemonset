import EdsProofs.Filter
import EdsProofs.Rolling
import EdsSpec.C01
/-
  C01 — At most one daemon pod per node, and only on eligible nodes.

  Subject: `FilterAndMapPodsByNode` (filters.go) as modelled by `filterAndMap` (EdsModel/Filter.lean)
  and the three consumers of its per-node map that can create pods: `manageDeployment` (active role),
  `manageUnknown` (unknown role) and `manageCanaryStatus` (canary role).

  Quantification: every template, every node list (any length, any order; duplicate node names are
  allowed unless a theorem says otherwise), every pod list (any length, any order, any phases /
  bindings / deletion timestamps; a pod may even be listed twice unless a theorem says otherwise),
  every ignore list and **every** back-off oracle `released`.

    1  `C01_keys`, `C01_fit_unfold` (+ `C01_byNode_nodes`, `C01_key_names`, `C01_keys_nodup`)
    2  `C01_unknown_untouched`                      — no hypothesis, not even `p ∈ pods`
    3  `C01_unknown_role_creates_nothing`
    4  `C01_create_only_empty` (+ `_byNode`), `C01_create_nodup`   [hyp: names of `p.byNode` Nodup]
    5  `C01_canary_create_only_empty`, `C01_canary_create_nodup`   [hyp: `p.canaryNodes.Nodup`]
    6  `C01_kept_none` (+ `C01_kept_none_released`)  — holds WITHOUT distinct node names
    7  `C01_dup_resolution`                          — holds WITHOUT distinct node names;
       `C01_dup_resolution_strict`                  [hyp: pod names Nodup] gives `podLess k q = true`
    8  `C01_ineligible_deleted`, `C01_ineligible_terminating_kept`, `C01_ignored_kept`
                                                     — hold WITHOUT distinct node names
    9  `C01_kept_not_deleted` [hyp: node names Nodup, `pods.Nodup`],
       `C01_holds`            [hyp: node names Nodup, pod names Nodup]
    +  `C01_roles_disjoint`, `C01_creation_sound`, `C01_creation_once`, `C01_canary_creation_sound`
       (filter composed with the roles: the informal statement end to end).

  The `Nodup` hypotheses of 4 and 5 are necessary (see the last two `example`s).  They are discharged
  by `C01_keys_nodup` for the map built by `filterAndMap` from a node list with distinct names.
-/
namespace Eds

section Filter
variable (released : String → Bool) (t : Template) (nodes : List NodeItem) (pods : List Pod)
  (ignore : List String)

/-! ### 1. keys of the per-node map = listed, non-ignored, fit nodes -/

theorem C01_byNode_nodes :
    (filterAndMap released t nodes pods ignore).byNode.map (·.1) = candidates t nodes ignore := by
  rw [filterAndMap_byNode, List.map_map]
  exact (List.map_congr_left fun ni _ => keptOf_fst _ ni).trans (List.map_id _)

theorem C01_keys (ni : NodeItem) :
    ni ∈ (filterAndMap released t nodes pods ignore).byNode.map (·.1) ↔
      ni ∈ nodes ∧ ignore.contains ni.node.name = false ∧ fit t ni.node = true := by
  rw [C01_byNode_nodes]
  simp [candidates, List.mem_filter]

/-- the three conditions of node fitness. -/
theorem C01_fit_unfold (n : Node) :
    fit t n = true ↔
      nodeSelectorMatches t.nodeSelector n.labels = true ∧
      (match t.affRequired with
       | none => True
       | some terms => terms.any (fun tm => termMatches tm n) = true) ∧
      toleratesTaints (t.tolerations ++ standardTolerations) n.taints = true := by
  unfold fit checkNodeSelector
  cases t.affRequired <;> simp [and_assoc]

/-- the key node names, in order. -/
theorem C01_key_names :
    (filterAndMap released t nodes pods ignore).byNode.map (·.1.node.name) = candNames t nodes ignore := by
  rw [candNames, ← C01_byNode_nodes released t nodes pods ignore, List.map_map]
  rfl

/-- distinct node names give distinct keys. -/
theorem C01_keys_nodup (hn : (nodes.map (·.node.name)).Nodup) :
    ((filterAndMap released t nodes pods ignore).byNode.map (·.1.node.name)).Nodup := by
  rw [C01_key_names]
  exact (List.filter_sublist.map _).nodup hn

/-! ### 6. a node without kept pod carries only Unknown pods and Failed pods being deleted -/

theorem C01_kept_none (ni : NodeItem)
    (h : (ni, none) ∈ (filterAndMap released t nodes pods ignore).byNode) :
    ∀ p ∈ pods, p.nodeOf = some ni.node.name →
      p.phase = "Unknown" ∨
      (p.phase = "Failed" ∧ p ∈ (filterAndMap released t nodes pods ignore).toDelete) := by
  intro p hp hn
  obtain ⟨_, e, he, h1, h2⟩ := byNode_none h
  by_cases hu : p.phase = "Unknown"
  · exact Or.inl hu
  · right
    rcases (scanFinal_inv released t nodes pods ignore).attComplete e he p hp (h1 ▸ hn) hu with h3 | ⟨h3, h4⟩
    · rw [h2] at h3; cases h3
    · exact ⟨h3, mem_filter_toDelete.mpr (Or.inl h4)⟩

/-- … and such a deleted Failed pod exists only when the node was out of back-off. -/
theorem C01_kept_none_released (ni : NodeItem)
    (h : (ni, none) ∈ (filterAndMap released t nodes pods ignore).byNode)
    (p : Pod) (hp : p ∈ pods) (hn : p.nodeOf = some ni.node.name) (hu : p.phase ≠ "Unknown") :
    released ni.node.name = true := by
  have inv := scanFinal_inv released t nodes pods ignore
  obtain ⟨hc, e, he, h1, h2⟩ := byNode_none h
  rcases inv.attComplete e he p hp (h1 ▸ hn) hu with h3 | ⟨_, h4⟩
  · rw [h2] at h3; cases h3
  · obtain ⟨_, _, n, hn', hc'⟩ := inv.delSound p h4
    obtain rfl : n = ni.node.name := Option.some.inj (hn'.symm.trans hn)
    rcases hc' with ⟨_, _, hr⟩ | ⟨hnk, _⟩
    · exact hr
    · exact absurd (List.mem_map.mpr ⟨ni, hc, rfl⟩) hnk

/-! ### 7. duplicate resolution -/

theorem C01_dup_resolution (ni : NodeItem) (k : Pod)
    (h : (ni, some k) ∈ (filterAndMap released t nodes pods ignore).byNode) :
    k ∈ pods ∧ k.nodeOf = some ni.node.name ∧ k.phase ≠ "Unknown" ∧
    ∀ q ∈ pods, q.nodeOf = some ni.node.name → q.phase ≠ "Unknown" → q ≠ k →
      q ∈ (filterAndMap released t nodes pods ignore).toDelete ∧
      (q.phase ≠ "Failed" → podLess q k = false) := by
  have inv := scanFinal_inv released t nodes pods ignore
  obtain ⟨e, he, tl, h1, hs, hke⟩ := byNode_some h
  obtain ⟨a, b, c⟩ := inv.attSound e he k hke
  refine ⟨a, h1 ▸ b, c, ?_⟩
  intro q hq hqn hqu hne
  rcases inv.attComplete e he q hq (h1 ▸ hqn) hqu with h3 | ⟨h3, h4⟩
  · constructor
    · have : q ∈ sortPods e.2 := mem_sortPods.mpr h3
      rw [hs] at this
      rcases List.mem_cons.mp this with h5 | h5
      · exact absurd h5 hne
      · exact mem_filter_toDelete.mpr (Or.inr ⟨e, he, by rw [hs]; exact h5⟩)
    · intro _
      exact sortPods_head_min e.2 k tl hs q h3
  · exact ⟨mem_filter_toDelete.mpr (Or.inl h4), fun hf => absurd h3 hf⟩

/-- with distinct pod names the kept pod is strictly first among the non-Failed pods of the node. -/
theorem C01_dup_resolution_strict (hpn : (pods.map (·.name)).Nodup) (ni : NodeItem) (k : Pod)
    (h : (ni, some k) ∈ (filterAndMap released t nodes pods ignore).byNode) :
    ∀ q ∈ pods, q.nodeOf = some ni.node.name → q.phase ≠ "Unknown" → q ≠ k → q.phase ≠ "Failed" →
      podLess k q = true := by
  obtain ⟨hk, _, _, hall⟩ := C01_dup_resolution released t nodes pods ignore ni k h
  intro q hq hqn hqu hne hf
  exact podLess_total q k (fun hnm => hne (eq_of_nodup_map _ hpn hq hk hnm)) ((hall q hq hqn hqu hne).2 hf)

/-! ### 8. pods on nodes that are not keys -/

theorem C01_ineligible_deleted (p : Pod) (n : String) (hp : p ∈ pods) (hn : p.nodeOf = some n)
    (hu : p.phase ≠ "Unknown") (hd : p.deletion = none)
    (hk : n ∉ (filterAndMap released t nodes pods ignore).byNode.map (·.1.node.name))
    (hi : ignore.contains n = false) :
    p ∈ (filterAndMap released t nodes pods ignore).toDelete := by
  rw [C01_key_names] at hk
  exact mem_filter_toDelete.mpr
    (Or.inl ((scanFinal_inv released t nodes pods ignore).strayComplete p hp n hn hk hu hi hd))

/-- pods on ignored, non-key nodes and pods without node binding are left alone. -/
theorem C01_ignored_kept (p : Pod) (h : p ∈ (filterAndMap released t nodes pods ignore).toDelete) :
    p ∈ pods ∧ p.phase ≠ "Unknown" ∧ ∃ n, p.nodeOf = some n ∧
      (n ∈ (filterAndMap released t nodes pods ignore).byNode.map (·.1.node.name) ∨
       (ignore.contains n = false ∧ p.deletion = none)) := by
  have inv := scanFinal_inv released t nodes pods ignore
  rw [C01_key_names]
  rcases mem_filter_toDelete.mp h with h | ⟨e, he, h⟩
  · obtain ⟨a, b, m, hm, hc⟩ := inv.delSound p h
    refine ⟨a, b, m, hm, ?_⟩
    rcases hc with ⟨hc, _⟩ | ⟨_, hc⟩
    · exact Or.inl hc
    · exact Or.inr hc
  · obtain ⟨a, b, c⟩ := inv.attSound e he p (mem_sortPods.mp (List.mem_of_mem_drop h))
    refine ⟨a, c, e.1, b, Or.inl ?_⟩
    rw [← inv.keys]
    exact List.mem_map.mpr ⟨e, he, rfl⟩

/-- a pod bound to a node that is not a key is left alone when the node is ignored or the pod is already
terminating. -/
theorem C01_stray_kept (p : Pod) (n : String) (hn : p.nodeOf = some n)
    (hk : n ∉ (filterAndMap released t nodes pods ignore).byNode.map (·.1.node.name))
    (h : ignore.contains n = true ∨ p.deletion ≠ none) :
    p ∉ (filterAndMap released t nodes pods ignore).toDelete := by
  intro hd
  obtain ⟨_, _, m, hm, h'⟩ := C01_ignored_kept released t nodes pods ignore p hd
  obtain rfl : m = n := Option.some.inj (hm.symm.trans hn)
  rcases h' with h' | ⟨hi, hdel⟩
  · exact hk h'
  · rcases h with h | h
    · rw [hi] at h; cases h
    · exact h hdel

theorem C01_ineligible_terminating_kept (p : Pod) (n : String) (hn : p.nodeOf = some n)
    (hd : p.deletion ≠ none)
    (hk : n ∉ (filterAndMap released t nodes pods ignore).byNode.map (·.1.node.name)) :
    p ∉ (filterAndMap released t nodes pods ignore).toDelete :=
  C01_stray_kept released t nodes pods ignore p n hn hk (Or.inr hd)

/-! ### 2. Unknown-phase pods are never touched -/

theorem C01_unknown_untouched (p : Pod) (hp : p.phase = "Unknown") :
    p ∉ (filterAndMap released t nodes pods ignore).toDelete ∧
    ∀ ni, (ni, some p) ∉ (filterAndMap released t nodes pods ignore).byNode := by
  refine ⟨fun h => (C01_ignored_kept released t nodes pods ignore p h).2.1 hp, fun ni h => ?_⟩
  obtain ⟨e, he, _, _, _, hpe⟩ := byNode_some h
  exact ((scanFinal_inv released t nodes pods ignore).attSound e he p hpe).2.2 hp

/-! ### 9. the decidable specification `Spec.C01.holds` -/

section
open Spec.C01
/-- with distinct node names and no pod listed twice, the kept pod is not deleted. -/
theorem C01_kept_not_deleted (hn : (nodes.map (·.node.name)).Nodup) (hp : pods.Nodup)
    (ni : NodeItem) (k : Pod) (h : (ni, some k) ∈ (filterAndMap released t nodes pods ignore).byNode) :
    k ∉ (filterAndMap released t nodes pods ignore).toDelete := by
  have inv := scanFinal_inv released t nodes pods ignore
  obtain ⟨e, he, tl, h1, hs, hke⟩ := byNode_some h
  intro hd
  rcases mem_filter_toDelete.mp hd with hd | ⟨e', he', hd⟩
  · exact inv.disj hp k hd e he hke
  · have hke' : k ∈ e'.2 := mem_sortPods.mp (List.mem_of_mem_drop hd)
    have hkeys : ((scanFinal released t nodes pods ignore).attached.map (·.1)).Nodup :=
      inv.keys ▸ (List.filter_sublist.map _).nodup hn
    obtain rfl : e' = e := eq_of_nodup_map _ hkeys he' he
      (Option.some.inj ((inv.attSound e' he' k hke').2.1.symm.trans (inv.attSound e he k hke).2.1))
    have hnd : (sortPods e'.2).Nodup :=
      (sortPods_perm e'.2).nodup_iff.mpr (List.Nodup.sublist (inv.attSub e' he') hp)
    rw [hs] at hnd hd
    exact (List.nodup_cons.mp hnd).1 (by simpa using hd)

theorem C01_holds (hn : (nodes.map (·.node.name)).Nodup) (hp : (pods.map (·.name)).Nodup) :
    Spec.C01.holds t nodes ignore pods
      ((filterAndMap released t nodes pods ignore).byNode.map (fun e => (e.1.node.name, e.2.map (·.name))))
      ((filterAndMap released t nodes pods ignore).toDelete.map (·.name)) = true := by
  have hpn : pods.Nodup := nodup_of_nodup_map _ hp
  have hsub : ∀ q ∈ (filterAndMap released t nodes pods ignore).toDelete, q ∈ pods :=
    fun q hq => (C01_ignored_kept released t nodes pods ignore q hq).1
  have hkn := C01_key_names released t nodes pods ignore
  -- with distinct pod names, deletion by name is deletion of the pod
  have hin : ∀ {p : Pod}, p ∈ pods → p ∈ (filterAndMap released t nodes pods ignore).toDelete →
      ((filterAndMap released t nodes pods ignore).toDelete.map (·.name)).contains p.name = true :=
    fun hm h => (names_contains_iff hp hsub hm).mpr h
  have hout : ∀ {p : Pod}, p ∈ pods → p ∉ (filterAndMap released t nodes pods ignore).toDelete →
      ((filterAndMap released t nodes pods ignore).toDelete.map (·.name)).contains p.name = false :=
    fun hm h => Bool.eq_false_iff.mpr (fun hc => h ((names_contains_iff hp hsub hm).mp hc))
  unfold holds
  simp only [Bool.and_eq_true]
  refine ⟨⟨⟨?_, ?_⟩, ?_⟩, ?_⟩
  · -- keysOk
    unfold keysOk
    simp only [Bool.and_eq_true, List.all_eq_true]
    constructor
    · intro e he
      obtain ⟨⟨ni, o⟩, hm, rfl⟩ := List.mem_map.mp he
      rw [eligible_iff, ← hkn]
      exact List.mem_map.mpr ⟨(ni, o), hm, rfl⟩
    · intro ni _
      cases hel : eligible t nodes ignore ni.node.name with
      | false => rfl
      | true =>
        rw [eligible_iff, ← hkn] at hel
        obtain ⟨e, he, hen⟩ := List.mem_map.mp hel
        simp only [Bool.not_true, Bool.false_or, List.any_eq_true, beq_iff_eq]
        exact ⟨_, List.mem_map.mpr ⟨e, he, rfl⟩, hen⟩
  · -- dupOk
    unfold dupOk
    simp only [List.all_eq_true]
    intro e he
    obtain ⟨⟨ni, o⟩, hm, rfl⟩ := List.mem_map.mp he
    cases o with
    | none =>
      simp only [Option.map_none, List.all_eq_true, Spec.C01.candidates, List.mem_filter, Bool.and_eq_true,
        beq_iff_eq, bne_iff_ne, ne_eq]
      rintro q ⟨hq, hqn, hqu⟩
      rcases C01_kept_none released t nodes pods ignore ni hm q hq hqn with h | ⟨h1, h2⟩
      · exact absurd h hqu
      · exact ⟨h1, hin hq h2⟩
    | some k =>
      obtain ⟨hk, hkn', hku, hall⟩ := C01_dup_resolution released t nodes pods ignore ni k hm
      simp only [Option.map_some, findPod_of_mem hp hk, Bool.and_eq_true, List.all_eq_true,
        Spec.C01.candidates, List.mem_filter, beq_iff_eq, bne_iff_ne, ne_eq, Bool.or_eq_true,
        Bool.not_eq_true']
      refine ⟨⟨⟨⟨hkn', hku⟩, hout hk (C01_kept_not_deleted released t nodes pods ignore hn hpn ni k hm)⟩, ?_⟩, ?_⟩
      · rintro q ⟨hq, hqn, hqu⟩
        by_cases hqk : q = k
        · exact Or.inl (by rw [hqk])
        · exact Or.inr (hin hq (hall q hq hqn hqu hqk).1)
      · rintro q ⟨hq, hqn, hqu⟩
        by_cases hqk : q = k
        · exact Or.inl (Or.inl (by rw [hqk]))
        · by_cases hf : q.phase = "Failed"
          · exact Or.inl (Or.inr hf)
          · exact Or.inr (C01_dup_resolution_strict released t nodes pods ignore hp ni k hm q hq hqn hqu hqk hf)
  · -- strayOk
    unfold strayOk
    simp only [List.all_eq_true]
    intro p hpm
    cases hno : p.nodeOf with
    | none =>
      -- a deleted pod is attached to a node
      have := hout hpm (fun h => by
        obtain ⟨_, _, n, hn', _⟩ := C01_ignored_kept released t nodes pods ignore p h
        rw [hno] at hn'; cases hn')
      simp only [this, Bool.not_false]
    | some n =>
      dsimp only
      by_cases hel : eligible t nodes ignore n = true
      · rw [if_pos hel]
      rw [if_neg hel]
      have hnk : n ∉ (filterAndMap released t nodes pods ignore).byNode.map (·.1.node.name) := by
        rw [hkn, ← eligible_iff]; exact hel
      by_cases hu : (p.phase == "Unknown") = true
      · rw [if_pos hu, hout hpm (C01_unknown_untouched released t nodes pods ignore p (beq_iff_eq.mp hu)).1]
        rfl
      rw [if_neg hu]
      by_cases hi : ignore.contains n = true
      · -- a deleted pod off the keys sits on a node that is not ignored
        rw [if_pos hi, hout hpm (C01_stray_kept released t nodes pods ignore p n hno hnk (Or.inl hi))]
        rfl
      rw [if_neg hi]
      cases hd : p.deletion with
      | none =>
        rw [hin hpm (C01_ineligible_deleted released t nodes pods ignore p n hpm hno
          (fun h => hu (beq_iff_eq.mpr h)) hd hnk ((Bool.not_eq_true _).mp hi))]
        rfl
      | some d =>
        rw [hout hpm (C01_stray_kept released t nodes pods ignore p n hno hnk (Or.inr (by rw [hd]; simp)))]
        rfl
  · -- unknownUntouched
    unfold unknownUntouched
    simp only [List.all_eq_true]
    intro p hpm
    by_cases hu : p.phase = "Unknown"
    · obtain ⟨h1, h2⟩ := C01_unknown_untouched released t nodes pods ignore p hu
      simp only [hout hpm h1, Bool.or_eq_true, Bool.and_eq_true, Bool.not_eq_true', List.any_eq_false]
      refine Or.inr ⟨trivial, fun e he => ?_⟩
      obtain ⟨⟨ni, o⟩, hm, rfl⟩ := List.mem_map.mp he
      cases o with
      | none => simp
      | some k =>
        simp only [Option.map_some, beq_iff_eq, Option.some.injEq]
        intro hkp
        obtain rfl := eq_of_nodup_map _ hp (C01_dup_resolution released t nodes pods ignore ni k hm).1 hpm hkp
        exact h2 ni hm
    · simp [hu]

end

end Filter

/-! ### 3. the unknown role creates and deletes nothing -/

theorem C01_unknown_role_creates_nothing (p : StratParams) (wall : Time) :
    (manageUnknown p wall).createE = [] ∧ (manageUnknown p wall).deleteE = [] :=
  ⟨rfl, rfl⟩

/-! ### 4. the active role creates only on entries without pod, once per node -/

/-- the active role creates on some of the targeted entries without pod, in their order. -/
theorem manageDeployment_createE (p : StratParams) (now wall : Time) (cf : Bool) (r : StratResult)
    (h : manageDeployment p now wall cf = .ok r) : r.createE.Sublist (noneNodes (targeted p)) := by
  obtain ⟨ms, mu, mc, _, _, _, hc, _⟩ := manageDeployment_plan p now wall cf r h
  rw [hc, ← countAll_toCreate p.ers.templateGeneration wall]
  exact rollingPlan_create_sublist _ _ ms mu mc _ _

theorem C01_create_only_empty (p : StratParams) (now wall : Time) (cf : Bool) (r : StratResult)
    (h : manageDeployment p now wall cf = .ok r) :
    ∀ ni ∈ r.createE, (ni, none) ∈ targeted p :=
  fun _ hni => mem_noneNodes.mp ((manageDeployment_createE p now wall cf r h).subset hni)

/-- … in particular on a node of the per-node map that is not a canary node. -/
theorem C01_create_only_empty_byNode (p : StratParams) (now wall : Time) (cf : Bool) (r : StratResult)
    (h : manageDeployment p now wall cf = .ok r) :
    ∀ ni ∈ r.createE, (ni, none) ∈ p.byNode ∧ p.canaryNodes.contains ni.node.name = false := by
  intro ni hni
  have := C01_create_only_empty p now wall cf r h ni hni
  simp only [targeted, dropCanaryNodes, List.mem_filter] at this
  exact ⟨this.1, by simpa using this.2⟩

theorem C01_create_nodup (p : StratParams) (now wall : Time) (cf : Bool) (r : StratResult)
    (h : manageDeployment p now wall cf = .ok r) (hn : (p.byNode.map (·.1.node.name)).Nodup) :
    (r.createE.map (·.node.name)).Nodup :=
  ((((manageDeployment_createE p now wall cf r h).map _).trans (noneNodes_names_sublist (targeted p))).trans
    (List.filter_sublist.map _)).nodup hn

/-! ### 5. the canary role creates only on canary nodes whose entry has no pod, once per node -/

/-- the canary role creates on all the creation candidates of its scan, or on none. -/
theorem manageCanaryStatus_createE (p : StratParams) (now : Time) (r : StratResult)
    (h : manageCanaryStatus p now = some r) :
    r.createE.Sublist (p.canaryNodes.foldl (canaryScanStep p.ers.templateGeneration p.byNode) {}).toCreate := by
  unfold manageCanaryStatus at h
  simp only [] at h
  split at h
  · cases h
  · injection h with h
    subst h
    split
    · exact List.Sublist.refl _
    · exact List.nil_sublist _

theorem C01_canary_create_only_empty (p : StratParams) (now : Time) (r : StratResult)
    (h : manageCanaryStatus p now = some r) :
    ∀ ni ∈ r.createE, (ni, none) ∈ p.byNode ∧ ni.node.name ∈ p.canaryNodes :=
  fun ni hni => (canaryScan_createInv p.ers.templateGeneration p.byNode p.canaryNodes).mem ni
    ((manageCanaryStatus_createE p now r h).subset hni)

theorem C01_canary_create_nodup (p : StratParams) (now : Time) (r : StratResult)
    (h : manageCanaryStatus p now = some r) (hn : p.canaryNodes.Nodup) :
    (r.createE.map (·.node.name)).Nodup :=
  (((manageCanaryStatus_createE p now r h).map _).trans
    (canaryScan_createInv p.ers.templateGeneration p.byNode p.canaryNodes).sub).nodup hn

/-- The two roles never create on the same node in one sync: the active role skips the canary nodes,
the canary role creates only on them. -/
theorem C01_roles_disjoint (pa pc : StratParams) (now wall : Time) (cf : Bool) (ra rc : StratResult)
    (hc : pa.canaryNodes = pc.canaryNodes)
    (ha : manageDeployment pa now wall cf = .ok ra) (hcs : manageCanaryStatus pc now = some rc) :
    ∀ ni ∈ ra.createE, ∀ nj ∈ rc.createE, ni.node.name ≠ nj.node.name := by
  intro ni hni nj hnj heq
  have h1 := (C01_create_only_empty_byNode pa now wall cf ra ha ni hni).2
  have h2 := (C01_canary_create_only_empty pc now rc hcs nj hnj).2
  rw [hc, heq] at h1
  have : pc.canaryNodes.contains nj.node.name = true := List.contains_iff_mem.mpr h2
  rw [h1] at this; cases this

/-! ### End to end: filter + role.  A creation happens only on an eligible node that carries nothing
but Unknown pods and Failed pods deleted in the same sync; at most one creation per node. -/

section EndToEnd
variable (released : String → Bool) (t : Template) (nodes : List NodeItem) (pods : List Pod)
  (ignore : List String)

/-- a node of the per-node map without kept pod is eligible, and every listed pod on it is Unknown, or
Failed and deleted in the same sync. -/
theorem C01_none_sound (ni : NodeItem) (hm : (ni, none) ∈ (filterAndMap released t nodes pods ignore).byNode) :
    ni ∈ nodes ∧ ignore.contains ni.node.name = false ∧ fit t ni.node = true ∧
    ∀ q ∈ pods, q.nodeOf = some ni.node.name →
      q.phase = "Unknown" ∨
      (q.phase = "Failed" ∧ q ∈ (filterAndMap released t nodes pods ignore).toDelete) :=
  have hk := (C01_keys released t nodes pods ignore ni).mp (List.mem_map.mpr ⟨_, hm, rfl⟩)
  ⟨hk.1, hk.2.1, hk.2.2, C01_kept_none released t nodes pods ignore ni hm⟩

theorem C01_creation_sound (sp : StratParams) (now wall : Time) (cf : Bool) (r : StratResult)
    (hb : sp.byNode = (filterAndMap released t nodes pods ignore).byNode)
    (h : manageDeployment sp now wall cf = .ok r) :
    ∀ ni ∈ r.createE,
      ni ∈ nodes ∧ ignore.contains ni.node.name = false ∧ fit t ni.node = true ∧
      ∀ q ∈ pods, q.nodeOf = some ni.node.name →
        q.phase = "Unknown" ∨
        (q.phase = "Failed" ∧ q ∈ (filterAndMap released t nodes pods ignore).toDelete) :=
  fun ni hni => C01_none_sound released t nodes pods ignore ni
    (hb ▸ (C01_create_only_empty_byNode sp now wall cf r h ni hni).1)

theorem C01_creation_once (sp : StratParams) (now wall : Time) (cf : Bool) (r : StratResult)
    (hb : sp.byNode = (filterAndMap released t nodes pods ignore).byNode)
    (hn : (nodes.map (·.node.name)).Nodup)
    (h : manageDeployment sp now wall cf = .ok r) :
    (r.createE.map (·.node.name)).Nodup :=
  C01_create_nodup sp now wall cf r h (by rw [hb]; exact C01_keys_nodup released t nodes pods ignore hn)

theorem C01_canary_creation_sound (sp : StratParams) (now : Time) (r : StratResult)
    (hb : sp.byNode = (filterAndMap released t nodes pods ignore).byNode)
    (h : manageCanaryStatus sp now = some r) :
    ∀ ni ∈ r.createE,
      ni ∈ nodes ∧ ignore.contains ni.node.name = false ∧ fit t ni.node = true ∧
      ∀ q ∈ pods, q.nodeOf = some ni.node.name →
        q.phase = "Unknown" ∨
        (q.phase = "Failed" ∧ q ∈ (filterAndMap released t nodes pods ignore).toDelete) :=
  fun ni hni => C01_none_sound released t nodes pods ignore ni
    (hb ▸ (C01_canary_create_only_empty sp now r h ni hni).1)

end EndToEnd

/-! ### Non-vacuity.  Four nodes: `n1`, `n2` fit; `n3` carries an untolerated NoSchedule taint; `n4` is
on the ignore list.  `n1` holds three pods (two scheduled, one bound only by affinity), `n2` a Failed
and an Unknown pod, `n3` a running and a terminating pod, `n4` a running pod.  Every node is out of
back-off (`released = fun _ => true`). -/

def exNode01 (n : String) (taints : List Taint := []) : NodeItem :=
  { node := { name := n, labels := [], annotations := [], taints := taints }, setting := none }

/-- a pod bound to node `n` through `spec.nodeName` (`sched = true`) or only through the node-name
affinity (`sched = false`). -/
def exPod01 (name n : String) (sched : Bool) (creation : Time) (phase : String := "Running")
    (deletion : Option Time := none) : Pod :=
  { name := name, ns := "d", labels := [], annotations := [], owners := [],
    creation := creation, deletion := deletion, gracePeriod := none,
    nodeName := if sched then n else "", affOther := "",
    affRequired := some [{ exprs := [], fields := [{ key := "metadata.name", op := "In", values := [n] }] }],
    tolerations := [], containers := [], phase := phase, startTime := none, conds := [], cstats := [] }

def exTemplate01 : Template :=
  { labels := [], annotations := [], nodeSelector := [], affOther := "", affRequired := none,
    tolerations := [], containers := [] }

def exNodes01 : List NodeItem :=
  [exNode01 "n1", exNode01 "n2", exNode01 "n3" [⟨"dedicated", "db", "NoSchedule"⟩], exNode01 "n4"]

def exPods01 : List Pod :=
  [ exPod01 "p1" "n1" true 5, exPod01 "p0" "n1" true 3, exPod01 "pu" "n1" false 1,
    exPod01 "f2" "n2" true 2 "Failed", exPod01 "u2" "n2" true 2 "Unknown",
    exPod01 "s3" "n3" true 2, exPod01 "s3t" "n3" true 2 "Running" (some 9),
    exPod01 "i4" "n4" true 2 ]

def exOut01 : FilterOut := filterAndMap (fun _ => true) exTemplate01 exNodes01 exPods01 ["n4"]

/-- keys = fit, non-ignored nodes; on `n1` the older scheduled pod `p0` is kept; `n2` has no kept pod. -/
example : exOut01.byNode.map (fun e => (e.1.node.name, e.2.map (·.name))) =
    [("n1", some "p0"), ("n2", none)] := by decide +kernel
/-- deleted: the released Failed pod of `n2`, the stray pod of unfit `n3` (not the terminating one, not
the pod of ignored `n4`, not the Unknown one), and the two duplicates of `n1`. -/
example : exOut01.toDelete.map (·.name) = ["f2", "s3", "p1", "pu"] := by decide +kernel
/-- the hypotheses of `C01_holds` are satisfiable and the specification evaluates to true here. -/
example : (exNodes01.map (·.node.name)).Nodup ∧ (exPods01.map (·.name)).Nodup := by decide +kernel
example : Spec.C01.holds exTemplate01 exNodes01 ["n4"] exPods01
    (exOut01.byNode.map (fun e => (e.1.node.name, e.2.map (·.name))))
    (exOut01.toDelete.map (·.name)) = true := by decide +kernel
/-- while `n2` is in back-off the Failed pod stays (and is kept), so nothing is created there. -/
example : (filterAndMap (fun _ => false) exTemplate01 exNodes01 exPods01 ["n4"]).byNode.map
    (fun e => (e.1.node.name, e.2.map (·.name))) = [("n1", some "p0"), ("n2", some "f2")] := by decide +kernel

def exParams01 (canaryNodes : List String) : StratParams :=
  { edsName := "d", edsAnnotations := [],
    strategy := { rollingUpdate := { maxUnavailable := some ⟨"int", 1⟩, maxPodSchedulerFailure := some ⟨"int", 0⟩,
                                      maxParallelPodCreation := some 250, slowStartInterval := some minute,
                                      slowStartAdditiveIncrease := some ⟨"int", 5⟩ },
                  canary := some { replicas := some ⟨"int", 1⟩, duration := some (10 * minute), nodeSelector := none,
                                   antiAffinityKeys := [],
                                   autoPause := some { enabled := some true, maxRestarts := some 2,
                                                       maxSlowStartDuration := none },
                                   autoFail := some { enabled := some true, maxRestarts := some 5,
                                                      maxRestartsDuration := none, canaryTimeout := none },
                                   noRestartsDuration := none, validationMode := "auto" },
                  reconcileFrequency := some (10 * sec) },
    ers := { name := "d-new", ns := "d", uid := "u", labels := [], annotations := [], creation := 0, deleted := false,
             ownerEds := some "d", selector := none, templateGeneration := "new",
             template := exTemplate01,
             status := { status := "", desired := 0, current := 0, ready := 0, available := 0, ignored := 0, conds := [] } },
    newStatus := { status := "", desired := 0, current := 0, ready := 0, available := 0, ignored := 0, conds := [] },
    canaryNodes := canaryNodes,
    byNode := exOut01.byNode, toCleanUp := exOut01.toDelete, unscheduled := exOut01.unscheduled }

/-- the active role then creates a pod on `n2` (whose Failed pod is deleted in the same sync) … -/
example : ∃ r, manageDeployment (exParams01 []) 100 100 false = .ok r ∧ r.podsToCreate = ["n2"] ∧
    r.cleanupDeletes = ["f2", "s3", "p1", "pu"] := by
  refine ⟨_, rfl, ?_, ?_⟩ <;> decide +kernel
/-- … and so does the canary role when `n2` is a canary node (the active role then leaves it alone). -/
example : (manageCanaryStatus (exParams01 ["n2"]) 100).map (·.podsToCreate) = some ["n2"] := by decide +kernel
example : ∃ r, manageDeployment (exParams01 ["n2"]) 100 100 false = .ok r ∧ r.podsToCreate = [] := by
  refine ⟨_, rfl, ?_⟩; decide +kernel

/-- the `Nodup` hypotheses of `C01_create_nodup` / `C01_canary_create_nodup` are needed: a node listed
twice (resp. a canary node name listed twice) gets two creations in the model. -/
example : ∃ r, manageDeployment { exParams01 [] with byNode := [(exNode01 "n2", none), (exNode01 "n2", none)] }
    100 100 false = .ok r ∧ r.podsToCreate = ["n2", "n2"] := by
  refine ⟨_, rfl, ?_⟩; decide +kernel
example : (manageCanaryStatus (exParams01 ["n2", "n2"]) 100).map (·.podsToCreate) = some ["n2", "n2"] := by
  decide +kernel

end Eds
