import EdsModel.Generated.Facts
import EdsProofs.Conc
/-
  C17 — Concurrent reconciles and parallel pod operations are race free, lose no error.

  What a Lean model can carry: the synchronisation skeleton of the three parallel helpers under a
  sequentially consistent interleaving semantics (EdsModel/Conc.lean), with the discipline of each
  helper taken from the facts extracted from the source.  Data-race freedom of the compiled program
  under the Go memory model is a runtime fact: the race-detector run of the harness is supporting
  evidence (partial by nature, DESIGN.md §11).
-/
namespace Eds
open Conc Generated

/-- **No conflicting access** (obligation on the extracted facts): every write to a variable
shared between goroutines of the parallel helpers is a channel send or an append under a lock. -/
theorem C17_no_conflict :
    Facts.goroutineWrites.all (fun w => w.2.2.2 == "chan-send" || w.2.2.2 == "locked-append") = true := by
  decide +kernel

/-- the extractor still sees the helpers (a helper it silently stops seeing would weaken the
obligation above). -/
theorem C17_helpers_known :
    (Facts.goroutineWrites.map (fun w => w.2.1)).eraseDups = ["createPods", "deletePods", "deletePodSlice"] := by
  decide +kernel

/-! ### Fan-in completeness for the synchronised disciplines

All statements below are for EVERY number of goroutines `n`, EVERY failure predicate `fails` and
EVERY schedule `sched` (an arbitrary list of goroutine indices, repetitions / starvation / indices
of goroutines that do not exist included).  The invariants (`Conc.SafeInv`, `Conc.SyncInv`) and
their preservation by `step` are in EdsProofs/Conc.lean. -/

/-- **Channel fan-in is complete**: when every goroutine is done, the errors drained from the
channel are exactly the injected ones — none lost, none duplicated — for every interleaving. -/
theorem C17_channel_fanin_complete (n : Nat) (fails : Nat → Bool) (sched : List Nat) :
    finished (run .chan fails sched (init n)) = true →
    (run .chan fails sched (init n)).shared.Perm ((List.range n).filter fails) :=
  sync_complete (by decide) fails sched n

theorem C17_channel_count (n : Nat) (fails : Nat → Bool) (sched : List Nat) :
    finished (run .chan fails sched (init n)) = true →
    (run .chan fails sched (init n)).shared.length = nFails fails n :=
  fun h => (C17_channel_fanin_complete n fails sched h).length_eq

/-- **Append under the mutex is complete**: same statement for the `locked` discipline. -/
theorem C17_locked_append_complete (n : Nat) (fails : Nat → Bool) (sched : List Nat) :
    finished (run .locked fails sched (init n)) = true →
    (run .locked fails sched (init n)).shared.Perm ((List.range n).filter fails) :=
  sync_complete (by decide) fails sched n

theorem C17_locked_count (n : Nat) (fails : Nat → Bool) (sched : List Nat) :
    finished (run .locked fails sched (init n)) = true →
    (run .locked fails sched (init n)).shared.length = nFails fails n :=
  fun h => (C17_locked_append_complete n fails sched h).length_eq

/-- **Safety at every intermediate point** of a synchronised helper (the run need not be
finished): the collected list is duplicate free and only holds ids of failing goroutines. -/
theorem C17_sync_prefix_safe (d : Discipline) (_hd : d = .chan ∨ d = .locked) (n : Nat)
    (fails : Nat → Bool) (sched : List Nat) :
    (run d fails sched (init n)).shared.Nodup ∧
    ∀ i ∈ (run d fails sched (init n)).shared, i < n ∧ fails i = true :=
  safe_run d fails sched n

/-- the classic lost update: both goroutines fail, both read the empty slice, both write back
"what I read ++ my error" — two failures, ONE returned error. -/
def lostUpdateSchedule : List Nat := [0, 1, 0, 1, 0, 1]

/-- **An unsynchronised append loses errors**: there is an interleaving of two failing goroutines
after which the caller sees a single error. -/
theorem C17_unsynchronised_loses :
    ∃ sched, finished (run .racy (fun _ => true) sched (init 2)) = true ∧
      (run .racy (fun _ => true) sched (init 2)).shared.length = 1 :=
  ⟨lostUpdateSchedule, by decide +kernel⟩

/-- the surviving error is the one of the goroutine that wrote last. -/
example : (run .racy (fun _ => true) lostUpdateSchedule (init 2)).shared = [1] := by decide +kernel

/-- … but not when the goroutines happen to run one after the other. -/
theorem C17_unsynchronised_sequential_ok :
    finished (run .racy (fun _ => true) [0, 0, 0, 1, 1, 1] (init 2)) = true ∧
    (run .racy (fun _ => true) [0, 0, 0, 1, 1, 1] (init 2)).shared = [0, 1] := by decide +kernel

/-- **Errors can be lost, never invented**: even without synchronisation, at every point of every
interleaving the shared list is duplicate free, every id in it is a failing goroutine `< n`, and
(hence) it never holds more errors than were injected.  (Stronger than asked: no `finished`
hypothesis is needed for the length bound.) -/
theorem C17_racy_never_invents (n : Nat) (fails : Nat → Bool) (sched : List Nat) :
    (∀ i ∈ (run .racy fails sched (init n)).shared, i < n ∧ fails i = true) ∧
    (run .racy fails sched (init n)).shared.Nodup ∧
    (run .racy fails sched (init n)).shared.length ≤ nFails fails n :=
  ⟨(safe_run .racy fails sched n).2, (safe_run .racy fails sched n).1,
    shared_length_le .racy fails sched n⟩

/-- **The `finished` hypothesis is satisfiable for every `n`**: the round-robin schedule that runs
each goroutine three times in turn finishes, whatever the discipline and the failures. -/
theorem C17_progress (d : Discipline) (n : Nat) (fails : Nat → Bool) :
    finished (run d fails ((List.range n).flatMap (fun i => [i, i, i])) (init n)) = true :=
  roundRobin_finished d fails n

/-- … so for the synchronised disciplines that schedule returns exactly the injected errors. -/
theorem C17_roundRobin_complete (d : Discipline) (hd : d = .chan ∨ d = .locked) (n : Nat)
    (fails : Nat → Bool) :
    (run d fails ((List.range n).flatMap (fun i => [i, i, i])) (init n)).shared.Perm
      ((List.range n).filter fails) :=
  sync_complete (by rcases hd with rfl | rfl <;> decide) fails _ n (C17_progress d n fails)

end Eds
