import EdsModel
import EdsProofs.ReconcileEds
import EdsProofs.FactsBridge
/-
  C07 — A failed canary is rolled back to the active version.

  Setting: `u` is the up-to-date replica set (its hash annotation equals the hash of spec.template)
  and carries a true `Canary-Failed` condition; `a` is the replica set `status.activeReplicaSet`
  names; a canary strategy is set; the canary-valid annotation does not name `u`.

  * `C07_active_unchanged`          the failed canary is not promoted (neither by time nor otherwise);
  * `C07_rollback_status`           the status: no canary block, state `Canary Failed`, active = `a`,
                                    spec.template to be restored from `a`, no node selection error;
  * `C07_rollback_writes`           the writes `edsMain` plans: status update, then the spec update
                                    restoring `a`'s template;
  * `C07_recoverable`               the spec restore is planned again from ANY status that still names
                                    `a` as active — in particular from the status the first write
                                    leaves behind (`C07_recoverable_after_status_write`);
  * `C07_after_rollback_converged`  once spec.template is `a`'s again the canary is over;
  * `C07_retention`                 what `cleanupReplicaSet` may delete — a failed replica set is kept
                                    for two minutes after it failed (`C07_retention_is_two_minutes`
                                    ties the constant to the Go source).
-/
namespace Eds
open Generated

/-- **1. A failed canary is never promoted.** The selected ("current") replica set stays the recorded
active one: the time-based promotion is disabled by the failure, and no valid annotation names `u`. -/
theorem C07_active_unchanged (d : EDS) (list : List ERS) (u a : ERS) (c : Canary) (now : Time)
    (hc : d.strategy.canary = some c)
    (hact : lastWhere (fun e => e.name == d.status.activeReplicaSet) list = some a)
    (hf : isCanaryFailed (some u) = true)
    (hv : isCanaryValid d.annotations u.name = false) :
    (currentOf d list u now).1 = a := by
  unfold currentOf
  simp [hact, hc, selectCurrent, hf, hv]

/-- the same from distinct names. -/
theorem C07_active_unchanged_nodup (d : EDS) (list : List ERS) (u a : ERS) (c : Canary) (now : Time)
    (hc : d.strategy.canary = some c)
    (hnd : (list.map (·.name)).Nodup) (ha : a ∈ list) (hname : a.name = d.status.activeReplicaSet)
    (hf : isCanaryFailed (some u) = true)
    (hv : isCanaryValid d.annotations u.name = false) :
    (currentOf d list u now).1 = a :=
  C07_active_unchanged d list u a c now hc (lastWhere_name_of_nodup hnd ha _ hname) hf hv

/-- **2. The rollback status.** With `a` selected and `u` failed: the canary block is cleared, the
state is `Canary Failed`, `a` is (still) the active replica set, spec.template is to be restored from
`a`, the `Canary-Failed` condition of the daemonset is true, and no node selection is attempted
(so no selection error can block the rollback).  Holds whether or not `a.name = u.name`. -/
theorem C07_rollback_status (d : EDS) (a u : ERS) (c : Canary) (cur rdy avail : Int) (now : Time)
    (pods : List Pod) (nodes : List Node)
    (hc : d.strategy.canary = some c) (hf : isCanaryFailed (some u) = true) :
    let upd := updateInstance d a u cur rdy avail now pods nodes
    upd.status.canary = none ∧ upd.status.state = "Canary Failed" ∧ upd.status.reason = "" ∧
    upd.status.activeReplicaSet = a.name ∧
    upd.restoreFrom = some a ∧ upd.selectErr = false ∧
    upd.annotations = (clearCanaryAnnotations d.annotations).1 ∧
    isCondTrue upd.status.conds "Canary-Failed" = true ∧
    isCondTrue upd.status.conds "Canary-Paused" = false := by
  intro upd
  have h : upd = _ := updateInstance_failed d a u cur rdy avail now pods nodes c hc hf
  rw [h]
  refine ⟨rfl, rfl, rfl, rfl, rfl, rfl, rfl, ?_, ?_⟩
  · exact mcsc_failed _ _ true _ _ _
  · have := mcsc_paused d.status.conds now true (isCanaryPaused d.annotations (some u)).1
      (isCanaryPaused d.annotations (some u)).2 u.name
    simpa using this

/-- the counters of the rollback status are those of the active replica set alone (the failed
canary's pods are no longer counted as desired). -/
theorem C07_rollback_counters (d : EDS) (a u : ERS) (c : Canary) (cur rdy avail : Int) (now : Time)
    (pods : List Pod) (nodes : List Node)
    (hc : d.strategy.canary = some c) (hf : isCanaryFailed (some u) = true) :
    let upd := updateInstance d a u cur rdy avail now pods nodes
    upd.status.desired = a.status.desired ∧ upd.status.upToDate = a.status.current ∧
    upd.status.current = cur ∧ upd.status.ready = rdy ∧ upd.status.available = avail := by
  intro upd
  have h : upd = _ := updateInstance_failed d a u cur rdy avail now pods nodes c hc hf
  rw [h]
  exact ⟨rfl, rfl, rfl, rfl, rfl⟩

/-- **3. The rollback writes.** While spec.template is still the failed one
(`a.templateGeneration ≠ d.templateHash`), the reconcile writes the rollback status and then updates
the spec with `a`'s template (and the pause annotations cleared); it does not report an error. -/
theorem C07_rollback_writes (d : EDS) (list : List ERS) (u a : ERS) (c : Canary) (pods : List Pod)
    (nodes : List Node) (now : Time)
    (hc : d.strategy.canary = some c)
    (hact : lastWhere (fun e => e.name == d.status.activeReplicaSet) list = some a)
    (hf : isCanaryFailed (some u) = true)
    (hv : isCanaryValid d.annotations u.name = false)
    (htpl : a.templateGeneration ≠ d.templateHash) :
    let upd := edsUpd d list a u pods nodes now
    let w := edsMain d list u pods nodes now
    w.statusUpdate = some upd.status ∧
    w.specUpdate = some (a.templateGeneration, upd.annotations) ∧
    upd.annotations = (clearCanaryAnnotations d.annotations).1 ∧
    w.err = false ∧ w.created = none := by
  intro upd w
  have hcur : (currentOf d list u now).1 = a := C07_active_unchanged d list u a c now hc hact hf hv
  have hupd : upd = _ := updateInstance_failed d a u _ _ _ now (ownPods d pods) nodes c hc hf
  have hse : upd.selectErr = false := by rw [hupd]
  have hr : upd.restoreFrom = some a := by rw [hupd]
  have hann : upd.annotations = (clearCanaryAnnotations d.annotations).1 := by rw [hupd]
  have hres := edsMain_restore d list u pods nodes now a (by rw [hcur]; exact hse) (by rw [hcur]; exact hr) htpl
  rw [hcur] at hres
  refine ⟨hres.1, hres.2, hann, ?_, edsMain_created d list u pods nodes now⟩
  show (edsMain d list u pods nodes now).err = false
  rw [edsMain_err_iff, hcur]
  exact hse

/-- **4. The rollback is recoverable.** The planned spec restore does not depend on `d.status` beyond
`activeReplicaSet`: for ANY status `st'` that names `a` as active, the reconcile of
`{ d with status := st' }` plans the same spec write (restore `a`'s template, clear the pause
annotations).  So if the status write succeeded and the spec write failed — or the process stopped
between the two — the next reconcile issues the spec write again. -/
theorem C07_recoverable (d : EDS) (list : List ERS) (u a : ERS) (c : Canary) (pods : List Pod)
    (nodes : List Node) (now : Time) (st' : EDSStatus)
    (hc : d.strategy.canary = some c)
    (hact : lastWhere (fun e => e.name == st'.activeReplicaSet) list = some a)
    (hf : isCanaryFailed (some u) = true)
    (hv : isCanaryValid d.annotations u.name = false)
    (htpl : a.templateGeneration ≠ d.templateHash) :
    (edsMain { d with status := st' } list u pods nodes now).specUpdate =
      some (a.templateGeneration, (clearCanaryAnnotations d.annotations).1) ∧
    (edsMain { d with status := st' } list u pods nodes now).err = false := by
  have h := C07_rollback_writes { d with status := st' } list u a c pods nodes now hc hact hf hv htpl
  simp only [] at h
  obtain ⟨_, h2, h3, h4, _⟩ := h
  rw [h3] at h2
  exact ⟨h2, h4⟩

/-- … in particular from the state the first (status) write leaves behind, at any later time and
whatever the pods and nodes are then: the second reconcile plans the spec write again. -/
theorem C07_recoverable_after_status_write (d : EDS) (list : List ERS) (u a : ERS) (c : Canary)
    (pods pods' : List Pod) (nodes nodes' : List Node) (now now' : Time)
    (hc : d.strategy.canary = some c)
    (hnd : (list.map (·.name)).Nodup) (ha : a ∈ list) (hname : a.name = d.status.activeReplicaSet)
    (hf : isCanaryFailed (some u) = true)
    (hv : isCanaryValid d.annotations u.name = false)
    (htpl : a.templateGeneration ≠ d.templateHash)
    (st : EDSStatus) (hst : (edsMain d list u pods nodes now).statusUpdate = some st) :
    (edsMain { d with status := st } list u pods' nodes' now').specUpdate =
      some (a.templateGeneration, (clearCanaryAnnotations d.annotations).1) ∧
    (edsMain { d with status := st } list u pods' nodes' now').err = false := by
  have hcur := C07_active_unchanged_nodup d list u a c now hc hnd ha hname hf hv
  have h2 : a.name = st.activeReplicaSet := by rw [edsMain_statusUpdate_active hst, hcur]
  exact C07_recoverable d list u a c pods' nodes' now' st hc (lastWhere_name_of_nodup hnd ha _ h2) hf hv htpl

/-- the spec write is needed: without the restore the write would not be planned when nothing else
changed — the restore is what forces it (the `changed` flag includes "template differs"). Stated
positively: even if the status and the annotations are already up to date, the spec write happens. -/
theorem C07_spec_write_even_if_status_current (d : EDS) (list : List ERS) (u a : ERS) (c : Canary)
    (pods : List Pod) (nodes : List Node) (now : Time)
    (hc : d.strategy.canary = some c)
    (hact : lastWhere (fun e => e.name == d.status.activeReplicaSet) list = some a)
    (hf : isCanaryFailed (some u) = true)
    (hv : isCanaryValid d.annotations u.name = false)
    (htpl : a.templateGeneration ≠ d.templateHash)
    (_hsame : (edsUpd d list a u pods nodes now).status = d.status) :
    ((edsMain d list u pods nodes now).specUpdate.map (·.1)) = some a.templateGeneration := by
  have h := C07_rollback_writes d list u a c pods nodes now hc hact hf hv htpl
  simp only [] at h
  rw [h.2.1]; rfl

/-- **5. After the rollback.** Once spec.template is the active replica set's again the up-to-date
replica set IS the active one (`u := a`): it is selected, no canary is active, and — `a` itself not
being failed — the canary block is cleared and the state is the ordinary (non-canary) one. -/
theorem C07_after_rollback_converged (d : EDS) (list : List ERS) (a : ERS) (c : Canary)
    (cur rdy avail : Int) (now : Time) (pods : List Pod) (nodes : List Node)
    (hc : d.strategy.canary = some c)
    (hact : lastWhere (fun e => e.name == d.status.activeReplicaSet) list = some a)
    (hnf : isCanaryFailed (some a) = false) :
    (currentOf d list a now).1 = a ∧
    isCanaryActive d.strategy.canary a.name a.name (isCanaryFailed (some a)) = false ∧
    (let upd := updateInstance d a a cur rdy avail now pods nodes
     upd.status.canary = none ∧ upd.status.state = nonCanaryState d.annotations ∧
     upd.status.activeReplicaSet = a.name ∧ upd.restoreFrom = none ∧ upd.selectErr = false ∧
     isCondTrue upd.status.conds "Canary-Failed" = false) := by
  refine ⟨?_, ?_, ?_⟩
  · unfold currentOf
    simp only [hact]
    split
    · next heq => exact (Option.some.inj heq).symm
    · rfl
  · simp [isCanaryActive]
  · intro upd
    have h : upd = _ := updateInstance_idle d a a cur rdy avail now pods nodes c hc hnf rfl
    rw [h]
    refine ⟨rfl, rfl, rfl, rfl, rfl, ?_⟩
    exact mcsc_failed _ _ false _ _ _

/-- `upToDateOf` finds `a` once the spec holds its template again, provided `a` is the only listed
replica set with that hash annotation (C13: at most one replica set per template). -/
theorem C07_after_rollback_uptodate (d : EDS) (list : List ERS) (a : ERS) (ha : a ∈ list)
    (hhash : SMap.get? a.annotations K.templateHashAnnot = some d.templateHash)
    (huniq : ∀ e ∈ list, SMap.get? e.annotations K.templateHashAnnot = some d.templateHash → e = a) :
    upToDateOf d list = some a := by
  unfold upToDateOf
  apply lastWhere_eq_of_unique ha
  · simp [hhash]
  · intro x hx hp
    exact huniq x hx (by simpa using hp)

/-- **6. Retention.** A replica set `cleanupReplicaSet` deletes is a listed one that is neither the
current nor the up-to-date one, is not already being deleted, reports no pods at all, and — if it
carries a true `Canary-Failed` condition — failed at least two minutes ago. -/
theorem C07_retention (now : Time) (list : List ERS) (cur upName nm : String)
    (h : nm ∈ cleanupTargetsERS now list cur upName) :
    ∃ e ∈ list, e.name = nm ∧ nm ≠ cur ∧ nm ≠ upName ∧ e.deleted = false ∧
      e.status.available + e.status.current + e.status.desired + e.status.ready = 0 ∧
      (∀ c, findCond e.status.conds "Canary-Failed" = some c → c.status = "True" →
        now ≥ c.lastTransition + 2 * minute) :=
  mem_cleanupTargetsERS h

/-- hence the failed canary's replica set survives the two minutes after the failure (so that its
status, and the reason of the failure, remain readable). -/
theorem C07_failed_kept (now : Time) (list : List ERS) (cur upName : String) (e : ERS) (c : Cond)
    (hfc : findCond e.status.conds "Canary-Failed" = some c) (hs : c.status = "True")
    (hrecent : now < c.lastTransition + 2 * minute) (hnd : (list.map (·.name)).Nodup) (he : e ∈ list) :
    e.name ∉ cleanupTargetsERS now list cur upName := by
  intro h
  obtain ⟨e', he', hn, _, _, _, _, hret⟩ := C07_retention now list cur upName e.name h
  have : e' = e := eq_of_nodup_map (·.name) hnd he' he hn
  subst this
  have := hret c hfc hs
  omega

/-- the retention constant of the model is the one in the Go source of this run. -/
theorem C07_retention_is_two_minutes : Facts.failedErsRetention = 2 * minute := facts_times.1

/-- **7. Scope returns.** After the rollback the status names no canary (`status.canary = none`):
this is what the replica-set controller reads to decide that the former canary nodes belong to the
active replica set again. -/
theorem C07_canary_cleared (d : EDS) (a u : ERS) (c : Canary) (cur rdy avail : Int) (now : Time)
    (pods : List Pod) (nodes : List Node)
    (hc : d.strategy.canary = some c) (hf : isCanaryFailed (some u) = true) :
    (updateInstance d a u cur rdy avail now pods nodes).status.canary = none :=
  (C07_rollback_status d a u c cur rdy avail now pods nodes hc hf).1

end Eds

/-! ### Examples (non-vacuity; fixtures in `EdsProofs/ReconcileEds.lean`) -/
namespace Eds.ExReconcile

example : isDefaulted strategy "" = true ∧ validateSpec strategy = .ok := by decide +kernel

/- the hypotheses of `C07_rollback_writes` / `C07_recoverable_after_status_write` are satisfiable (here: `dCanary`, `store 1`) -/
example : dCanary.strategy.canary.isSome = true ∧
    upToDateOf dCanary (store 1) = some (rs "ds-b" "h2" 1 [failedCond]) ∧
    lastWhere (fun e => e.name == dCanary.status.activeReplicaSet) (store 1) = some (rs "ds-a" "h1" 3 []) ∧
    ((store 1).map (·.name)).Nodup ∧
    isCanaryFailed (some (rs "ds-b" "h2" 1 [failedCond])) = true ∧
    isCanaryValid dCanary.annotations "ds-b" = false ∧
    (rs "ds-a" "h1" 3 []).templateGeneration ≠ dCanary.templateHash := by decide +kernel

/- a failed canary is rolled back: status, then spec (template of `ds-a`), nothing deleted, no error -/
example : (reconcileEds dCanary (store 1) [] [] minute "auto").statusUpdate = some rolledBack := by decide +kernel
example : (reconcileEds dCanary (store 1) [] [] minute "auto").specUpdate = some ("h1", []) := by decide +kernel
example : (reconcileEds dCanary (store 1) [] [] minute "auto").deletedErs = [] ∧
          (reconcileEds dCanary (store 1) [] [] minute "auto").err = false := by decide +kernel
/- the status write landed, the spec write did not: the next reconcile plans the spec write again -/
example : (reconcileEds { dCanary with status := rolledBack } (store 1) [] [] (minute + sec) "auto").specUpdate
    = some ("h1", []) := by decide +kernel
/- the spec write landed (spec.template is `h1` again): `ds-a` is up to date and active, no canary -/
example : ((reconcileEds (eds "h1" [] rolledBack) (store 0) [] [] (minute + sec) "auto").statusUpdate.map
    (fun s => (s.state, s.canary, s.activeReplicaSet, isCondTrue s.conds "Canary-Failed")))
    = some ("Running", none, "ds-a", false) := by decide +kernel
example : (reconcileEds (eds "h1" [] rolledBack) (store 0) [] [] (minute + sec) "auto").specUpdate = none := by decide +kernel
/- retention: the drained failed replica set is kept for two minutes after the failure, then deleted -/
example : (reconcileEds (eds "h1" [] rolledBack) (store 0) [] [] (2 * minute - 1) "auto").deletedErs = [] := by decide +kernel
example : (reconcileEds (eds "h1" [] rolledBack) (store 0) [] [] (2 * minute) "auto").deletedErs = ["ds-b"] := by decide +kernel
/- … and not while it still reports a pod -/
example : (reconcileEds (eds "h1" [] rolledBack) (store 1) [] [] (3 * minute) "auto").deletedErs = [] := by decide +kernel

/- why `isCanaryValid … = false` is a hypothesis: an explicit validation promotes even a failed canary -/
example : (currentOf (eds "h2" [⟨K.canaryValidAnnot, "ds-b"⟩] (status "ds-a" none)) (store 1)
    (rs "ds-b" "h2" 1 [failedCond]) minute).1.name = "ds-b" := by decide +kernel

/- why `d.strategy.canary = some c` is a hypothesis of `C07_after_rollback_converged`: without a canary
strategy `updateInstance` does not touch the canary block of the status -/
example : (updateInstance { dCanary with strategy := { strategy with canary := none } }
    (rs "ds-a" "h1" 3 []) (rs "ds-a" "h1" 3 []) 3 3 3 minute [] []).status.canary = some ⟨"ds-b", ["n1"]⟩ := by decide +kernel

end Eds.ExReconcile
