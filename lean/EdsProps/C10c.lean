import EdsProofs.ReconcileErs
import EdsProps.C04
/-
  C10c — "a pod is never replaced spuriously", at the level of the whole sync.

  Subject: `reconcileErs` (EdsModel/ReconcileErs.lean), through the inversion `reconcileErs_cases`
  (EdsProofs/ReconcileErs.lean).  `deletes` is the list of pods deleted *for updating*; the clean-up
  deletions (`cleanupDeletes`: duplicates, pods on ineligible nodes, released Failed pods) are a
  different list and are not the subject of this file.

  Quantification: every replica set, store, back-off oracle `released`, affinity mode and instant; every
  outcome of the sync (owner not defaulted, LastFullSync gate, listing error, early error of
  ManageDeployment, deletion gate): the only assumptions are `ersOwner rs st = some d` and the role.

    `C10_sync_no_spurious_replace`         (active role)  every name in `deletes` is the name of the pod `p`
        of an entry `(ni, some p)` of `entries` (= the targeted, non-canary entries of the per-node map) with
        `comparePod rs.templateGeneration p ni = false`; moreover `p` is not terminating, has no scheduler
        issue, is a listed pod (`ersPods d st`) and is bound to `ni`.                       [full strength]
    `C10_sync_no_spurious_replace_canary`  (canary role)  every name in `deletes` is the name of the kept pod
        `p` of an entry `(ni, some p)` of the per-node map (`ersFilter … .byNode`) whose node is a canary node,
        with `comparePod … p ni = false`; `p` is not terminating, is listed and is bound to `ni`.
        (`entries` is `[]` outside the active role, hence the `ersFilter` formulation.)     [full strength]
    `C10_sync_up_to_date_kept` (+ `_canary`) — contrapositive, with distinct listed pod names: a listed pod
        whose every map entry compares equal is not named in `deletes`.
-/
namespace Eds

section Sync
variable (rs : ERS) (st : ErsStore) (released : String → Bool) (aff : Bool) (now : Time) (d : EDS)

theorem ersFinish_entries_active (freq : Dur) (sp : StratParams) (r : StratResult) (adds removes : List String)
    (se : Bool) (st0 : ERSStatus) :
    (ersFinish rs "active" freq sp r adds removes se st0 aff now).entries = targeted sp := by
  unfold ersFinish
  simp only [beq_self_eq_true, if_true]

/-- **No spurious replacement, active role.**  Every pod the sync deletes for updating is the pod of a
targeted entry `(ni, some p)` (`entries`) that does *not* compare equal to what the replica set would
create on `ni` (`comparePod … = false`: template hash, setting overwrite or node hash differ).  It is
not terminating, has no scheduler issue, is a listed pod and is bound to `ni`. -/
theorem C10_sync_no_spurious_replace (h : ersOwner rs st = some d) (hr : ersRole d rs.name = "active") :
    ∀ name ∈ (reconcileErs rs st released aff now).deletes,
      ∃ ni p, (ni, some p) ∈ (reconcileErs rs st released aff now).entries ∧ p.name = name ∧
        comparePod rs.templateGeneration p ni = false ∧
        p.deletion = none ∧ p.schedulerIssue now = false ∧
        p ∈ ersPods d st ∧ p.nodeOf = some ni.node.name := by
  intro name hn
  rcases reconcileErs_active_cases rs st released aff now d h hr with
    hno | ⟨items, r, adds, removes, se, st0, F, hm⟩
  · exact (mem_nil_elim hno.2.2.2.1 hn).elim
  · obtain ⟨x, hx, rfl⟩ := F.mem_deletes hn
    obtain ⟨ht, h1, h2, h3⟩ := manageDeployment_delete_outdated _ now now false r hm x hx
    rw [F.eq, hr, ersFinish_entries_active]
    obtain ⟨hp, hno⟩ := kept_pod_bound rs released now d items (ersPods d st) x.1 x.2 (mem_targeted.mp ht).1
    exact ⟨x.1, x.2, ht, rfl, h2, h3, h1, hp, hno⟩

/-- **No spurious replacement, canary role.**  Every pod the canary sync deletes for updating is the kept
pod `p` of an entry `(ni, some p)` of the per-node map whose node is a canary node, and it does not
compare equal (`comparePod … = false`); it is not terminating, is listed and is bound to `ni`. -/
theorem C10_sync_no_spurious_replace_canary (h : ersOwner rs st = some d) (hr : ersRole d rs.name = "canary") :
    ∀ name ∈ (reconcileErs rs st released aff now).deletes,
      ∃ items ni p, ersNodeItems d rs st = some items ∧
        (ni, some p) ∈ (ersFilter released d rs items (ersPods d st)).byNode ∧
        ni.node.name ∈ ersCanaryNodes d ∧ p.name = name ∧
        comparePod rs.templateGeneration p ni = false ∧
        p.deletion = none ∧ p ∈ ersPods d st ∧ p.nodeOf = some ni.node.name := by
  intro name hn
  rcases reconcileErs_cases rs st released aff now d h with hno | ⟨items, r, adds, removes, se, st0, F⟩
  · exact (mem_nil_elim hno.2.2.2.1 hn).elim
  · obtain ⟨r0, hm, rfl, -, -, -⟩ := F.canary hr
    obtain ⟨x, hx, rfl⟩ := F.mem_deletes hn
    obtain ⟨hb, hc, h1, h2⟩ := manageCanaryStatus_delete_outdated _ now r0 hm x hx
    obtain ⟨hp, hno⟩ := kept_pod_bound rs released now d items (ersPods d st) x.1 x.2 hb
    exact ⟨items, x.1, x.2, F.hitems, hb, hc, rfl, h1, h2, hp, hno⟩

/-- contrapositive, active role: with distinct listed pod names, a listed pod that compares equal on
every targeted entry holding it is not deleted for updating. -/
theorem C10_sync_up_to_date_kept (h : ersOwner rs st = some d) (hr : ersRole d rs.name = "active")
    (hnd : ((ersPods d st).map (·.name)).Nodup)
    (p : Pod) (hp : p ∈ ersPods d st)
    (hup : ∀ ni, (ni, some p) ∈ (reconcileErs rs st released aff now).entries →
      comparePod rs.templateGeneration p ni = true) :
    p.name ∉ (reconcileErs rs st released aff now).deletes := by
  intro hm
  obtain ⟨ni, q, he, hqn, hc, -, -, hq, -⟩ := C10_sync_no_spurious_replace rs st released aff now d h hr _ hm
  have := eq_of_nodup_map _ hnd hq hp hqn
  subst this
  rw [hup ni he] at hc
  cases hc

/-- contrapositive, canary role. -/
theorem C10_sync_up_to_date_kept_canary (h : ersOwner rs st = some d) (hr : ersRole d rs.name = "canary")
    (hnd : ((ersPods d st).map (·.name)).Nodup)
    (p : Pod) (hp : p ∈ ersPods d st)
    (hup : ∀ items ni, ersNodeItems d rs st = some items →
      (ni, some p) ∈ (ersFilter released d rs items (ersPods d st)).byNode →
      comparePod rs.templateGeneration p ni = true) :
    p.name ∉ (reconcileErs rs st released aff now).deletes := by
  intro hm
  obtain ⟨items, ni, q, hi, he, -, hqn, hc, -, hq, -⟩ :=
    C10_sync_no_spurious_replace_canary rs st released aff now d h hr _ hm
  have := eq_of_nodup_map _ hnd hq hp hqn
  subst this
  rw [hup items ni hi he] at hc
  cases hc

end Sync

/-! ### Non-vacuity (the store of EdsProps/C04.lean: EDS `d`, active replica set `d-old`, canary `d-new` on
`n1`, nodes `n1`, `n2`, both running a pod of generation `old`).  The hypotheses hold, a deletion for
updating does take place, and the deleted pod is the outdated one of the entry. -/

example : ersOwner (exErs04 "d-old" "old2") (exStore04 exPodsOld04) = some exEds04 ∧
    ersRole exEds04 (exErs04 "d-old" "old2").name = "active" ∧
    (reconcileErs (exErs04 "d-old" "old2") (exStore04 exPodsOld04) (fun _ => true) true 100).deletes = ["old-2"] ∧
    (reconcileErs (exErs04 "d-old" "old2") (exStore04 exPodsOld04) (fun _ => true) true 100).entries.map
      (fun e => (e.1.node.name, e.2.map (fun p => (p.name, comparePod "old2" p e.1)))) =
      [("n2", some ("old-2", false))] := by decide +kernel

/-- … and an up-to-date pod is left alone (same store, replica set of generation `old`). -/
example : (reconcileErs (exErs04 "d-old" "old") (exStore04 exPodsOld04) (fun _ => true) true 100).deletes = [] ∧
    (reconcileErs (exErs04 "d-old" "old") (exStore04 exPodsOld04) (fun _ => true) true 100).entries.map
      (fun e => (e.1.node.name, e.2.map (fun p => (p.name, comparePod "old" p e.1)))) =
      [("n2", some ("old-2", true))] := by decide +kernel

/-- canary role: `d-new` replaces the outdated pod of its canary node `n1` only. -/
example : ersOwner (exErs04 "d-new" "new") (exStore04 exPodsOld04) = some exEds04 ∧
    ersRole exEds04 (exErs04 "d-new" "new").name = "canary" ∧
    (reconcileErs (exErs04 "d-new" "new") (exStore04 exPodsOld04) (fun _ => true) true 100).deletes = ["old-1"] ∧
    comparePod "new" (exPod04 "old-1" "n1" "d-old" "old") (exNode01 "n1") = false := by decide +kernel

end Eds
