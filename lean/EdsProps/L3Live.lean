import EdsProofs.L3Live
import EdsProps.C07
/-
  L3Live — liveness THROUGH the canary phases at cluster level (property C02: "reconciliation converges to
  one Ready live-template pod per eligible node … the live template is spec.template when no canary strategy
  is set or once the canary is promoted, and the previously active template after a canary failure").

  EdsProps/C02c.lean proves convergence on a cooperative store when NO canary is in progress.  This file composes
  it, in the cluster machine of EdsModel/Cluster.lean (`World`, `step`, `stepF`, `run`), with the daemonset
  reconcile that ENDS a canary — by promotion (C05) or by rollback (C07) — so that the statement starts in a world
  in the middle of a canary and ends in the converged cluster for the live template.  Helpers: EdsProofs/L3Live.lean.

  Definitions
    `CanaryWorld w a u c`     a canary is in progress: defaulted, valid, canary strategy `c`, `a` = the own replica
                              set `status.activeReplicaSet` names, `u` = the up-to-date one, `a.name ≠ u.name`; plus
                              the L3 invariants NamesNodup / HashesNodup / AnnotGen (EdsProps/L3.lean)
    `PromotionDue c ann u now`  (EdsProofs/L3Live.lean) valid annotation naming `u`, or auto ∧ ended ∧ ¬paused ∧ ¬failed;
                              `PromotionDue.allowed`: it implies `Spec.C05.promotionAllowed`
    `EdsFrame w w'`           what a daemonset reconcile never touches (pods, nodes, settings, clock, identity, strategy)
    `BothWrites`, `SpecDropped`   which of the planned daemonset writes are applied (`stepF`)
    `LiveOn w rs`             no canary in progress, `rs` active AND up to date (generation = hash of spec.template)
    `CanaryEnded w w' rs t`   the reconcile(s) from `w` to `w'` ended the canary with `rs` live on template `t`
    `LiveEnv w rs aff`        the `CoopSetup` hypotheses no reconcile can establish (named, not paused / frozen, …)
    `LiveConverged`, `SyncQuiet`, `liveBound`, `ClusterConverged`   the target
    `coopOps`, `coopRunOps`, `coopRunW`   `k` cooperative rounds as a `run` of the cluster machine:
                              per round  tick ; reconcileErs name ; kubelet (cooperative, instantaneous)
  Theorems
    1  `CanaryWorld.reconcile_frame`, `_eds`, `_active`, `.of_reconcile`, `.transfer`
                                                        a daemonset reconcile while a canary is in progress: what any
                                                        subset of its writes keeps, what the status and spec writes leave
    2  `L3Live_promotion_step` (`_writes`)               canary in progress ∧ rule of C05 ⟹ ONE reconcile gives
                                                        `LiveOn … u`, spec.template / hash / strategy unchanged
       `L3Live_promotion_premises`                      … i.e. the premises of `C02_converges_store` for `u`
    3  `L3Live_rollback_steps` (`_writes`, `_retry`)     failed canary ⟹ one reconcile (both writes) gives `LiveOn … a`,
                                                        spec.template = `a.template`, hash = `a.templateGeneration`;
                                                        with the spec write dropped the NEXT reconcile gives the same
       `L3Live_rollback_pending`                        the dropped spec write leaves a `CanaryWorld` with the same
                                                        failed canary (whatever else was dropped): recoverability at L3
       `L3Live_rollback_premises`                       the premises of `C02_converges_store` for `a`
    4  `coop_premises_of_live`                          `LiveOn` + C02c hypotheses before the reconcile ⟹ the C02c
                                                        hypotheses after it
    5  `round_sim`, `coopRound_sim`, `coopRunW_sim`     rounds of the cluster machine = rounds of C02c
    6  `CanaryEnded.converges`                          `CanaryEnded` ⟹ `coopRunW`, a `run` of the cluster machine, converges
       `L3Live_converges_after_promotion`               reconcileEds :: k rounds of `u`   ⟹ `ClusterConverged … u`,
                                                        spec.template unchanged, `a` is a leftover ("unknown")
       `L3Live_converges_after_rollback`                reconcileEds [:: reconcileEds] :: k rounds of `a`
                                                        ⟹ `ClusterConverged … a`, spec.template = `a.template`, `u` leftover
       `leftover_inert`, `L3Live_leftover_stutter`      the other replica sets: role "unknown", sync inert
                                                        (`C04_unknown_inert`), their reconciles are stutter steps
    7  `Eds.ExLive` (end of file)                       a two-node cluster in the middle of a canary satisfying the
                                                        hypotheses of every theorem; the runs evaluated by `decide`
  Bound: `k ≥ liveBound w rs items = 2·outdated + empty`, counted in the world BEFORE the daemonset reconcile, with
  respect to the replica set that becomes live (after a promotion the non-canary nodes are the outdated ones, after a
  rollback the canary nodes are).

  Simplifications (all explicit hypotheses):
    * everything C02c assumes (cooperative store w.r.t. the replica set that becomes live, no settings, cooperative
      instantaneous kubelet, strategy parameters ≥ 1, rounds ≥ `max 0 reconcileFrequency` apart, no gate firing at
      the first round, injective name generator) — stated in the world BEFORE the daemonset reconcile, and carried
      across it by `EdsFrame`;
    * `hfind`: a reconcile request for the name of the replica set that becomes live finds it (names are unique in
      a namespace; `findErs` looks the name up among ALL replica sets of the namespace, not only the own ones);
    * the rollback theorems assume the canary-valid annotation does not name the failed `u` (otherwise the code
      promotes it — C07's counterexample), the promotion theorems do not (`PromotionDue` covers it);
    * the model identifies a template with its hash: "`rs` runs the live template" is `rs.templateGeneration =
      spec.templateHash`, pods are "of the live template" when stamped with that hash and passing `comparePod`;
      in addition the rollback theorems state `spec.template = a.template`;
    * the annotations lose the three canary pause keys at both transitions (`clearCanaryAnnotations`); the keys
      `LiveEnv` reads are other keys (`clearCanary_get?`).
  Not covered: promotion / rollback interleaved with a rolling update already under way on the non-canary nodes is
  covered only in so far as the store is cooperative at the moment of the daemonset reconcile (every pod Ready); API
  faults DURING the rounds (all writes of the replica-set syncs succeed; daemonset faults: dropped deletions, and the
  dropped spec write of the rollback); a dropped STATUS write with the spec write applied (the rollback then finishes
  through `C07_after_rollback_converged`, not composed here); later daemonset reconciles (they rewrite counters and
  collect the drained leftover replica set) are not part of the run — `L3Live_leftover_stutter` shows the leftover
  replica sets' own syncs can be interleaved freely.
-/
namespace Eds
open Cluster

/-! ## 0. The setting: a canary in progress -/

/-- **A canary is in progress in world `w`**: the daemonset is defaulted and valid, a canary strategy `c` is
set, `a` is the own replica set `status.activeReplicaSet` names, `u` is the up-to-date replica set (the one
`Reconcile` selects for spec.template) and `a ≠ u`.  `names`, `hashes`, `annotGen` are the L3 invariants of
EdsProps/L3.lean (`L3_names_nodup`, `L3_one_per_template`, `L3_annot_gen`: they hold along every run). -/
structure CanaryWorld (w : World) (a u : ERS) (c : Canary) : Prop where
  defaulted : isDefaulted w.eds.strategy w.eds.templateName = true
  valid : validateSpec w.eds.strategy = .ok
  canary : w.eds.strategy.canary = some c
  names : NamesNodup w
  hashes : HashesNodup w
  annotGen : AnnotGen w
  aOwn : a ∈ w.own
  upToDate : upToDateOf w.eds w.own = some u
  active : w.eds.status.activeReplicaSet = a.name
  ne : a.name ≠ u.name

namespace CanaryWorld
variable {w : World} {a u : ERS} {c : Canary} (H : CanaryWorld w a u c)
include H

theorem uOwn : u ∈ w.own := (C13_reuse_selects w.eds w.erss u H.upToDate).1

theorem uHash : SMap.get? u.annotations K.templateHashAnnot = some w.eds.templateHash :=
  (C13_reuse_selects w.eds w.erss u H.upToDate).2

/-- the up-to-date replica set carries the hash of spec.template as its template generation. -/
theorem uGen : u.templateGeneration = w.eds.templateHash := by
  have := H.annotGen u H.uOwn
  rw [H.uHash] at this
  exact (Option.some.inj this).symm

/-- the active replica set is of another template. -/
theorem aGen_ne : a.templateGeneration ≠ w.eds.templateHash := by
  intro h
  have h1 := H.annotGen a H.aOwn
  have : a = u := eq_of_nodup_map (fun e : ERS => SMap.get? e.annotations K.templateHashAnnot)
    ((HashesNodup_iff w).mp H.hashes) H.aOwn H.uOwn (by rw [h1, h, H.uHash])
  exact H.ne (by rw [this])

theorem activeLookup : lastWhere (fun e => e.name == w.eds.status.activeReplicaSet) w.own = some a :=
  lastWhere_name_of_nodup H.names H.aOwn _ H.active.symm

/-- the daemonset reconcile runs `edsMain` on the own replica sets with `u` up to date. -/
theorem writes (m : String) : edsWrites w m = edsMain w.eds w.own u w.pods w.nodes w.now :=
  edsWrites_main w H.defaulted H.valid H.upToDate m

end CanaryWorld

/-- decidable on concrete worlds (used by the examples). -/
instance (w : World) (a u : ERS) (c : Canary) : Decidable (CanaryWorld w a u c) :=
  decidable_of_iff
    (isDefaulted w.eds.strategy w.eds.templateName = true ∧ validateSpec w.eds.strategy = .ok ∧
      w.eds.strategy.canary = some c ∧ NamesNodup w ∧ HashesNodup w ∧ AnnotGen w ∧ a ∈ w.own ∧
      upToDateOf w.eds w.own = some u ∧ w.eds.status.activeReplicaSet = a.name ∧ a.name ≠ u.name)
    ⟨fun ⟨h1, h2, h3, h4, h5, h6, h7, h8, h9, h10⟩ => ⟨h1, h2, h3, h4, h5, h6, h7, h8, h9, h10⟩,
     fun H => ⟨H.defaulted, H.valid, H.canary, H.names, H.hashes, H.annotGen, H.aOwn, H.upToDate, H.active, H.ne⟩⟩

/-- what a daemonset reconcile never touches: pods, nodes, settings, DaemonSets, the clock, and the
daemonset's identity, strategy and template name. -/
structure EdsFrame (w w' : World) : Prop where
  pods : w'.pods = w.pods
  nodes : w'.nodes = w.nodes
  settings : w'.settings = w.settings
  daemonsets : w'.daemonsets = w.daemonsets
  now : w'.now = w.now
  name : w'.eds.name = w.eds.name
  ns : w'.eds.ns = w.eds.ns
  labels : w'.eds.labels = w.eds.labels
  strategy : w'.eds.strategy = w.eds.strategy
  templateName : w'.eds.templateName = w.eds.templateName

theorem EdsFrame.refl (w : World) : EdsFrame w w := ⟨rfl, rfl, rfl, rfl, rfl, rfl, rfl, rfl, rfl, rfl⟩

theorem EdsFrame.trans {w w' w'' : World} (h : EdsFrame w w') (h' : EdsFrame w' w'') : EdsFrame w w'' :=
  ⟨h'.pods.trans h.pods, h'.nodes.trans h.nodes, h'.settings.trans h.settings, h'.daemonsets.trans h.daemonsets,
   h'.now.trans h.now, h'.name.trans h.name, h'.ns.trans h.ns, h'.labels.trans h.labels,
   h'.strategy.trans h.strategy, h'.templateName.trans h.templateName⟩

theorem EdsFrame.own {w w' : World} (h : EdsFrame w w') (l : List ERS) : ownErs w'.eds l = ownErs w.eds l :=
  ownErs_congr _ _ _ h.name h.ns

/-- sub-writes of `edsMain` default nothing and create nothing. -/
theorem EdsSub.main_none {d : EDS} {list : List ERS} {u : ERS} {pods : List Pod} {nodes : List Node} {now : Time}
    {wr : EdsWrites} (hs : EdsSub wr (edsMain d list u pods nodes now)) :
    wr.defaulted = none ∧ wr.created = none := by
  constructor
  · rcases hs.defaulted with h | h
    · exact h
    · rw [h, edsMain_defaulted]
  · rcases hs.created with h | h
    · exact h
    · rw [h, edsMain_created]

theorem applyEds_edsFrame (w : World) (wr : EdsWrites) (nn : String) (hd : wr.defaulted = none) :
    EdsFrame w (applyEds w wr nn) := by
  obtain ⟨h1, h2, h3⟩ := applyEdsObj_ident w.eds wr
    (match wr.specUpdate with
     | some (h, _) => restoreTemplate w.eds w.erss w.now h
     | none => w.eds.template)
  refine ⟨rfl, rfl, rfl, rfl, rfl, h1, h2, h3, ?_, ?_⟩
  · show (applyEdsObj _ _ _).strategy = _
    rw [applyEdsObj_strategy, hd]
  · show (applyEdsObj _ _ _).templateName = _
    rw [applyEdsObj_templateName, hd]

/-- the own replica sets after sub-writes of `edsMain`: the surviving ones. -/
theorem applyEds_own (w : World) (wr : EdsWrites) (nn : String) (hd : wr.defaulted = none) (hc : wr.created = none) :
    (applyEds w wr nn).own = w.own.filter (fun e => !(e.ns == w.eds.ns && wr.deletedErs.contains e.name)) := by
  unfold World.own
  rw [(applyEds_edsFrame w wr nn hd).own, applyEds_erss,
    ownErs_applyErsList w.eds w.erss wr nn w.now (fun n hn => by rw [hc] at hn; cases hn), hc]
  simp

/-- the status write and the spec write the reconcile plans in `w` are both applied (together with any
subset of its replica-set deletions). -/
structure BothWrites (w : World) (m : String) (wr : EdsWrites) : Prop where
  sub : EdsSub wr (edsWrites w m)
  status : wr.statusUpdate = (edsWrites w m).statusUpdate
  spec : wr.specUpdate = (edsWrites w m).specUpdate

theorem BothWrites.full (w : World) (m : String) : BothWrites w m (edsWrites w m) := ⟨EdsSub.refl _, rfl, rfl⟩

theorem BothWrites.mask (f : Faults) (w : World) (m : String) (hs : f.edsStatus = true) (hp : f.edsSpec = true) :
    BothWrites w m (maskEds f (edsWrites w m)) :=
  ⟨EdsSub.mask f _, by simp [maskEds, hs], by simp [maskEds, hp]⟩

/-- **No canary in progress, `rs` live** (the phase `C02_converges_store` is about): `rs` is an own replica set,
`status.activeReplicaSet` names it, the status has no canary block, and `rs` is the up-to-date replica set — its
template generation is the hash of spec.template (the model identifies a template with its hash). -/
structure LiveOn (w : World) (rs : ERS) : Prop where
  own : rs ∈ w.own
  active : w.eds.status.activeReplicaSet = rs.name
  noCanary : w.eds.status.canary = none
  upToDate : upToDateOf w.eds w.own = some rs
  gen : rs.templateGeneration = w.eds.templateHash

/-- **the reconcile(s) leading from `w` to `w'` ended the canary with `rs` live on template `t`**: what the
convergence theorems below need of a promotion or of a rollback, whichever writes of it were dropped on the way. -/
structure CanaryEnded (w w' : World) (rs : ERS) (t : Template) : Prop where
  live : LiveOn w' rs
  frame : EdsFrame w w'
  template : w'.eds.template = t
  annotations : w'.eds.annotations = (clearCanaryAnnotations w.eds.annotations).1
  find : findErs w rs.name = some rs → findErs w' rs.name = some rs

/-! ## 1. A daemonset reconcile while a canary is in progress -/

/-- among a sub-list of own replica sets with pairwise distinct recorded hashes, the one whose generation is the
hash of spec.template is the up-to-date one. -/
theorem upToDate_of_sublist {w w' : World} (hsl : w'.own.Sublist w.own) (hh : HashesNodup w) (hg : AnnotGen w)
    {rs : ERS} (hm : rs ∈ w'.own) (hgen : rs.templateGeneration = w'.eds.templateHash) :
    upToDateOf w'.eds w'.own = some rs := by
  have hrs := hg rs (hsl.subset hm)
  rw [hgen] at hrs
  apply C07_after_rollback_uptodate _ _ rs hm hrs
  intro e he hh'
  exact eq_of_nodup_map (fun e : ERS => SMap.get? e.annotations K.templateHashAnnot)
    ((HashesNodup_iff w).mp hh) (hsl.subset he) (hsl.subset hm) (by rw [hh', hrs])

/-- a change of replica-set STATUSES only (a replica-set sync, a kubectl-eds command) keeps the L3 invariants of
the own replica sets. -/
theorem own_status_map_inv {w w' : World} (g : ERS → ERS) (hg : ∀ e, g e = { e with status := (g e).status })
    (hown : w'.own = w.own.map g) :
    (NamesNodup w → NamesNodup w') ∧ (HashesNodup w → HashesNodup w') ∧ (AnnotGen w → AnnotGen w') := by
  refine ⟨fun h => ?_, fun h => ?_, fun h e he => ?_⟩
  · show (w'.own.map (·.name)).Nodup
    rw [hown, map_status_frame g hg _ (fun _ _ => rfl)]
    exact h
  · rw [HashesNodup_iff] at h ⊢
    rw [hown, map_status_frame g hg _ (fun _ _ => rfl)]
    exact h
  · rw [hown] at he
    obtain ⟨e0, he0, rfl⟩ := List.mem_map.1 he
    rw [hg e0]
    exact h e0 he0

/-- a canary in progress survives any change of replica-set statuses and of anything in the daemonset object
but its strategy, template name, template hash and active replica set. -/
theorem CanaryWorld.transfer {w w' : World} {a u : ERS} {c : Canary} (H : CanaryWorld w a u c) (g : ERS → ERS)
    (hg : ∀ e, g e = { e with status := (g e).status })
    (hown : w'.own = w.own.map g)
    (hstrat : w'.eds.strategy = w.eds.strategy) (htn : w'.eds.templateName = w.eds.templateName)
    (hhash : w'.eds.templateHash = w.eds.templateHash)
    (hact : w'.eds.status.activeReplicaSet = w.eds.status.activeReplicaSet) :
    CanaryWorld w' (g a) (g u) c := by
  obtain ⟨hn, hh, hag⟩ := own_status_map_inv g hg hown
  have hname : ∀ e, (g e).name = e.name := fun e => by rw [hg e]
  have hmemu : g u ∈ w'.own := by rw [hown]; exact List.mem_map_of_mem H.uOwn
  exact
    { defaulted := by rw [hstrat, htn]; exact H.defaulted
      valid := by rw [hstrat]; exact H.valid
      canary := by rw [hstrat]; exact H.canary
      names := hn H.names
      hashes := hh H.hashes
      annotGen := hag H.annotGen
      aOwn := by rw [hown]; exact List.mem_map_of_mem H.aOwn
      upToDate := upToDate_of_sublist (List.Sublist.refl _) (hh H.hashes) (hag H.annotGen) hmemu
        (by rw [hhash, hg u]; exact H.uGen)
      active := by rw [hact, hname]; exact H.active
      ne := by rw [hname, hname]; exact H.ne }

section Reconcile
variable {w : World} {a u : ERS} {c : Canary} {m : String} {wr : EdsWrites}

/-- **A daemonset reconcile while a canary is in progress**, any subset `wr` of its writes applied: the frame; the
own replica sets are a sub-list of the former ones; the current and the up-to-date replica set of the reconcile
are kept, and a reconcile request that found one of them still does. -/
theorem CanaryWorld.reconcile_frame (H : CanaryWorld w a u c) (hsub : EdsSub wr (edsWrites w m)) (nn : String) :
    EdsFrame w (applyEds w wr nn) ∧ (applyEds w wr nn).own.Sublist w.own ∧
    ∀ e ∈ w.own, e.name = (currentOf w.eds w.own u w.now).1.name ∨ e.name = u.name →
      e ∈ (applyEds w wr nn).own ∧ (findErs w e.name = some e → findErs (applyEds w wr nn) e.name = some e) := by
  rw [H.writes m] at hsub
  obtain ⟨hd, hc⟩ := hsub.main_none
  have F := applyEds_edsFrame w wr nn hd
  have hown := applyEds_own w wr nn hd hc
  refine ⟨F, by rw [hown]; exact List.filter_sublist, fun e he hn => ?_⟩
  have hk : (!(e.ns == w.eds.ns && wr.deletedErs.contains e.name)) = true := by
    simp [edsMain_keeps w.eds w.own u w.pods w.nodes w.now hsub.deleted hn]
  refine ⟨by rw [hown]; exact List.mem_filter.mpr ⟨he, hk⟩, fun hf => ?_⟩
  unfold findErs at hf ⊢
  rw [F.ns, applyEds_erss]
  unfold applyErsList
  rw [hc]
  simp only [List.append_nil]
  exact find?_filter_of_kept _ _ _ _ hf hk

/-- the daemonset object after a reconcile whose status and spec writes are both applied, when the node
selection reports no error (`cur`: the current replica set of the reconcile). -/
theorem CanaryWorld.reconcile_eds (H : CanaryWorld w a u c) (B : BothWrites w m wr) (nn : String) {cur : ERS}
    (hcur : (currentOf w.eds w.own u w.now).1 = cur)
    (hse : (edsUpd w.eds w.own cur u w.pods w.nodes w.now).selectErr = false) :
    (applyEds w wr nn).eds.status = (edsUpd w.eds w.own cur u w.pods w.nodes w.now).status ∧
    (applyEds w wr nn).eds.annotations = (edsUpd w.eds w.own cur u w.pods w.nodes w.now).annotations ∧
    (applyEds w wr nn).eds.templateHash =
      (match (edsUpd w.eds w.own cur u w.pods w.nodes w.now).restoreFrom with
       | some r => r.templateGeneration
       | none => w.eds.templateHash) := by
  subst hcur
  rw [applyEds_status, applyEds_annotations, applyEds_templateHash, B.status, B.spec, H.writes m]
  exact ⟨edsMain_after_status _ _ _ _ _ _ hse, edsMain_after_annotations _ _ _ _ _ _ hse,
    edsMain_after_hash _ _ _ _ _ _ hse⟩

/-- when the selection keeps `a`, `a` is still named active afterwards, whichever writes are applied. -/
theorem CanaryWorld.reconcile_active (H : CanaryWorld w a u c) (hsub : EdsSub wr (edsWrites w m)) (nn : String)
    (hcur : (currentOf w.eds w.own u w.now).1 = a) : (applyEds w wr nn).eds.status.activeReplicaSet = a.name := by
  rw [applyEds_status]
  rcases hsub.status with h | h
  · rw [h]; exact H.active
  · rw [h, H.writes m]
    exact (edsMain_active_after _ _ _ _ _ _).trans (congrArg ERS.name hcur)

/-- a world that kept `a`, `u`, the hash of spec.template and the active replica set still has the canary in
progress. -/
theorem CanaryWorld.of_reconcile (H : CanaryWorld w a u c) {w' : World} (F : EdsFrame w w')
    (hsl : w'.own.Sublist w.own) (ha : a ∈ w'.own) (hu : u ∈ w'.own)
    (hhash : w'.eds.templateHash = w.eds.templateHash) (hact : w'.eds.status.activeReplicaSet = a.name) :
    CanaryWorld w' a u c :=
  { defaulted := by rw [F.strategy, F.templateName]; exact H.defaulted
    valid := by rw [F.strategy]; exact H.valid
    canary := by rw [F.strategy]; exact H.canary
    names := List.Nodup.sublist (hsl.map _) H.names
    hashes := (HashesNodup_iff _).mpr (List.Nodup.sublist (hsl.map _) ((HashesNodup_iff w).mp H.hashes))
    annotGen := fun e he => H.annotGen e (hsl.subset he)
    aOwn := ha
    upToDate := upToDate_of_sublist hsl H.hashes H.annotGen hu (H.uGen.trans hhash.symm)
    active := hact
    ne := H.ne }

/-- a failed canary that is not validated leaves the active replica set selected. -/
theorem CanaryWorld.currentOf_failed (H : CanaryWorld w a u c) (hf : isCanaryFailed (some u) = true)
    (hv : isCanaryValid w.eds.annotations u.name = false) : (currentOf w.eds w.own u w.now).1 = a :=
  C07_active_unchanged w.eds w.own u a c w.now H.canary H.activeLookup hf hv

end Reconcile

/-! ## 2. Promotion -/

section Promotion
variable {w : World} {a u : ERS} {c : Canary}

/-- the promotion step for any write set that applies the status and the spec write. -/
theorem L3Live_promotion_writes (H : CanaryWorld w a u c) (hdue : PromotionDue c w.eds.annotations u w.now)
    (nn m : String) (wr : EdsWrites) (B : BothWrites w m wr) :
    CanaryEnded w (applyEds w wr nn) u w.eds.template := by
  obtain ⟨F, hsl, hkept⟩ := H.reconcile_frame B.sub nn
  obtain ⟨hmem, hfind⟩ := hkept u H.uOwn (Or.inr rfl)
  have hcur := currentOf_of_due w.eds w.own u w.now c H.canary hdue
  obtain ⟨u1, u2, u3, u4, u5⟩ := edsUpd_self w.eds w.own u w.pods w.nodes w.now c H.canary
  obtain ⟨hst, hann, hhash⟩ := H.reconcile_eds B nn hcur u3
  -- a template "restore" from `u` itself restores the hash spec.template already has
  have hgen : u.templateGeneration = (applyEds w wr nn).eds.templateHash := by
    rw [hhash]
    rcases u5 with h | h
    · rw [h]; exact H.uGen
    · rw [h]
  refine ⟨⟨hmem, by rw [hst]; exact u2, by rw [hst]; exact u1,
    upToDate_of_sublist hsl H.hashes H.annotGen hmem hgen, hgen⟩, F, ?_, hann.trans u4, hfind⟩
  rw [applyEds_template, ← hgen, H.uGen, restoreTemplate_same]

/-- **`L3Live_promotion_step`.**  In a world with a canary in progress (active replica set `a` ≠ up-to-date
replica set `u`) in which the promotion rule of C05 holds at the world's clock, ONE daemonset reconcile (all
writes applied) yields a world with no canary in progress and `u` live: `status.activeReplicaSet = u.name`,
`status.canary = none`, `u` still the up-to-date replica set; spec.template (and its hash), the strategy and
everything outside the daemonset object and the replica-set list are unchanged; the annotations lose the three
canary pause keys. -/
theorem L3Live_promotion_step (H : CanaryWorld w a u c) (hdue : PromotionDue c w.eds.annotations u w.now)
    (nn m : String) :
    LiveOn (step w (.reconcileEds nn m)) u ∧ EdsFrame w (step w (.reconcileEds nn m)) ∧
    (step w (.reconcileEds nn m)).eds.templateHash = w.eds.templateHash ∧
    (step w (.reconcileEds nn m)).eds.template = w.eds.template ∧
    (step w (.reconcileEds nn m)).eds.annotations = (clearCanaryAnnotations w.eds.annotations).1 :=
  have R := L3Live_promotion_writes H hdue nn m _ (BothWrites.full w m)
  ⟨R.live, R.frame, R.live.gen.symm.trans H.uGen, R.template, R.annotations⟩

/-- the same when replica-set deletions fail (any fault pattern that lets the status and spec writes through). -/
theorem L3Live_promotion_stepF (H : CanaryWorld w a u c) (hdue : PromotionDue c w.eds.annotations u w.now)
    (nn m : String) (f : Faults) (hs : f.edsStatus = true) (hp : f.edsSpec = true) :
    LiveOn (stepF f w (.reconcileEds nn m)) u ∧ EdsFrame w (stepF f w (.reconcileEds nn m)) ∧
    (stepF f w (.reconcileEds nn m)).eds.templateHash = w.eds.templateHash ∧
    (stepF f w (.reconcileEds nn m)).eds.template = w.eds.template ∧
    (stepF f w (.reconcileEds nn m)).eds.annotations = (clearCanaryAnnotations w.eds.annotations).1 :=
  have R := L3Live_promotion_writes H hdue nn m _ (BothWrites.mask f w m hs hp)
  ⟨R.live, R.frame, R.live.gen.symm.trans H.uGen, R.template, R.annotations⟩

end Promotion

/-! ## 3. Rollback -/

section Rollback
variable {w : World} {a u : ERS} {c : Canary}

/-- the spec write of the reconcile planned in `w` is dropped (the status write and the deletions may or may
not be applied). -/
structure SpecDropped (w : World) (m : String) (wr : EdsWrites) : Prop where
  sub : EdsSub wr (edsWrites w m)
  spec : wr.specUpdate = none

theorem SpecDropped.mask (f : Faults) (w : World) (m : String) (hp : f.edsSpec = false) :
    SpecDropped w m (maskEds f (edsWrites w m)) :=
  ⟨EdsSub.mask f _, by simp [maskEds, hp]⟩

/-- the rollback for any write set that applies the status and the spec write; the failed `u` is kept. -/
theorem L3Live_rollback_writes (H : CanaryWorld w a u c) (hf : isCanaryFailed (some u) = true)
    (hv : isCanaryValid w.eds.annotations u.name = false) (nn m : String) (wr : EdsWrites) (B : BothWrites w m wr) :
    CanaryEnded w (applyEds w wr nn) a a.template ∧ u ∈ (applyEds w wr nn).own := by
  obtain ⟨F, hsl, hkept⟩ := H.reconcile_frame B.sub nn
  have hcur := H.currentOf_failed hf hv
  obtain ⟨hmem, hfind⟩ := hkept a H.aOwn (Or.inl (by rw [hcur]))
  have hupd : edsUpd w.eds w.own a u w.pods w.nodes w.now = _ :=
    updateInstance_failed w.eds a u _ _ _ w.now (ownPods w.eds w.pods) w.nodes c H.canary hf
  obtain ⟨hst, hann, hhash⟩ := H.reconcile_eds B nn hcur (by rw [hupd])
  have hgen : a.templateGeneration = (applyEds w wr nn).eds.templateHash := by rw [hhash, hupd]
  refine ⟨⟨⟨hmem, by rw [hst, hupd]; rfl, by rw [hst, hupd],
    upToDate_of_sublist hsl H.hashes H.annotGen hmem hgen, hgen⟩, F, ?_, by rw [hann, hupd], hfind⟩,
    (hkept u H.uOwn (Or.inr rfl)).1⟩
  rw [applyEds_template, ← hgen]
  exact restoreTemplate_current w.eds w.erss w.now u a H.upToDate hcur H.aGen_ne

/-- **the rollback is recoverable at L3**: when the spec write is dropped — whatever happens to the status write
and to the deletions — the world is still one with the same failed canary in progress (same `a`, `u`, spec,
annotations), so that the next reconcile plans the rollback again. -/
theorem L3Live_rollback_pending (H : CanaryWorld w a u c) (hf : isCanaryFailed (some u) = true)
    (hv : isCanaryValid w.eds.annotations u.name = false) (nn m : String) (wr : EdsWrites) (D : SpecDropped w m wr) :
    CanaryWorld (applyEds w wr nn) a u c ∧
    isCanaryValid (applyEds w wr nn).eds.annotations u.name = false ∧
    EdsFrame w (applyEds w wr nn) ∧
    (applyEds w wr nn).eds.templateHash = w.eds.templateHash ∧
    (applyEds w wr nn).eds.template = w.eds.template ∧
    (applyEds w wr nn).eds.annotations = w.eds.annotations := by
  obtain ⟨F, hsl, hkept⟩ := H.reconcile_frame D.sub nn
  have hcur := H.currentOf_failed hf hv
  have hhash : (applyEds w wr nn).eds.templateHash = w.eds.templateHash := by rw [applyEds_templateHash, D.spec]
  have hann : (applyEds w wr nn).eds.annotations = w.eds.annotations := by rw [applyEds_annotations, D.spec]
  exact ⟨H.of_reconcile F hsl (hkept a H.aOwn (Or.inl (by rw [hcur]))).1 (hkept u H.uOwn (Or.inr rfl)).1 hhash
      (H.reconcile_active D.sub nn hcur),
    by rw [hann]; exact hv, F, hhash, by rw [applyEds_template, hhash, restoreTemplate_same], hann⟩

/-- the rollback in two reconciles: the spec write of the first is dropped, every write of the second applied. -/
theorem L3Live_rollback_retry (H : CanaryWorld w a u c) (hf : isCanaryFailed (some u) = true)
    (hv : isCanaryValid w.eds.annotations u.name = false) (nn m : String) (wr : EdsWrites) (D : SpecDropped w m wr)
    (nn' m' : String) :
    CanaryEnded w (step (applyEds w wr nn) (.reconcileEds nn' m')) a a.template ∧
    u ∈ (step (applyEds w wr nn) (.reconcileEds nn' m')).own := by
  obtain ⟨H1, hv1, F1, _, _, hann1⟩ := L3Live_rollback_pending H hf hv nn m wr D
  obtain ⟨R, hu⟩ := L3Live_rollback_writes H1 hf hv1 nn' m' _ (BothWrites.full _ m')
  have hfind := ((H.reconcile_frame D.sub nn).2.2 a H.aOwn (Or.inl (by rw [H.currentOf_failed hf hv]))).2
  exact ⟨⟨R.live, F1.trans R.frame, R.template, by rw [← hann1]; exact R.annotations, fun h => R.find (hfind h)⟩, hu⟩

/-- **`L3Live_rollback_steps`.**  In a world with a FAILED canary in progress (`u` carries a true Canary-Failed
condition, the canary-valid annotation does not name it, `a ≠ u` is active):

  (one step)  one daemonset reconcile with all writes applied yields a world with no canary in progress and `a`
              live: `status.canary = none`, `status.activeReplicaSet = a.name` unchanged, spec.template is `a`'s
              template again (hash `a.templateGeneration`), so that `a` is the up-to-date replica set;
  (two steps) when the spec write of the first reconcile is dropped (fault pattern `f` with `edsSpec = false`;
              status write and deletions applied or not), the next reconcile completes the rollback: the world
              after it satisfies the same conclusion.
In both cases the strategy and everything outside the daemonset object and the replica-set list are unchanged,
the annotations lose the three canary pause keys, and the failed `u` is still an own replica set. -/
theorem L3Live_rollback_steps (H : CanaryWorld w a u c) (hf : isCanaryFailed (some u) = true)
    (hv : isCanaryValid w.eds.annotations u.name = false) (nn m : String) :
    (LiveOn (step w (.reconcileEds nn m)) a ∧ EdsFrame w (step w (.reconcileEds nn m)) ∧
      (step w (.reconcileEds nn m)).eds.templateHash = a.templateGeneration ∧
      (step w (.reconcileEds nn m)).eds.template = a.template ∧
      (step w (.reconcileEds nn m)).eds.annotations = (clearCanaryAnnotations w.eds.annotations).1 ∧
      u ∈ (step w (.reconcileEds nn m)).own) ∧
    (∀ (f : Faults) (nn' m' : String), f.edsSpec = false →
      LiveOn (step (stepF f w (.reconcileEds nn m)) (.reconcileEds nn' m')) a ∧
      EdsFrame w (step (stepF f w (.reconcileEds nn m)) (.reconcileEds nn' m')) ∧
      (step (stepF f w (.reconcileEds nn m)) (.reconcileEds nn' m')).eds.templateHash = a.templateGeneration ∧
      (step (stepF f w (.reconcileEds nn m)) (.reconcileEds nn' m')).eds.template = a.template ∧
      (step (stepF f w (.reconcileEds nn m)) (.reconcileEds nn' m')).eds.annotations =
        (clearCanaryAnnotations w.eds.annotations).1 ∧
      u ∈ (step (stepF f w (.reconcileEds nn m)) (.reconcileEds nn' m')).own) := by
  obtain ⟨R, hu⟩ := L3Live_rollback_writes H hf hv nn m _ (BothWrites.full w m)
  refine ⟨⟨R.live, R.frame, R.live.gen.symm, R.template, R.annotations, hu⟩, fun f nn' m' hp => ?_⟩
  obtain ⟨R, hu⟩ := L3Live_rollback_retry H hf hv nn m _ (SpecDropped.mask f w m hp) nn' m'
  exact ⟨R.live, R.frame, R.live.gen.symm, R.template, R.annotations, hu⟩

end Rollback

/-! ## 4. From "no canary in progress" to convergence (store level) -/

/-- the hypotheses of `CoopSetup` (C02c) a daemonset reconcile cannot establish: the replica set that is to
become live has a name; the rolling update is neither paused nor frozen; no DaemonSet is being migrated; in
affinity mode its template's required node affinity is not the empty term list (C10). -/
structure LiveEnv (w : World) (rs : ERS) (aff : Bool) : Prop where
  named : rs.name ≠ ""
  notPaused : isRollingUpdatePaused w.eds.annotations = false
  notFrozen : isRolloutFrozen w.eds.annotations = false
  noOldDs : SMap.get? w.eds.annotations K.oldDaemonsetAnnot = none
  affOk : aff = true → rs.template.affRequired ≠ some []

/-- a replica set whose name is not the active one's is a leftover ("unknown" role) once the canary block is
gone … -/
theorem ersRole_unknown_of_live {w : World} {rs : ERS} (L : LiveOn w rs) {n : String} (hne : n ≠ rs.name) :
    ersRole w.eds n = "unknown" := by
  unfold ersRole
  rw [L.active, L.noCanary]
  split
  · rfl
  · have : (rs.name == n) = false := by simpa using fun h => hne h.symm
    simp [this]

/-- … and its sync writes no pod at all (`C04_unknown_inert`), in whatever store the daemonset object is the
one of `w`, whatever its status, at any instant. -/
theorem leftover_inert {w : World} {rs : ERS} (L : LiveOn w rs) (e : ERS) (hne : e.name ≠ rs.name)
    (st : ErsStore) (released : String → Bool) (aff : Bool) (now : Time) (ho : ersOwner e st = some w.eds) :
    (reconcileErs e st released aff now).creates = [] ∧
    (reconcileErs e st released aff now).deletes = [] ∧
    (reconcileErs e st released aff now).cleanupDeletes = [] ∧
    (reconcileErs e st released aff now).labelAdds = [] ∧
    (reconcileErs e st released aff now).labelRemoves = [] :=
  C04_unknown_inert e st released aff now w.eds ho (ersRole_unknown_of_live L hne)

/-- `CoopSetup` of C02c in the world after the daemonset reconcile. -/
theorem coopSetup_of_live {w w' : World} {rs : ERS} {aff : Bool} (L : LiveOn w' rs) (F : EdsFrame w w')
    (hdef : isDefaulted w.eds.strategy w.eds.templateName = true) (E : LiveEnv w rs aff)
    (hann : w'.eds.annotations = (clearCanaryAnnotations w.eds.annotations).1 ∨ w'.eds.annotations = w.eds.annotations) :
    CoopSetup w'.eds rs aff := by
  have hlabel := (List.mem_filter.mp L.own).2
  simp only [Bool.and_eq_true, beq_iff_eq] at hlabel
  -- the keys `LiveEnv` reads are not among those the clean-up removes
  have hkeys : isRollingUpdatePaused w'.eds.annotations = isRollingUpdatePaused w.eds.annotations ∧
      isRolloutFrozen w'.eds.annotations = isRolloutFrozen w.eds.annotations ∧
      SMap.get? w'.eds.annotations K.oldDaemonsetAnnot = SMap.get? w.eds.annotations K.oldDaemonsetAnnot := by
    rcases hann with h | h
    · rw [h]; exact ⟨clearCanary_paused _, clearCanary_frozen _, clearCanary_oldDs _⟩
    · rw [h]; exact ⟨rfl, rfl, rfl⟩
  exact
    { defaulted := by rw [F.strategy, F.templateName]; exact hdef
      active := L.active
      named := E.named
      noCanary := L.noCanary
      notPaused := hkeys.1.trans E.notPaused
      notFrozen := hkeys.2.1.trans E.notFrozen
      noOldDs := hkeys.2.2.trans E.noOldDs
      label := hlabel.2
      affOk := E.affOk }

theorem edsPods_of_frame {w w' : World} (F : EdsFrame w w') : edsPodsOf w'.eds w'.store = edsPodsOf w.eds w.store :=
  edsPodsOf_congr F.name F.ns F.pods

/-- **the premises of `C02_converges_store` in the world `w'` after the daemonset reconcile(s)**, from the same
premises in the world `w` before: `rs` is live in `w'` (`CoopSetup`: active, no canary in progress, …) and the
store, strategy and gate hypotheses only read what the reconciles left alone. -/
theorem coop_premises_of_live {w w' : World} {rs : ERS} {aff : Bool} {gen : String → String} {items : List NodeItem}
    (L : LiveOn w' rs) (F : EdsFrame w w') (hdef : isDefaulted w.eds.strategy w.eds.templateName = true)
    (E : LiveEnv w rs aff)
    (hann : w'.eds.annotations = (clearCanaryAnnotations w.eds.annotations).1 ∨ w'.eds.annotations = w.eds.annotations)
    (S : CoopStore w.eds rs gen items w.store) (hK : StratOk w.eds (fitItems rs items).length)
    (t : Time) (G : GateFree w.eds rs t) :
    CoopSetup w'.eds rs aff ∧ CoopStore w'.eds rs gen items w'.store ∧
    StratOk w'.eds (fitItems rs items).length ∧ GateFree w'.eds rs t :=
  ⟨coopSetup_of_live L F hdef E hann, S.transfer F.name F.ns rfl rfl F.nodes F.pods F.settings,
    hK.transfer F.strategy, G.transfer F.strategy⟩

/-- **The converged cluster state for live replica set `rs`** (pods `E` of the daemonset `d`, eligible nodes
`fitItems rs items`): every eligible node runs exactly one pod of the daemonset — not terminating, Running, Ready,
stamped with the hash of spec.template (the LIVE template) and passing the controller's pod comparison for `rs` —
and the daemonset has no pod anywhere else. -/
def LiveConverged (d : EDS) (rs : ERS) (items : List NodeItem) (E : List Pod) : Prop :=
  (∀ ni ∈ fitItems rs items, ∃ p,
    E.filter (fun q => q.nodeName == ni.node.name) = [p] ∧
    p.deletion = none ∧ p.phase = "Running" ∧ p.ready = true ∧
    SMap.get? p.annotations K.templateHashAnnot = some d.templateHash ∧
    comparePod rs.templateGeneration p ni = true) ∧
  (∀ p ∈ E, ∃ ni ∈ fitItems rs items, p.nodeName = ni.node.name)

/-- a sync of `rs` in store `st` writes no pod: at any instant, with any back-off oracle. -/
def SyncQuiet (rs : ERS) (st : ErsStore) (aff : Bool) : Prop :=
  ∀ (now : Time) (released : String → Bool),
    (reconcileErs rs st released aff now).creates = [] ∧
    (reconcileErs rs st released aff now).deletes = [] ∧
    (reconcileErs rs st released aff now).cleanupDeletes = []

/-- the number of cooperative rounds that suffice: `2·outdated + empty` (C02), counted in the world BEFORE the
daemonset reconcile with respect to the replica set that is about to become live. -/
def liveBound (w : World) (rs : ERS) (items : List NodeItem) : Nat :=
  2 * outdatedNodes rs items (edsPodsOf w.eds w.store) + emptyNodes rs items (edsPodsOf w.eds w.store)

/-- after the promotion step the premises of `C02_converges_store` hold for `u` in the new
world (`CoopSetup`: `u` active, no canary in progress, …; the store, strategy and gate hypotheses carry over). -/
theorem L3Live_promotion_premises {w : World} {a u : ERS} {c : Canary} {aff : Bool} {gen : String → String}
    {items : List NodeItem} (H : CanaryWorld w a u c) (hdue : PromotionDue c w.eds.annotations u w.now)
    (E : LiveEnv w u aff) (S : CoopStore w.eds u gen items w.store) (hK : StratOk w.eds (fitItems u items).length)
    (t : Time) (G : GateFree w.eds u t) (nn m : String) :
    CoopSetup (step w (.reconcileEds nn m)).eds u aff ∧
    CoopStore (step w (.reconcileEds nn m)).eds u gen items (step w (.reconcileEds nn m)).store ∧
    StratOk (step w (.reconcileEds nn m)).eds (fitItems u items).length ∧
    GateFree (step w (.reconcileEds nn m)).eds u t :=
  have R := L3Live_promotion_writes H hdue nn m _ (BothWrites.full w m)
  coop_premises_of_live R.live R.frame H.defaulted E (Or.inl R.annotations) S hK t G

/-- after the rollback step the premises of `C02_converges_store` hold for `a`. -/
theorem L3Live_rollback_premises {w : World} {a u : ERS} {c : Canary} {aff : Bool} {gen : String → String}
    {items : List NodeItem} (H : CanaryWorld w a u c) (hf : isCanaryFailed (some u) = true)
    (hv : isCanaryValid w.eds.annotations u.name = false)
    (E : LiveEnv w a aff) (S : CoopStore w.eds a gen items w.store) (hK : StratOk w.eds (fitItems a items).length)
    (t : Time) (G : GateFree w.eds a t) (nn m : String) :
    CoopSetup (step w (.reconcileEds nn m)).eds a aff ∧
    CoopStore (step w (.reconcileEds nn m)).eds a gen items (step w (.reconcileEds nn m)).store ∧
    StratOk (step w (.reconcileEds nn m)).eds (fitItems a items).length ∧
    GateFree (step w (.reconcileEds nn m)).eds a t :=
  have R := (L3Live_rollback_writes H hf hv nn m _ (BothWrites.full w m)).1
  coop_premises_of_live R.live R.frame H.defaulted E (Or.inl R.annotations) S hK t G

/-! ## 5. Cooperative rounds as runs of the cluster machine -/

/-- **the operations of one cooperative round** of the replica set named `name`, at instant `t`, in world `w`:
the clock ticks to `t`; the replica set is reconciled (`Op.reconcileErs`, back-off oracle "nothing released": its
status write and its pod writes are applied by the cluster machine); then the cooperative, instantaneous kubelet
of C02c acts (`Op.kubelet`: gracefully deleted pods are gone, the created pods carry the names `gen` gives them
and are bound, Running and Ready). -/
def coopOps (name : String) (aff : Bool) (gen : String → String) (t : Time) (w : World) : List Op :=
  [ .tick (t - w.now).toNat,
    .reconcileErs name (fun _ => false) aff,
    .kubelet (match findErs w name with
              | some rs => (coopRoundStore rs aff gen t w.store).pods
              | none => w.pods) ]

/-- the operations of `k` cooperative rounds from `w`, round `i` at instant `clock i`. -/
def coopRunOps (name : String) (aff : Bool) (gen : String → String) (clock : Nat → Time) : Nat → World → List Op
  | 0, _ => []
  | k + 1, w =>
    coopRunOps name aff gen clock k w ++
      coopOps name aff gen (clock k) (run w (coopRunOps name aff gen clock k w))

/-- the world after `k` cooperative rounds: a `run` of the cluster machine. -/
def coopRunW (name : String) (aff : Bool) (gen : String → String) (clock : Nat → Time) (k : Nat) (w : World) : World :=
  run w (coopRunOps name aff gen clock k w)

theorem coopRunW_succ (name : String) (aff : Bool) (gen : String → String) (clock : Nat → Time) (k : Nat) (w : World) :
    coopRunW name aff gen clock (k + 1) w =
      run (coopRunW name aff gen clock k w) (coopOps name aff gen (clock k) (coopRunW name aff gen clock k w)) := by
  unfold coopRunW
  rw [coopRunOps, run_append]

/-- a daemonset reconcile followed by `k` cooperative rounds is ONE run of the cluster machine. -/
theorem coopRunW_after_step (name : String) (aff : Bool) (gen : String → String) (clock : Nat → Time) (k : Nat)
    (w : World) (op : Op) :
    coopRunW name aff gen clock k (step w op) = run w (op :: coopRunOps name aff gen clock k (step w op)) := rfl

theorem stepF_reconcileErs_some (f : Faults) (w : World) (name : String) (rel : String → Bool) (aff : Bool) (rs : ERS)
    (h : findErs w name = some rs) :
    stepF f w (.reconcileErs name rel aff) = applyErs w rs (maskErs f (ersWrites w rs rel aff)) := by
  simp only [stepF, h]

theorem step_reconcileErs_some (w : World) (name : String) (rel : String → Bool) (aff : Bool) (rs : ERS)
    (h : findErs w name = some rs) :
    step w (.reconcileErs name rel aff) = applyErs w rs (ersWrites w rs rel aff) := by
  simp only [step, h]

theorem setStatusOf_self (rs : ERS) (wr : ErsWrites) :
    setStatusOf rs wr rs = { rs with status := wr.statusUpdate.getD rs.status } := by
  unfold setStatusOf
  simp only [beq_self_eq_true, Bool.and_self, if_true]
  cases wr.statusUpdate <;> rfl

theorem setStatusOf_of_ne (rs : ERS) (wr : ErsWrites) {e : ERS} (h : e.name ≠ rs.name) : setStatusOf rs wr e = e := by
  unfold setStatusOf
  have : (e.name == rs.name) = false := by simpa using h
  simp [this]

/-- what a reconcile request finds after the writes of a replica-set reconcile. -/
theorem findErs_applyErs (w : World) (rs0 : ERS) (wr : ErsWrites) (name : String) :
    findErs (applyErs w rs0 wr) name = (findErs w name).map (setStatusOf rs0 wr) := by
  unfold findErs
  rw [applyErs_erss]
  exact find?_map_congr _ _ (fun e => by rw [(setStatusOf_frame rs0 wr e).1, setStatusOf_name]) _

/-- **one round of the cluster machine**: the clock ticks to `t`, the replica set `rs` is reconciled under the fault
pattern `f`, the kubelet installs the pod list `pods'`.  In the world `W` after it the store is the old one with the pods
`pods'`, a request for `rs.name` finds `rs` with the status the masked sync wrote (if any), the daemonset object
is untouched and the clock reads `t`.  (`W` is a variable so that the four conjuncts do not each spell out the run.) -/
theorem round_sim (f : Faults) (w : World) (rs : ERS) (aff : Bool) (t : Time) (pods' : List Pod)
    (hf : findErs w rs.name = some rs) (ht : w.now ≤ t) (W : World)
    (hW : W = runF w [({}, .tick (t - w.now).toNat), (f, .reconcileErs rs.name (fun _ => false) aff),
      ({}, .kubelet pods')]) :
    W.store = { w.store with pods := pods' } ∧
    findErs W rs.name = some { rs with status :=
      (maskErs f (reconcileErs rs w.store (fun _ => false) aff t)).statusUpdate.getD rs.status } ∧
    W.eds = w.eds ∧ W.now = t := by
  have hnow : w.now + ((t - w.now).toNat : Int) = t := by
    rw [Int.toNat_of_nonneg (by omega)]; omega
  have hf1 : findErs (stepF {} w (.tick (t - w.now).toNat)) rs.name = some rs := hf
  rw [hW]
  unfold runF
  simp only [List.foldl_cons, List.foldl_nil]
  rw [stepF_reconcileErs_some _ _ _ _ _ rs hf1]
  refine ⟨rfl, ?_, rfl, hnow⟩
  -- the kubelet step changes the pods only
  show findErs (applyErs (stepF {} w (.tick (t - w.now).toNat)) rs _) rs.name = _
  rw [findErs_applyErs, hf1, Option.map_some, setStatusOf_self]
  show some { rs with status := (maskErs f (reconcileErs rs w.store (fun _ => false) aff
    (w.now + ((t - w.now).toNat : Int)))).statusUpdate.getD rs.status } = _
  rw [hnow]

/-- **one cooperative round of the cluster machine is one cooperative round of C02c** on the store and on the
replica set. -/
theorem coopRound_sim (w : World) (rs : ERS) (aff : Bool) (gen : String → String) (t : Time)
    (hf : findErs w rs.name = some rs) (ht : w.now ≤ t) :
    (run w (coopOps rs.name aff gen t w)).store = coopRoundStore rs aff gen t w.store ∧
    findErs (run w (coopOps rs.name aff gen t w)) rs.name = some (nextErs rs aff t w.store) ∧
    (run w (coopOps rs.name aff gen t w)).eds = w.eds ∧
    (run w (coopOps rs.name aff gen t w)).now = t := by
  have h := round_sim {} w rs aff t (coopRoundStore rs aff gen t w.store).pods hf ht _ rfl
  rw [maskErs_ok] at h
  rw [run_eq_runF]
  unfold coopOps
  rw [hf]
  exact h

/-- **`k` cooperative rounds of the cluster machine are `k` cooperative rounds of C02c.** -/
theorem coopRunW_sim (w : World) (rs : ERS) (aff : Bool) (gen : String → String) (clock : Nat → Time)
    (hf : findErs w rs.name = some rs) (h0 : w.now ≤ clock 0) (hmono : ∀ k, clock k ≤ clock (k + 1)) (k : Nat) :
    (coopRunW rs.name aff gen clock k w).store = (coopRun aff gen clock k (rs, w.store)).2 ∧
    findErs (coopRunW rs.name aff gen clock k w) rs.name = some (coopRun aff gen clock k (rs, w.store)).1 ∧
    (coopRun aff gen clock k (rs, w.store)).1.name = rs.name ∧
    (coopRunW rs.name aff gen clock k w).eds = w.eds ∧
    (coopRunW rs.name aff gen clock k w).now ≤ clock k := by
  induction k with
  | zero => exact ⟨rfl, hf, rfl, rfl, h0⟩
  | succ k ih =>
    obtain ⟨h1, h2, h3, h4, h5⟩ := ih
    rw [coopRunW_succ]
    obtain ⟨g1, g2, g3, g4⟩ := coopRound_sim (coopRunW rs.name aff gen clock k w) (coopRun aff gen clock k (rs, w.store)).1
      aff gen (clock k) (by rw [h3]; exact h2) h5
    rw [h3, h1] at g1 g2
    rw [h3] at g3 g4
    exact ⟨g1, g2, h3, g3.trans h4, by rw [g4]; exact hmono k⟩

/-! ## 6. The composed liveness theorems at cluster level -/

/-- **The converged cluster** for live replica set `rs` (eligible nodes `fitItems rs items`):
  * `live`     — no canary in progress, `rs` active, its template generation is the hash of spec.template;
  * `pods`     — every eligible node runs exactly one pod of the daemonset, Ready, of the LIVE template, and the
                 daemonset has no other pod (`LiveConverged`);
  * `quiet`    — the replica set a reconcile request for `rs.name` finds is `rs` with a newer status, and its sync
                 writes no pod, at any instant, with any back-off oracle;
  * `leftover` — every other replica set of the daemonset (the former active one after a promotion, the failed one
                 after a rollback) has the "unknown" role and its sync is inert (`C04_unknown_inert`): no pod
                 created, deleted, cleaned up or relabelled, in whatever store holds this daemonset object. -/
structure ClusterConverged (W : World) (rs : ERS) (aff : Bool) (items : List NodeItem) : Prop where
  live : W.eds.status.activeReplicaSet = rs.name ∧ W.eds.status.canary = none ∧
    rs.templateGeneration = W.eds.templateHash
  pods : LiveConverged W.eds rs items (edsPodsOf W.eds W.store)
  quiet : ∃ rs', findErs W rs.name = some rs' ∧ rs' = { rs with status := rs'.status } ∧ SyncQuiet rs' W.store aff
  leftover : ∀ e : ERS, e.name ≠ rs.name → ersRole W.eds e.name = "unknown" ∧
    ∀ (st : ErsStore) (released : String → Bool) (aff' : Bool) (now : Time), ersOwner e st = some W.eds →
      (reconcileErs e st released aff' now).creates = [] ∧
      (reconcileErs e st released aff' now).deletes = [] ∧
      (reconcileErs e st released aff' now).cleanupDeletes = [] ∧
      (reconcileErs e st released aff' now).labelAdds = [] ∧
      (reconcileErs e st released aff' now).labelRemoves = []

section Cluster
variable {w w' W : World} {rs rs' : ERS} {t : Template} {aff : Bool} {gen : String → String} {items : List NodeItem}

/-- the converged cluster from the converged store: `W` holds the daemonset object of `w'`, in which `rs` is live. -/
theorem ClusterConverged.of_store (L : LiveOn w' rs) (heds : W.eds = w'.eds) (hfind : findErs W rs.name = some rs')
    (hrs : ∃ s, rs' = { rs with status := s }) (hpods : LiveConverged W.eds rs items (edsPodsOf W.eds W.store))
    (hquiet : SyncQuiet rs' W.store aff) : ClusterConverged W rs aff items where
  live := by rw [heds]; exact ⟨L.active, L.noCanary, L.gen⟩
  pods := hpods
  quiet := ⟨rs', hfind, by obtain ⟨s, rfl⟩ := hrs; rfl, hquiet⟩
  leftover e hne := by
    rw [heds]
    exact ⟨ersRole_unknown_of_live L hne, fun st released aff' now ho => leftover_inert L e hne st released aff' now ho⟩

/-- **from the end of the canary to the converged cluster**: whatever daemonset reconcile(s) led from `w` to `w'`
(promotion or rollback) and ended the canary with `rs` live on template `t`, if the C02c hypotheses hold in `w`
for `rs` then `k ≥ liveBound` cooperative rounds of `rs` in the cluster machine reach the converged cluster, with
spec.template still `t`. -/
theorem CanaryEnded.converges (R : CanaryEnded w w' rs t)
    (hdef : isDefaulted w.eds.strategy w.eds.templateName = true) (E : LiveEnv w rs aff)
    (hfind : findErs w rs.name = some rs)
    (S : CoopStore w.eds rs gen items w.store) (hK : StratOk w.eds (fitItems rs items).length)
    (hinj : ∀ x y, gen x = gen y → x = y) (clock : Nat → Time) (h0 : w.now ≤ clock 0)
    (hclock : ∀ k, clock k + max 0 (ersFreq w.eds) ≤ clock (k + 1)) (G : GateFree w.eds rs (clock 0))
    (k : Nat) (hk : liveBound w rs items ≤ k) :
    ClusterConverged (coopRunW rs.name aff gen clock k w') rs aff items ∧
    (coopRunW rs.name aff gen clock k w').eds.template = t := by
  obtain ⟨C, S', hK', G'⟩ := coop_premises_of_live R.live R.frame hdef E (Or.inl R.annotations) S hK (clock 0) G
  have hclock' : ∀ k, clock k + max 0 (ersFreq w'.eds) ≤ clock (k + 1) := by
    rw [ersFreq_congr R.frame.strategy]; exact hclock
  have hmono : ∀ k, clock k ≤ clock (k + 1) := fun k => by have := hclock k; omega
  obtain ⟨_, _, _, c4, c5, c6⟩ := C02_converges_store C S' hK' hinj clock hclock' G' k
    (by rw [edsPods_of_frame R.frame]; exact hk)
  obtain ⟨hs, _⟩ := coopRun_inv C S' hK' hinj clock hclock' G' k
  obtain ⟨s1, s2, _, s4, _⟩ := coopRunW_sim w' rs aff gen clock (R.find hfind) (by rw [R.frame.now]; exact h0) hmono k
  refine ⟨ClusterConverged.of_store R.live s4 s2 hs ?_ (by rw [s1]; exact c6), by rw [s4]; exact R.template⟩
  unfold LiveConverged
  rw [s1, s4, ← R.live.gen]
  exact ⟨c4, c5⟩

end Cluster

/-- **the leftover replica sets stutter.**  Once no canary is in progress with `rs` live, a reconcile of ANY other
replica set `name' ≠ rs.name` — the former active one after a promotion, the failed canary after a rollback —
changes neither the daemonset object, nor a pod, nor a node, nor the clock, nor `rs`: the store the replica-set
controller reads is the same and a request for `rs.name` finds the same replica set (only the leftover's own
status may be rewritten).  Such steps can therefore be interleaved anywhere between the cooperative rounds below
without any effect on them. -/
theorem L3Live_leftover_stutter {W : World} {rs : ERS} (L : LiveOn W rs) (name' : String) (hne : name' ≠ rs.name)
    (rel : String → Bool) (aff' : Bool) :
    (step W (.reconcileErs name' rel aff')).store = W.store ∧
    findErs (step W (.reconcileErs name' rel aff')) rs.name = findErs W rs.name ∧
    (step W (.reconcileErs name' rel aff')).eds = W.eds ∧
    (step W (.reconcileErs name' rel aff')).now = W.now := by
  cases hfe : findErs W name' with
  | none =>
    have : step W (.reconcileErs name' rel aff') = W := by simp only [step, hfe]
    rw [this]; exact ⟨rfl, rfl, rfl, rfl⟩
  | some e =>
    rw [step_reconcileErs_some W name' rel aff' e hfe]
    obtain ⟨_, _, hen⟩ := findErs_ns hfe
    have hquiet : (ersWrites W e rel aff').noPodWrite := by
      unfold ersWrites
      cases ho : ersOwner e W.store with
      | none => exact reconcileErs_noPodWrite_of_no_owner e W.store rel aff' W.now ho
      | some d =>
        cases ersOwner_store ho
        obtain ⟨h1, h2, h3, h4, h5⟩ := leftover_inert L e (by rw [hen]; exact hne) W.store rel aff' W.now ho
        exact ⟨h3, h4, h5, h2, h1⟩
    obtain ⟨q1, q2, q3, q4, q5⟩ := hquiet
    have hpods : (applyErs W e (ersWrites W e rel aff')).pods = W.pods := by
      rw [applyErs_pods, q5, List.map_nil, List.append_nil]
      exact (List.map_congr_left fun p _ => podPatch_id _ _ _ _ (fun _ => by rw [q1, q4, q2, q3]; simp)).trans
        (List.map_id _)
    refine ⟨?_, ?_, rfl, rfl⟩
    · show ({ edss := [W.eds], nodes := W.nodes, pods := (applyErs W e (ersWrites W e rel aff')).pods,
              settings := W.settings, daemonsets := W.daemonsets } : ErsStore) = W.store
      rw [hpods]; rfl
    · rw [findErs_applyErs]
      cases hfr : findErs W rs.name with
      | none => rfl
      | some r =>
        rw [Option.map_some, setStatusOf_of_ne e _ (by rw [(findErs_ns hfr).2.2, hen]; exact fun h => hne h.symm)]

section Final
variable {w : World} {a u : ERS} {c : Canary} {aff : Bool} {gen : String → String} {items : List NodeItem}

/-- **`L3Live_converges_after_promotion`.**  A canary is in progress in `w` (`a` active, `u ≠ a` up to date) and the
promotion rule of C05 holds at `w.now`.  Under the hypotheses of `C02_converges_store` for the replica set `u`
that is about to become live — cooperative store, strategy parameters ≥ 1, not paused / frozen, no settings, rounds
at least `max 0 reconcileFrequency` apart starting at or after `w.now`, no gate firing at the first one — the run

    `reconcileEds nn m`  ::  `k` cooperative rounds of `u`      (k ≥ liveBound w u items = 2·outdated + empty)

of the cluster machine ends in the converged cluster for `u`: every eligible node runs exactly one Ready pod of
spec.template — which the promotion left unchanged — and nothing else, further syncs of `u` write nothing, and
the former active replica set `a` (like every other replica set) is a leftover whose sync is inert. -/
theorem L3Live_converges_after_promotion (H : CanaryWorld w a u c) (hdue : PromotionDue c w.eds.annotations u w.now)
    (E : LiveEnv w u aff) (hfind : findErs w u.name = some u)
    (S : CoopStore w.eds u gen items w.store) (hK : StratOk w.eds (fitItems u items).length)
    (hinj : ∀ x y, gen x = gen y → x = y) (clock : Nat → Time) (h0 : w.now ≤ clock 0)
    (hclock : ∀ k, clock k + max 0 (ersFreq w.eds) ≤ clock (k + 1)) (G : GateFree w.eds u (clock 0))
    (nn m : String) (k : Nat) (hk : liveBound w u items ≤ k) :
    ClusterConverged (coopRunW u.name aff gen clock k (step w (.reconcileEds nn m))) u aff items ∧
    (coopRunW u.name aff gen clock k (step w (.reconcileEds nn m))).eds.templateHash = w.eds.templateHash ∧
    (coopRunW u.name aff gen clock k (step w (.reconcileEds nn m))).eds.template = w.eds.template ∧
    ersRole (coopRunW u.name aff gen clock k (step w (.reconcileEds nn m))).eds a.name = "unknown" := by
  obtain ⟨CC, htpl⟩ := (L3Live_promotion_writes H hdue nn m _ (BothWrites.full w m)).converges H.defaulted E hfind S hK
    hinj clock h0 hclock G k hk
  exact ⟨CC, CC.live.2.2.symm.trans H.uGen, htpl, (CC.leftover a H.ne).1⟩

/-- **`L3Live_converges_after_rollback`.**  A FAILED canary is in progress in `w` (`u` carries a true Canary-Failed
condition and is not validated; `a ≠ u` is active).  Under the hypotheses of `C02_converges_store` for the
previously (and still) active replica set `a`, both runs

    `reconcileEds nn m`  ::  `k` cooperative rounds of `a`
    `reconcileEds nn m` with the spec write dropped  ::  `reconcileEds nn' m'`  ::  `k` cooperative rounds of `a`

(k ≥ liveBound w a items) end in the converged cluster for `a`: spec.template is `a`'s template again (the live
template is the previously active one), every eligible node runs exactly one Ready pod of it and nothing else,
further syncs of `a` write nothing, and the failed `u` is a leftover whose sync is inert. -/
theorem L3Live_converges_after_rollback (H : CanaryWorld w a u c) (hf : isCanaryFailed (some u) = true)
    (hv : isCanaryValid w.eds.annotations u.name = false)
    (E : LiveEnv w a aff) (hfind : findErs w a.name = some a)
    (S : CoopStore w.eds a gen items w.store) (hK : StratOk w.eds (fitItems a items).length)
    (hinj : ∀ x y, gen x = gen y → x = y) (clock : Nat → Time) (h0 : w.now ≤ clock 0)
    (hclock : ∀ k, clock k + max 0 (ersFreq w.eds) ≤ clock (k + 1)) (G : GateFree w.eds a (clock 0))
    (nn m : String) (k : Nat) (hk : liveBound w a items ≤ k) :
    (ClusterConverged (coopRunW a.name aff gen clock k (step w (.reconcileEds nn m))) a aff items ∧
      (coopRunW a.name aff gen clock k (step w (.reconcileEds nn m))).eds.templateHash = a.templateGeneration ∧
      (coopRunW a.name aff gen clock k (step w (.reconcileEds nn m))).eds.template = a.template ∧
      ersRole (coopRunW a.name aff gen clock k (step w (.reconcileEds nn m))).eds u.name = "unknown") ∧
    (∀ (f : Faults) (nn' m' : String), f.edsSpec = false →
      ClusterConverged
        (coopRunW a.name aff gen clock k (step (stepF f w (.reconcileEds nn m)) (.reconcileEds nn' m'))) a aff items ∧
      (coopRunW a.name aff gen clock k (step (stepF f w (.reconcileEds nn m)) (.reconcileEds nn' m'))).eds.templateHash
        = a.templateGeneration ∧
      (coopRunW a.name aff gen clock k (step (stepF f w (.reconcileEds nn m)) (.reconcileEds nn' m'))).eds.template
        = a.template ∧
      ersRole (coopRunW a.name aff gen clock k (step (stepF f w (.reconcileEds nn m)) (.reconcileEds nn' m'))).eds u.name
        = "unknown") := by
  have hne : u.name ≠ a.name := fun h => H.ne h.symm
  refine ⟨?_, fun f nn' m' hp => ?_⟩
  · obtain ⟨CC, htpl⟩ := (L3Live_rollback_writes H hf hv nn m _ (BothWrites.full w m)).1.converges H.defaulted E hfind
      S hK hinj clock h0 hclock G k hk
    exact ⟨CC, CC.live.2.2.symm, htpl, (CC.leftover u hne).1⟩
  · obtain ⟨CC, htpl⟩ := (L3Live_rollback_retry H hf hv nn m _ (SpecDropped.mask f w m hp) nn' m').1.converges
      H.defaulted E hfind S hK hinj clock h0 hclock G k hk
    exact ⟨CC, CC.live.2.2.symm, htpl, (CC.leftover u hne).1⟩

end Final

end Eds

/-! ## 7. Non-vacuity: a two-node cluster in the middle of a canary

Daemonset `ns/d` (defaulted, auto canary of 10 minutes on one node, maxUnavailable 1, reconcile frequency 10 s);
spec.template has hash `new`; replica set `d-old` (template `old`) is active and runs `old-2` on node `n2`, replica
set `d-new` (template `new`, created at 0) is the canary and runs `d-new-n1` on the canary node `n1`. -/
namespace Eds.ExLive
open Eds Eds.Cluster

def edsL (ann : SMap := []) : EDS := { exEds04 true with templateHash := "new", annotations := ann }

def ersL (name tg : String) (conds : List Cond := []) : ERS :=
  { exErs04 name tg conds with annotations := [⟨K.templateHashAnnot, tg⟩] }

def failedL : Cond := ⟨"Canary-Failed", "True", 30 * sec, 30 * sec, "", ""⟩

def podsL : List Pod := [exPod04 "d-new-n1" "n1" "d-new" "new" true, exPod04 "old-2" "n2" "d-old" "old"]

/-- the canary has run for 11 minutes: the promotion rule holds. -/
def wP : World :=
  { eds := edsL, erss := [ersL "d-old" "old", ersL "d-new" "new"], pods := podsL,
    nodes := [(exNode01 "n1").node, (exNode01 "n2").node], settings := [], daemonsets := [], now := 11 * minute }

/-- one minute into the canary the canary replica set has been marked failed. -/
def wR : World := { wP with erss := [ersL "d-old" "old", ersL "d-new" "new" [failedL]], now := minute }

def aL : ERS := ersL "d-old" "old"
def uL : ERS := ersL "d-new" "new"
def uF : ERS := ersL "d-new" "new" [failedL]
def cL : Canary := (exStrategy04).canary.getD default
def itemsL : List NodeItem := [exNode01 "n1", exNode01 "n2"]
def genNew (n : String) : String := "d-new-" ++ n
def genOld (n : String) : String := "d-old-" ++ n
def clockP (k : Nat) : Time := 11 * minute + (k : Int) * (10 * sec)
def clockR (k : Nat) : Time := minute + (k : Int) * (10 * sec)

theorem genNew_inj : ∀ x y, genNew x = genNew y → x = y := fun _ _ h => (String.append_right_inj "d-new-").mp h
theorem genOld_inj : ∀ x y, genOld x = genOld y → x = y := fun _ _ h => (String.append_right_inj "d-old-").mp h

/-! ### the hypotheses of `L3Live_promotion_step` / `L3Live_converges_after_promotion` -/

theorem canaryWorldP : CanaryWorld wP aL uL cL := by decide +kernel

theorem dueP : PromotionDue cL wP.eds.annotations uL wP.now := by decide +kernel

theorem envP : LiveEnv wP uL true where
  named := by decide +kernel
  notPaused := by decide +kernel
  notFrozen := by decide +kernel
  noOldDs := by decide +kernel
  affOk := by decide +kernel

theorem edsPodsL : edsPodsOf wP.eds wP.store = podsL := by rfl

/-- a generated name `pre ++ m` is not the name `nm` when the two differ within the prefix. -/
theorem gen_ne (pre nm : String) (cs ds : List Char) (e1 : pre.toList = cs) (e2 : nm.toList = ds)
    (hdiff : ∀ rest, cs ++ rest ≠ ds) (m : String) : pre ++ m ≠ nm := by
  intro hm
  have h2 := congrArg String.toList hm
  rw [String.toList_append, e1, e2] at h2
  exact hdiff _ h2

/-- no generated name collides with a stored pod of another node. -/
theorem genNewFresh : ∀ q ∈ podsL, ∀ m, genNew m = q.name → m = q.nodeName := by
  intro q hq m hm
  simp only [podsL, List.mem_cons, List.mem_nil_iff, or_false] at hq
  rcases hq with rfl | rfl
  · exact (String.append_right_inj "d-new-").mp hm
  · exact absurd hm (gen_ne "d-new-" _ ['d', '-', 'n', 'e', 'w', '-'] ['o', 'l', 'd', '-', '2'] (by decide +kernel) (by decide +kernel)
      (by intro rest h; simp at h) m)

theorem genOldFresh : ∀ q ∈ podsL, ∀ m, genOld m = q.name → m = q.nodeName := by
  intro q hq m hm
  simp only [podsL, List.mem_cons, List.mem_nil_iff, or_false] at hq
  rcases hq with rfl | rfl
  · exact absurd hm (gen_ne "d-old-" _ ['d', '-', 'o', 'l', 'd', '-'] ['d', '-', 'n', 'e', 'w', '-', 'n', '1']
      (by decide +kernel) (by decide +kernel) (by intro rest h; simp at h) m)
  · exact absurd hm (gen_ne "d-old-" _ ['d', '-', 'o', 'l', 'd', '-'] ['o', 'l', 'd', '-', '2'] (by decide +kernel) (by decide +kernel)
      (by intro rest h; simp at h) m)

theorem storeP : CoopStore wP.eds uL genNew itemsL wP.store where
  owner := by decide +kernel
  hitems := by decide +kernel
  noSetting := by decide +kernel
  nodesNodup := by decide +kernel
  nodeNamed := by decide +kernel
  hashOk := by decide +kernel
  settled := by rw [edsPodsL]; decide +kernel
  onePer := by rw [edsPodsL]; exact onePerNode_of_nodup (by decide +kernel)
  nameNode := by rw [edsPodsL]; decide +kernel
  genFresh := by rw [edsPodsL]; exact genNewFresh

theorem stratP : StratOk wP.eds (fitItems uL itemsL).length :=
  StratOk.of_spec _ _ (by decide +kernel) (by decide +kernel) (by decide +kernel) (by decide +kernel) (by decide +kernel)

theorem clockP_ok : ∀ k, clockP k + max 0 (ersFreq wP.eds) ≤ clockP (k + 1) := by
  intro k
  have : ersFreq wP.eds = 10 * sec := by decide
  rw [this]
  unfold clockP sec
  push_cast
  omega

theorem gateP : GateFree wP.eds uL (clockP 0) := by
  intro c hc
  cases hc

theorem findP : findErs wP uL.name = some uL := by decide +kernel

/-- one outdated node (`n2` runs the old template), no empty node: two rounds suffice.  (Named: the bound is
evaluated once and used again by the convergence example below; likewise `liveBoundR`.) -/
theorem liveBoundP : liveBound wP uL itemsL = 2 := by decide +kernel
example : liveBound wP uL itemsL = 2 := liveBoundP

/-- `L3Live_promotion_step` applied. -/
example : LiveOn (step wP (.reconcileEds "x" "auto")) uL ∧
    (step wP (.reconcileEds "x" "auto")).eds.templateHash = "new" :=
  let h := L3Live_promotion_step canaryWorldP dueP "x" "auto"
  ⟨h.1, h.2.2.1⟩

/-- `L3Live_converges_after_promotion` applied: promotion, then two cooperative rounds of `d-new`. -/
example : ClusterConverged (coopRunW "d-new" true genNew clockP 2 (step wP (.reconcileEds "x" "auto"))) uL true itemsL :=
  (L3Live_converges_after_promotion canaryWorldP dueP envP findP storeP stratP genNew_inj clockP (by decide +kernel)
    clockP_ok gateP "x" "auto" 2 (Nat.le_of_eq liveBoundP)).1

/-! ### the hypotheses of `L3Live_rollback_steps` / `L3Live_converges_after_rollback` -/

theorem canaryWorldR : CanaryWorld wR aL uF cL := by decide +kernel

theorem failedR : isCanaryFailed (some uF) = true := by decide +kernel
theorem notValidR : isCanaryValid wR.eds.annotations uF.name = false := by decide

theorem envR : LiveEnv wR aL true where
  named := by decide +kernel
  notPaused := by decide +kernel
  notFrozen := by decide +kernel
  noOldDs := by decide +kernel
  affOk := by decide +kernel

theorem edsPodsR : edsPodsOf wR.eds wR.store = podsL := edsPodsL

theorem storeR : CoopStore wR.eds aL genOld itemsL wR.store where
  owner := by decide +kernel
  hitems := by decide +kernel
  noSetting := by decide +kernel
  nodesNodup := by decide +kernel
  nodeNamed := by decide +kernel
  hashOk := by decide +kernel
  settled := by rw [edsPodsR]; decide +kernel
  onePer := by rw [edsPodsR]; exact onePerNode_of_nodup (by decide +kernel)
  nameNode := by rw [edsPodsR]; decide +kernel
  genFresh := by rw [edsPodsR]; exact genOldFresh

theorem stratR : StratOk wR.eds (fitItems aL itemsL).length :=
  StratOk.of_spec _ _ (by decide +kernel) (by decide +kernel) (by decide +kernel) (by decide +kernel) (by decide +kernel)

theorem clockR_ok : ∀ k, clockR k + max 0 (ersFreq wR.eds) ≤ clockR (k + 1) := by
  intro k
  have : ersFreq wR.eds = 10 * sec := by decide
  rw [this]
  unfold clockR sec
  push_cast
  omega

theorem gateR : GateFree wR.eds aL (clockR 0) := by
  intro c hc
  cases hc

theorem findR : findErs wR aL.name = some aL := by decide +kernel

/-- one outdated node (the canary node `n1` runs the failed template), no empty node. -/
theorem liveBoundR : liveBound wR aL itemsL = 2 := by decide +kernel
example : liveBound wR aL itemsL = 2 := liveBoundR

/-- `L3Live_rollback_steps` applied: in one step, and in two when the spec write of the first is dropped. -/
example : LiveOn (step wR (.reconcileEds "x" "auto")) aL ∧
    LiveOn (step (stepF { edsSpec := false } wR (.reconcileEds "x" "auto")) (.reconcileEds "y" "auto")) aL :=
  let h := L3Live_rollback_steps canaryWorldR failedR notValidR "x" "auto"
  ⟨h.1.1, (h.2 { edsSpec := false } "y" "auto" rfl).1⟩

/-- `L3Live_converges_after_rollback` applied (both runs). -/
example :
    ClusterConverged (coopRunW "d-old" true genOld clockR 2 (step wR (.reconcileEds "x" "auto"))) aL true itemsL ∧
    ClusterConverged (coopRunW "d-old" true genOld clockR 2
      (step (stepF { edsSpec := false } wR (.reconcileEds "x" "auto")) (.reconcileEds "y" "auto"))) aL true itemsL :=
  let h := L3Live_converges_after_rollback canaryWorldR failedR notValidR envR findR storeR stratR genOld_inj clockR
    (by decide +kernel) clockR_ok gateR "x" "auto" 2 (Nat.le_of_eq liveBoundR)
  ⟨h.1.1, (h.2 { edsSpec := false } "y" "auto" rfl).1⟩

/-! ### the runs, evaluated -/

/-- (active, canary block, hash of spec.template). -/
def viewE (w : World) : String × Option CanaryStatus × String :=
  (w.eds.status.activeReplicaSet, w.eds.status.canary, w.eds.templateHash)
/-- pods as (name, node, template hash, Ready). -/
def viewP (w : World) : List (String × String × Option String × Bool) :=
  w.pods.map (fun p => (p.name, p.nodeName, SMap.get? p.annotations K.templateHashAnnot, p.ready))
/-- both. -/
def viewL (w : World) : (String × Option CanaryStatus × String) × List (String × String × Option String × Bool) :=
  (viewE w, viewP w)

/-- promotion: the canary block goes, `d-new` is active, spec.template stays `new`; round 1 deletes `old-2`, round 2
creates the `new` pod on `n2`. -/
example : viewL (step wP (.reconcileEds "x" "auto")) =
    (("d-new", none, "new"), [("d-new-n1", "n1", some "new", true), ("old-2", "n2", some "old", true)]) := by decide +kernel
example : viewL (coopRunW "d-new" true genNew clockP 1 (step wP (.reconcileEds "x" "auto"))) =
    (("d-new", none, "new"), [("d-new-n1", "n1", some "new", true)]) := by decide +kernel
example : viewL (coopRunW "d-new" true genNew clockP 2 (step wP (.reconcileEds "x" "auto"))) =
    (("d-new", none, "new"), [("d-new-n1", "n1", some "new", true), ("d-new-n2", "n2", some "new", true)]) := by decide +kernel
/-- the bound is attained: one round is not enough. -/
example : ¬ ClusterConverged (coopRunW "d-new" true genNew clockP 1 (step wP (.reconcileEds "x" "auto"))) uL true itemsL := by
  intro h
  obtain ⟨p, hp, _⟩ := h.pods.1 (exNode01 "n2") (by decide +kernel)
  have hnil : (edsPodsOf (coopRunW "d-new" true genNew clockP 1 (step wP (.reconcileEds "x" "auto"))).eds
      (coopRunW "d-new" true genNew clockP 1 (step wP (.reconcileEds "x" "auto"))).store).filter
      (fun q => q.nodeName == (exNode01 "n2").node.name) = [] := by decide +kernel
  rw [hnil] at hp
  cases hp
/-- one minute earlier the rule does not hold and the reconcile does not promote. -/
example : ¬ PromotionDue cL wP.eds.annotations uL (10 * minute) ∧
    (step { wP with now := 10 * minute } (.reconcileEds "x" "auto")).eds.status.activeReplicaSet = "d-old" := by decide +kernel

/-- rollback: the canary block goes, `d-old` stays active, spec.template is `old` again; round 1 deletes the failed
canary pod, round 2 creates the `old` pod on `n1`. -/
example : viewL (step wR (.reconcileEds "x" "auto")) =
    (("d-old", none, "old"), [("d-new-n1", "n1", some "new", true), ("old-2", "n2", some "old", true)]) := by decide +kernel
example : viewL (coopRunW "d-old" true genOld clockR 2 (step wR (.reconcileEds "x" "auto"))) =
    (("d-old", none, "old"), [("old-2", "n2", some "old", true), ("d-old-n1", "n1", some "old", true)]) := by decide +kernel
/-- the spec write dropped: the status is rolled back, spec.template still `new`; the second reconcile restores it. -/
example : viewL (stepF { edsSpec := false } wR (.reconcileEds "x" "auto")) =
    (("d-old", none, "new"), [("d-new-n1", "n1", some "new", true), ("old-2", "n2", some "old", true)]) := by decide +kernel
example : viewL (step (stepF { edsSpec := false } wR (.reconcileEds "x" "auto")) (.reconcileEds "y" "auto")) =
    (("d-old", none, "old"), [("d-new-n1", "n1", some "new", true), ("old-2", "n2", some "old", true)]) := by decide +kernel
/-- the leftover replica sets exist and are inert: a sync of `d-old` after the promotion, of `d-new` after the
rollback, writes no pod although its own pod is still there. -/
example : (ersWrites (step wP (.reconcileEds "x" "auto")) aL (fun _ => true) true).noPodWrite ∧
    (ersWrites (step wR (.reconcileEds "x" "auto")) uF (fun _ => true) true).noPodWrite := by decide +kernel

/-! ### the other theorems applied -/

/-- `L3Live_promotion_premises` / `L3Live_rollback_premises`: the premises of `C02_converges_store` after the step. -/
example : CoopSetup (step wP (.reconcileEds "x" "auto")).eds uL true :=
  (L3Live_promotion_premises canaryWorldP dueP envP storeP stratP (clockP 0) gateP "x" "auto").1
example : CoopSetup (step wR (.reconcileEds "x" "auto")).eds aL true :=
  (L3Live_rollback_premises canaryWorldR failedR notValidR envR storeR stratR (clockR 0) gateR "x" "auto").1

/-- `L3Live_promotion_writes`: the clean-up deletions fail, the promotion still goes through. -/
example : LiveOn (stepF { ersDelete := fun _ => false } wP (.reconcileEds "x" "auto")) uL :=
  (L3Live_promotion_writes canaryWorldP dueP "x" "auto" _
    (BothWrites.mask { ersDelete := fun _ => false } wP "auto" rfl rfl)).live

/-- `L3Live_rollback_pending`: status AND spec write dropped — the failed canary is still in progress. -/
example : CanaryWorld (stepF { edsStatus := false, edsSpec := false } wR (.reconcileEds "x" "auto")) aL uF cL :=
  (L3Live_rollback_pending canaryWorldR failedR notValidR "x" "auto" _ (SpecDropped.mask _ wR "auto" rfl)).1

/-- `L3Live_leftover_stutter`: after the promotion a sync of the former active `d-old` changes nothing the rounds
of `d-new` read; after the rollback the same for the failed `d-new`. -/
example : (step (step wP (.reconcileEds "x" "auto")) (.reconcileErs "d-old" (fun _ => true) true)).store =
    (step wP (.reconcileEds "x" "auto")).store :=
  (L3Live_leftover_stutter (L3Live_promotion_step canaryWorldP dueP "x" "auto").1 "d-old" (by decide +kernel) _ _).1
example : (step (step wR (.reconcileEds "x" "auto")) (.reconcileErs "d-new" (fun _ => true) true)).store =
    (step wR (.reconcileEds "x" "auto")).store :=
  (L3Live_leftover_stutter (L3Live_rollback_steps canaryWorldR failedR notValidR "x" "auto").1.1 "d-new" (by decide +kernel) _ _).1

/-- the other disjunct of the promotion rule: the canary-valid annotation names `d-new` — one minute into the canary,
and although it carries a failure mark, the reconcile promotes it (which is why the rollback theorems assume
`isCanaryValid … = false`). -/
def wV : World := { wR with eds := edsL [⟨K.canaryValidAnnot, "d-new"⟩] }

theorem canaryWorldV : CanaryWorld wV aL uF cL :=
  canaryWorldR.transfer id (fun _ => rfl) (List.map_id _).symm rfl rfl rfl rfl

example : PromotionDue cL wV.eds.annotations uF wV.now ∧ isCanaryFailed (some uF) = true := by decide +kernel
example : LiveOn (step wV (.reconcileEds "x" "auto")) uF :=
  (L3Live_promotion_step canaryWorldV (by decide +kernel) "x" "auto").1
example : viewE (step wV (.reconcileEds "x" "auto")) = ("d-new", none, "new") := by decide +kernel

end Eds.ExLive
