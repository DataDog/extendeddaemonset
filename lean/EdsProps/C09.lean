import EdsProofs.Rolling
import EdsSpec.C09
/-
  C09 — Pod creation is rate limited by slow start and syncs are spaced.
-/
namespace Eds
open Spec.C09

/-- `calculateMaxCreation` with a resolved increase and both pointers set: no slow start for a
non-positive interval, else the ramp capped by `maxParallelPodCreation`. -/
theorem calculateMaxCreation_eq (x : Option IntOrStr) (iv mp N start now inc : Int)
    (hx : resolveIntOrPercent x N = some inc) :
    calculateMaxCreation x (some iv) (some mp) N start now =
      .ok (if iv ≤ 0 then mp else min mp ((1 + Int.tdiv (now - start) iv) * inc)) := by
  unfold calculateMaxCreation
  rw [hx]
  by_cases hiv : iv ≤ 0
  · simp only [hiv, if_true]
  · have hne : (iv == 0) = false := by simpa using (by omega : iv ≠ 0)
    simp only [hiv, if_false, goDiv, hne, Bool.false_eq_true, Int.min_def]
    congr 1
    split <;> split <;> omega

/-- **Ramp.** For a positive interval and a clock not behind the activation instant, the creation
cap is `min maxParallelPodCreation ((1 + ⌊t / interval⌋) · increase)`, percentages resolved against
the number of targeted nodes (rounding up). -/
theorem C09_ramp (inc : Option IntOrStr) (iv mp nbNodes start now incv : Int)
    (hinc : resolveIntOrPercent inc nbNodes = some incv) (hiv : 0 < iv) (ht : start ≤ now) :
    calculateMaxCreation inc (some iv) (some mp) nbNodes start now
      = .ok (min mp ((1 + (now - start) / iv) * incv)) := by
  rw [calculateMaxCreation_eq inc iv mp nbNodes start now incv hinc, if_neg (by omega),
    Int.tdiv_eq_ediv_of_nonneg (by omega)]

/-- the reference formula of the specification is what the model computes, wherever it is defined. -/
theorem C09_ramp_ref (ru : RollingUpdate) (nbNodes start now v : Int)
    (h : rampRef ru nbNodes start now = some v) :
    calculateMaxCreation ru.slowStartAdditiveIncrease ru.slowStartInterval ru.maxParallelPodCreation nbNodes start now
      = .ok v := by
  unfold rampRef at h
  split at h
  · rename_i inc iv mp hinc hiv hmp
    split at h
    · rename_i hc
      simp only [Bool.and_eq_true, decide_eq_true_eq] at hc
      simp only [Option.some.injEq] at h
      rw [hiv, hmp, C09_ramp _ iv mp nbNodes start now inc hinc hc.1 hc.2, h]
    · simp at h
  · simp at h

/-- **Create bound.** One sync of the active role creates at most the cap, and only on nodes
lacking a pod. -/
theorem C09_create_bound (c : Counts) (N ms mu mc : Int) (paused frozen : Bool) :
    ((rollingPlan c N ms mu mc paused frozen).1.length : Int) ≤ max 0 mc ∧
    (rollingPlan c N ms mu mc paused frozen).1.length ≤ c.toCreate.length := by
  unfold rollingPlan
  simp only [calcLimits]
  split
  · simp only [List.length_take]
    constructor <;> omega
  · simp; omega

/-- through `manageDeployment`: the number of creations of a successful sync is bounded by the ramp. -/
theorem C09_sync_create_bound (p : StratParams) (now wall : Time) (cf : Bool) (r : StratResult)
    (h : manageDeployment p now wall cf = .ok r) :
    ∃ mc, calculateMaxCreation p.strategy.rollingUpdate.slowStartAdditiveIncrease
        p.strategy.rollingUpdate.slowStartInterval p.strategy.rollingUpdate.maxParallelPodCreation
        (targeted p).length (rollingUpdateStartTime p.ers.status now) now = .ok mc ∧
      (r.createE.length : Int) ≤ max 0 mc := by
  obtain ⟨ms, mu, mc, _, _, hmc, hc, _⟩ := manageDeployment_plan p now wall cf r h
  exact ⟨mc, hmc, by rw [hc]; exact (C09_create_bound _ _ ms mu mc _ _).1⟩

/-- **Delete bound** (= C03_cap): at most maxUnavailable update-deletions per sync. -/
theorem C09_delete_bound (c : Counts) (N ms mu mc : Int) (paused frozen : Bool) :
    ((rollingPlan c N ms mu mc paused frozen).2.length : Int) ≤ max 0 mu := plan_cap c N ms mu mc paused frozen

/-- the ramp starts at the activation instant: the transition time of a true Active condition, else now. -/
theorem C09_start_time (st : ERSStatus) (now : Time) :
    rollingUpdateStartTime st now =
      match findCond st.conds "Active" with
      | some c => if c.status == "True" then c.lastTransition else now
      | none => now := rfl

example : calculateMaxCreation (some ⟨"int", 2⟩) (some minute) (some 250) 10 0 (3 * minute + 5) = .ok 8 := by decide +kernel
example : calculateMaxCreation (some ⟨"pct", 10⟩) (some minute) (some 3) 25 0 (2 * minute) = .ok 3 := by decide +kernel

end Eds
