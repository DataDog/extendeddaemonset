import EdsProofs.BridgeStatus
import EdsProofs.ReconcileEds
/-
  EdsProps.C14s — C14 / C07 clauses stated directly about the Lean definitions that the translator regenerates
  from `manageStatus`, `manageCanaryStatusConditions` and `clearCanaryAnnotations`
  (controllers/extendeddaemonset/controller.go) on every run (EdsModel/Generated/DecStatus.lean), obtained along
  the `src_*` bridges of EdsProofs/BridgeStatus.lean.  Statements about what the code says *now*; `none` is a panic.
-/
namespace Eds

namespace Src
export Eds.Generated.Decisions (manageStatus manageCanaryStatusConditions clearCanaryAnnotations)
end Src

/-- `manageStatus` never panics on non-nil arguments, and the state it reports is one of the six the API documents. -/
theorem C14_src_state_total (st : EDSStatus) (u : ERS) (ca f p : Bool) (pr : String) (g : GEds) :
    ∃ st', Src.manageStatus (some st) (some u) ca f p pr (some g) = some (some st') ∧
      (st'.state = "Canary Failed" ∨ st'.state = "Canary" ∨ st'.state = "Canary Paused" ∨
       st'.state = "Rollout frozen" ∨ st'.state = "RollingUpdate Paused" ∨ st'.state = "Running") := by
  refine ⟨_, Bridge.src_manageStatus st u ca f p pr g, ?_⟩
  have hn : Eds.nonCanaryState g.annotations = "Rollout frozen" ∨
      Eds.nonCanaryState g.annotations = "RollingUpdate Paused" ∨ Eds.nonCanaryState g.annotations = "Running" := by
    unfold Eds.nonCanaryState
    split
    · exact Or.inl rfl
    · split
      · exact Or.inr (Or.inl rfl)
      · exact Or.inr (Or.inr rfl)
  unfold Eds.manageStatus
  cases f <;> cases ca <;> cases p <;> simp <;> rcases hn with h | h | h <;> simp [h]

/-- C07 / C14: a failed canary clears `status.canary` and reports `Canary Failed`, whatever the other arguments —
also when the up-to-date replica set or the daemonset pointer is nil. -/
theorem C14_src_failed_clears_canary (st : EDSStatus) (u : Option ERS) (ca p : Bool) (pr : String) (g : Option GEds) :
    ∃ st', Src.manageStatus (some st) u ca true p pr g = some (some st') ∧
      st'.canary = none ∧ st'.state = "Canary Failed" ∧ st'.reason = "" ∧
      st'.activeReplicaSet = st.activeReplicaSet ∧ st'.conds = st.conds :=
  ⟨_, Bridge.src_manageStatus_failed st u ca p pr g, rfl, rfl, rfl, rfl, rfl⟩

/-- C14: while a canary is active (and not failed) the canary block names the up-to-date replica set and keeps its
node list; the state is `Canary` / `Canary Paused` with the pause reason. -/
theorem C14_src_canary_block (st : EDSStatus) (u : ERS) (p : Bool) (pr : String) (g : GEds) :
    ∃ st', Src.manageStatus (some st) (some u) true false p pr (some g) = some (some st') ∧
      (st'.canary.map (·.replicaSet)) = some u.name ∧
      (st'.canary.map (·.nodes)) = some ((st.canary.map (·.nodes)).getD []) ∧
      st'.state = (if p then "Canary Paused" else "Canary") ∧ st'.reason = (if p then pr else "") ∧
      st'.upToDate = u.status.current ∧ st'.desired = st.desired + u.status.desired := by
  refine ⟨_, Bridge.src_manageStatus st u true false p pr g, ?_⟩
  unfold Eds.manageStatus
  cases p <;> cases st.canary <;> simp

/-- C14: the two canary conditions of the ExtendedDaemonSet status tell the truth after
`manageCanaryStatusConditions`: Canary-Failed is true iff failed, Canary-Paused iff paused and not failed. -/
theorem C14_src_canary_conditions (st : EDSStatus) (now : Time) (f p : Bool) (pr name : String) :
    ∃ st', Src.manageCanaryStatusConditions (some st) now f p pr name = some (some st') ∧
      isCondTrue st'.conds "Canary-Failed" = f ∧ isCondTrue st'.conds "Canary-Paused" = (p && !f) :=
  ⟨_, Bridge.src_manageCanaryStatusConditions st now f p pr name, mcsc_failed .., mcsc_paused ..⟩

/-- C07: after `clearCanaryAnnotations` none of the three canary annotations is left, every other annotation is
kept, and the result tells whether anything was removed. -/
theorem C07_src_annotations_cleared (g : GEds) :
    ∃ g' b, Src.clearCanaryAnnotations (some g) = some (b, some g') ∧
      SMap.contains g'.annotations K.canaryPausedAnnot = false ∧
      SMap.contains g'.annotations K.canaryPausedReasonAnnot = false ∧
      SMap.contains g'.annotations K.canaryUnpausedAnnot = false ∧
      (∀ e ∈ g.annotations, e.k ≠ K.canaryPausedAnnot → e.k ≠ K.canaryPausedReasonAnnot → e.k ≠ K.canaryUnpausedAnnot →
        e ∈ g'.annotations) ∧
      (b = false → g'.annotations = g.annotations) ∧ g'.spec = g.spec ∧ g'.status = g.status := by
  refine ⟨_, _, Bridge.src_clearCanaryAnnotations g, ?_, ?_, ?_, ?_, ?_, rfl, rfl⟩
  all_goals simp only [Eds.clearCanaryAnnotations, Bridge.smap_contains_any]
  · simp [List.any_filter]; intro x _ h1 _ _; exact h1
  · simp [List.any_filter]; intro x _ _ h2 _; exact h2
  · simp [List.any_filter]
  · intro e he h1 h2 h3
    simp [List.mem_filter, he, h1, h2, h3]
  · intro hb
    rw [List.filter_eq_self]
    intro e he
    simp only [List.any_cons, List.any_nil, Bool.or_false, Bool.or_eq_false_iff] at hb
    obtain ⟨h1, h2, h3⟩ := hb
    have a1 := List.any_eq_false.mp h1 e he
    have a2 := List.any_eq_false.mp h2 e he
    have a3 := List.any_eq_false.mp h3 e he
    simp only [beq_iff_eq] at a1 a2 a3
    simp [a1, a2, a3]

end Eds
