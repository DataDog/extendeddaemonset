import EdsModel
import EdsSpec.C20
import EdsProofs.Lists
/-
  C20 — Exported metrics match object status and label values match their keys.
-/
namespace Eds
open Spec.C20

theorem insertPair_isInsert :
    IsInsert insertPair (fun p q => (p.1 < q.1 || (p.1 == q.1 && p.2 < q.2)) = true) :=
  ⟨fun _ => rfl, fun _ _ _ => rfl⟩

/-- **Pairs.** The label-info pairs are, as a multiset, exactly the sanitised key of every label
paired with the value of that same label (covers colliding keys and the empty map). -/
theorem C20_pairs (labels : SMap) :
    (buildInfoLabels labels).Perm (labels.map (fun e => (sanitizeLabelName e.k, e.v))) :=
  insertPair_isInsert.foldr_perm _

/-- key list and value list have the same length as the label map. -/
theorem C20_lengths (labels : SMap) : (buildInfoLabels labels).length = labels.length := by
  simpa using (C20_pairs labels).length_eq

/-- **Sanitiser.** Every character of a sanitised key is a legal Prometheus name character. -/
theorem C20_sanitize_legal (s : String) : ∀ c ∈ (sanitizeLabelName s).toList, legal c = true := by
  intro c hc
  unfold sanitizeLabelName at hc
  simp only [String.toList_ofList, List.mem_map] at hc
  obtain ⟨a, _, rfl⟩ := hc
  split
  · rename_i h
    simp only [Bool.or_eq_true, Bool.and_eq_true, decide_eq_true_eq, beq_iff_eq] at h
    rcases h with ⟨h1, _⟩ | h
    · unfold legal
      simp only [Char.isAlphanum, Char.isAlpha, Bool.or_eq_true] at h1
      rcases h1 with (h1 | h1) | h1 <;> simp [h1]
    · subst h; decide
  · decide

/-- the sanitiser is the identity on legal ASCII names. -/
theorem C20_sanitize_id (s : String) (h : ∀ c ∈ s.toList, (c.isAlphanum && c.val < 128) = true) :
    sanitizeLabelName s = s := by
  unfold sanitizeLabelName
  rw [List.map_congr_left (g := id) fun c hc => by simp [h c hc], List.map_id]
  exact String.ofList_toList

example : buildInfoLabels [⟨"app.kubernetes.io/name", "x"⟩, ⟨"a-b", "1"⟩, ⟨"a.b", "2"⟩]
    = [("a_b", "1"), ("a_b", "2"), ("app_kubernetes_io_name", "x")] := by decide +kernel

/-! ### the gauges

`gaugeOf` looks a family up in the literal list of samples of one object: it passes over the samples of
the other families (`gaugeOf_cons_of_ne`, the names being different string literals) and stops at the
first of its own (`gaugeOf_cons_self`). -/

theorem gaugeOf_cons_of_ne {s : Sample} {l : List Sample} {f : String} (h : s.family ≠ f) :
    gaugeOf (s :: l) f = gaugeOf l f := by
  unfold gaugeOf
  rw [List.find?_cons_of_neg (by simpa using h)]

theorem gaugeOf_cons_self (f : String) (v : Int) (ls : List (String × String)) (l : List Sample) :
    gaugeOf (⟨f, v, ls⟩ :: l) f = some v := by
  unfold gaugeOf
  rw [List.find?_cons_of_pos (by simp)]
  rfl

/-- **Gauges = status (ExtendedDaemonSet).** For every object, the series generated for it report the
status fields: counters, canary activated / paused / node number, rolling-update-paused, rollout-frozen. -/
theorem C20_eds_gauges (d : EDS) : edsGauges d.status (gaugeOf (edsSamples d)) = true := by
  simp only [edsGauges, edsSamples, gaugeOf_cons_self, gaugeOf_cons_of_ne, ne_eq, String.reduceEq, not_false_eq_true,
    beq_self_eq_true, Bool.and_self, Bool.true_and, Bool.and_true]
  cases d.status.canary <;> exact beq_self_eq_true _

/-- **Gauges = status (replica set).** -/
theorem C20_ers_gauges (e : ERS) : ersGauges e.status (gaugeOf (ersSamples e)) = true := by
  simp only [ersGauges, ersSamples, gaugeOf_cons_self, gaugeOf_cons_of_ne, ne_eq, String.reduceEq, not_false_eq_true,
    beq_self_eq_true, Bool.and_self]

/-- the paused series is 1 only when the Canary-Paused condition is *True* (a stored False entry,
left behind by an unpause, reports 0). -/
theorem C20_canary_paused_needs_true (d : EDS) (h : isCondTrue d.status.conds "Canary-Paused" = false) :
    gaugeOf (edsSamples d) "eds_status_canary_paused" = some 0 := by
  simp only [edsSamples, gaugeOf_cons_self, gaugeOf_cons_of_ne, ne_eq, String.reduceEq, not_false_eq_true, h,
    Bool.and_false, Bool.false_eq_true, if_false]

/-- the label-info series of both generators carry the namespace, the name and the `C20_pairs` pairs. -/
theorem C20_info_series (d : EDS) :
    ((edsSamples d).find? (fun s => s.family == "eds_labels")).map (·.labels)
      = some (baseLabels d.ns d.name ++ buildInfoLabels d.labels) := by
  unfold edsSamples
  rw [List.find?_cons_of_pos (by simp)]
  rfl

end Eds
