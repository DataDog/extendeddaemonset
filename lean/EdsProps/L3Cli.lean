import EdsProofs.L3Cli
/-
  L3Cli — property C19 at cluster level: the kubectl-eds commands as operations of the cluster machine
  (`OpC`, `stepC`, `runC` of EdsModel/ClusterCli.lean) and how the controller's NEXT reconciles interpret them.

  EdsProps/C19.lean proves the frame / refusal / interpretation theorems per FUNCTION (`cliRun`, `manageStatus`,
  `selectCurrent`, …).  Here the same statements are runs of the machine of EdsModel/Cluster.lean: the command is a
  step (`.cli cmd`), the controller's answer is the following `reconcileEds` step(s).  Helpers (the shape of a `cli`
  step, `cli_settles`: what a command leaves behind): EdsProofs/L3Cli.lean.

  Standing hypotheses where a canary is running
    `CanaryWorld w a u c`       (EdsProps/L3Live.lean) `a` active, `u ≠ a` up to date, canary strategy `c`, L3 invariants
    `CanaryRunning w u c cs`    (EdsProofs/L3Cli.lean) `status.canary = some cs`, `cs.replicaSet = u.name`, the node
                                selection is settled (requested number = `cs.nodes.length`), `u` has not failed
  Theorems
    1  `L3C_frame`, `L3C_frame_ers`, `L3C_refused_noop`, `L3C_invariants_cli`, `runC_inv`, `L3C_invariants_runC`
       (NamesNodup, HashesNodup, AnnotGen, CanaryNodup)
    2  `L3C_canary_continues` (the reconcile of a continuing canary), then
       (a) `L3C_pause_then_reconcile`   (b) `L3C_unpause_then_reconcile`   (c) `L3C_validate_exact`, `L3C_validate_not_later`
       (d) `L3C_fail_rolls_back`, `L3C_fail_converges`   (e) `L3C_rupause_refused_during_canary`, `L3C_freeze_refused_during_canary`
    3  `Eds.ExCli`: the theorems applied to / the runs evaluated on the worlds of `Eds.ExLive`.
-/
namespace Eds
open Cluster Spec.C19

/-! ## 1. Frame -/

/-- what a kubectl-eds command never touches: pods, nodes, settings, DaemonSets, the clock, and every field of the
ExtendedDaemonSet except its annotations (spec.template and its hash, the strategy, the whole status). -/
structure CliFrame (w w' : World) : Prop where
  pods : w'.pods = w.pods
  nodes : w'.nodes = w.nodes
  settings : w'.settings = w.settings
  daemonsets : w'.daemonsets = w.daemonsets
  now : w'.now = w.now
  eds : w'.eds = { w.eds with annotations := w'.eds.annotations }

/-- **Frame at L3 (ExtendedDaemonSet side).**  A command changes nothing but annotations of the ExtendedDaemonSet,
and among them only the documented keys: every lookup outside `documentedKeys cmd` is unchanged and the entries
outside them are literally the same list.  `canary fail` does not touch the daemonset at all. -/
theorem L3C_frame (w : World) (cmd : CliCmd) :
    CliFrame w (stepC w (.cli cmd)) ∧
    (∀ k, (documentedKeys cmd).contains k = false →
      SMap.get? (stepC w (.cli cmd)).eds.annotations k = SMap.get? w.eds.annotations k) ∧
    (stepC w (.cli cmd)).eds.annotations.filter (fun e => !(documentedKeys cmd).contains e.k) =
      w.eds.annotations.filter (fun e => !(documentedKeys cmd).contains e.k) ∧
    (cmd = .canaryFail → (stepC w (.cli cmd)).eds = w.eds) := by
  rw [stepC_cli_eq]
  refine ⟨⟨rfl, rfl, rfl, rfl, rfl, rfl⟩, ?_, ?_, ?_⟩
  · intro k hk
    show SMap.get? (cliAnn w cmd) k = _
    unfold cliAnn
    split
    · rename_i ann hr
      exact C19_frame_get cmd _ _ _ ann hr k hk
    · rfl
  · show (cliAnn w cmd).filter _ = _
    unfold cliAnn
    split
    · rename_i ann hr
      exact C19_frame_entries cmd _ _ _ ann hr
    · rfl
  · rintro rfl
    show ({ w.eds with annotations := cliAnn w .canaryFail } : EDS) = w.eds
    rw [cliAnn_fail]

/-- **Frame at L3 (replica-set side).**  The replica-set list after a command is the same list with, at most, the
Canary-Failed condition of the CANARY replica set rewritten: an object is touched only by `canary fail`, only when it
is the replica set `status.canary.replicaSet` names in the daemonset's namespace, and then only its status
conditions change — the Canary-Failed one reads True afterwards, the conditions of every other type are the same
list.  Every other command leaves the replica-set list alone. -/
theorem L3C_frame_ers (w : World) (cmd : CliCmd) :
    (stepC w (.cli cmd)).erss = w.erss.map (cliErsMap w cmd) ∧
    (cmd ≠ .canaryFail → (stepC w (.cli cmd)).erss = w.erss) ∧
    (∀ e : ERS, cliErsMap w cmd e = e ∨
      (cmd = .canaryFail ∧ w.eds.strategy.canary.isSome = true ∧
        (∃ cs, w.eds.status.canary = some cs ∧ e.name = cs.replicaSet) ∧ e.ns = w.eds.ns ∧
        cliErsMap w cmd e = { e with status := { e.status with conds := cliFailConds e.status.conds w.now } } ∧
        isCondTrue (cliFailConds e.status.conds w.now) "Canary-Failed" = true ∧
        (cliFailConds e.status.conds w.now).filter (fun c => c.type != "Canary-Failed") =
          e.status.conds.filter (fun c => c.type != "Canary-Failed"))) := by
  refine ⟨by rw [stepC_cli_eq], ?_, ?_⟩
  · intro h
    rw [stepC_cli_eq]
    show w.erss.map (cliErsMap w cmd) = w.erss
    conv => rhs; rw [← List.map_id w.erss]
    exact List.map_congr_left (fun e _ => cliErsMap_of_ne_fail w cmd h e)
  · intro e
    unfold cliErsMap
    split
    · rename_i name hr
      have hcmd := C19_only_fail_touches_ers cmd _ _ _ name hr
      subst hcmd
      obtain ⟨h1, cs, h2, h3⟩ := C19_fail_only_canary_ers _ _ _ name hr
      by_cases hm : (e.ns == w.eds.ns && e.name == name) = true
      · right
        simp only [Bool.and_eq_true, beq_iff_eq] at hm
        refine ⟨rfl, h1, ⟨cs, h2, hm.2.trans h3⟩, hm.1, ?_, cliFailConds_true _ _, cliFailConds_other _ _⟩
        simp [hm.1, hm.2, failErsObj]
      · left
        simp [hm]
    · left; rfl

/-- **A refused command is a no-op.** -/
theorem L3C_refused_noop (w : World) (cmd : CliCmd) (why : String) (h : cliOut w cmd = .refused why) :
    stepC w (.cli cmd) = w := by
  show applyCli w (cliOut w cmd) = w
  rw [h]; rfl

/-- … in particular whenever the documented precondition fails, or the object already is in the requested state. -/
theorem L3C_refused_of_precondition (w : World) (cmd : CliCmd)
    (h : precondition cmd w.eds.strategy.canary.isSome w.eds.status.canary = false ∨
         C19.already cmd w.eds.status.canary w.eds.annotations = true) :
    stepC w (.cli cmd) = w := by
  rcases h with h | h
  · obtain ⟨why, hw⟩ := C19_refuses cmd _ _ w.eds.annotations h
    exact L3C_refused_noop w cmd why hw
  · obtain ⟨why, hw⟩ := C19_refuses_already cmd w.eds.strategy.canary.isSome _ _ h
    exact L3C_refused_noop w cmd why hw

/-! ### the L3 invariants are preserved by `stepC` -/

/-- a command rewrites at most statuses of replica sets and annotations of the daemonset: the L3 invariants of the
own replica sets and of the canary node list survive it. -/
theorem L3C_invariants_cli (w : World) (cmd : CliCmd)
    (h : NamesNodup w ∧ HashesNodup w ∧ AnnotGen w ∧ CanaryNodup w) :
    NamesNodup (stepC w (.cli cmd)) ∧ HashesNodup (stepC w (.cli cmd)) ∧ AnnotGen (stepC w (.cli cmd)) ∧
    CanaryNodup (stepC w (.cli cmd)) := by
  obtain ⟨hn, hh, hg⟩ := own_status_map_inv _ (cliErsMap_eq w cmd) (stepC_cli_own w cmd)
  exact ⟨hn h.1, hh h.2.1, hg h.2.2.1, by unfold CanaryNodup; rw [stepC_cli_status]; exact h.2.2.2⟩

/-- the side condition `C` of an L3 step theorem, asked of the L3 ops of a run with commands. -/
def RunOkC (C : World → Op → Prop) : World → List OpC → Prop
  | _, [] => True
  | w, .op o :: ops => C w o ∧ RunOkC C (stepC w (.op o)) ops
  | w, .cli cmd :: ops => RunOkC C (stepC w (.cli cmd)) ops

instance RunOkC.dec {C : World → Op → Prop} [∀ w op, Decidable (C w op)] :
    ∀ (w : World) (ops : List OpC), Decidable (RunOkC C w ops)
  | _, [] => isTrue trivial
  | w, .op o :: ops => @instDecidableAnd _ _ inferInstance (RunOkC.dec (stepC w (.op o)) ops)
  | w, .cli cmd :: ops => RunOkC.dec (stepC w (.cli cmd)) ops

/-- induction over runs with commands: a step invariant of the L3 machine (side condition `C` on its ops) that
every command preserves holds along the run. -/
theorem runC_inv {P : World → Prop} {C : World → Op → Prop} (hop : ∀ w o, P w → C w o → P (step w o))
    (hcli : ∀ w cmd, P w → P (stepC w (.cli cmd))) :
    ∀ (ops : List OpC) (w : World), P w → RunOkC C w ops → P (runC w ops)
  | [], _, h, _ => h
  | .op o :: ops, w, h, hok => runC_inv hop hcli ops _ (hop w o h hok.1) hok.2
  | .cli cmd :: ops, w, h, hok => runC_inv hop hcli ops _ (hcli w cmd h) hok

/-- the four invariants along every run with commands (fresh names for created replica sets). -/
theorem L3C_invariants_runC (w : World) (ops : List OpC)
    (h : NamesNodup w ∧ HashesNodup w ∧ AnnotGen w ∧ CanaryNodup w) (hf : RunOkC OpFresh w ops) :
    NamesNodup (runC w ops) ∧ HashesNodup (runC w ops) ∧ AnnotGen (runC w ops) ∧ CanaryNodup (runC w ops) :=
  runC_inv (P := fun w => NamesNodup w ∧ HashesNodup w ∧ AnnotGen w ∧ CanaryNodup w)
    (fun w o h hc => ⟨L3_namesNodup_step w o h.1 hc, L3_hashesNodup_step w o h.2.1, L3_annotGen_step w o h.2.2.1,
      L3_canaryNodup_step w o h.2.2.2⟩)
    L3C_invariants_cli ops w h hf

/-- a canary in progress is still in progress after any command (the command rewrites at most `u`'s status). -/
theorem L3C_canaryWorld_cli {w : World} {a u : ERS} {c : Canary} (H : CanaryWorld w a u c) (cmd : CliCmd) :
    CanaryWorld (stepC w (.cli cmd)) (cliErsMap w cmd a) (cliErsMap w cmd u) c :=
  H.transfer (cliErsMap w cmd) (cliErsMap_eq w cmd) (stepC_cli_own w cmd)
    (by rw [stepC_cli_eq]) (by rw [stepC_cli_eq]) (by rw [stepC_cli_eq]) (by rw [stepC_cli_eq])

/-! ## 2. Interpretation -/

section Continues
variable {w : World} {a u : ERS} {c : Canary} {cs : CanaryStatus}

/-- **the daemonset reconcile of a continuing canary.**  A canary is running and settled, and
`selectCurrentReplicaSet` keeps the active replica set (no validation, and paused or not yet ended).  Then one
reconcile (all writes applied) reports `Canary Paused` when the pause reader answers true and `Canary` otherwise;
the active replica set and the canary block are unchanged; spec.template, its hash and the annotations are
unchanged; and the canary is still in progress and still running (with `status.desired` the sum of both replica sets'). -/
theorem L3C_canary_continues (H : CanaryWorld w a u c) (R : CanaryRunning w u c cs)
    (hsel : (selectCurrent (some c) w.eds.annotations (some a) u false w.now).1 = .active) (nn m : String) :
    (step w (.reconcileEds nn m)).eds.status.state =
      (if (isCanaryPaused w.eds.annotations (some u)).1 then "Canary Paused" else "Canary") ∧
    (step w (.reconcileEds nn m)).eds.status.activeReplicaSet = a.name ∧
    (step w (.reconcileEds nn m)).eds.status.canary = some cs ∧
    (step w (.reconcileEds nn m)).eds.status.desired = a.status.desired + u.status.desired ∧
    (step w (.reconcileEds nn m)).eds.annotations = w.eds.annotations ∧
    (step w (.reconcileEds nn m)).eds.templateHash = w.eds.templateHash ∧
    (step w (.reconcileEds nn m)).eds.template = w.eds.template ∧
    EdsFrame w (step w (.reconcileEds nn m)) ∧
    CanaryWorld (step w (.reconcileEds nn m)) a u c := by
  rw [step_reconcileEds]
  obtain ⟨F, hsl, hkept⟩ := H.reconcile_frame (EdsSub.refl (edsWrites w m)) nn
  have hcur : (currentOf w.eds w.own u w.now).1 = a :=
    currentOf_of_active w.eds w.own u a w.now c H.canary H.activeLookup hsel
  have hupd : edsUpd w.eds w.own a u w.pods w.nodes w.now = _ :=
    updateInstance_running w.eds a u _ _ _ w.now (ownPods w.eds w.pods) w.nodes c cs H.canary H.ne R.notFailed
      R.block R.settled
  obtain ⟨hst, hann, hhash⟩ := H.reconcile_eds (BothWrites.full w m) nn hcur (by rw [hupd])
  have hhash' : (applyEds w (edsWrites w m) nn).eds.templateHash = w.eds.templateHash := by rw [hhash, hupd]
  have hact := H.reconcile_active (EdsSub.refl (edsWrites w m)) nn hcur
  rw [hupd] at hst
  simp only [] at hst
  refine ⟨?_, hact, ?_, ?_, by rw [hann, hupd], hhash', by rw [applyEds_template, hhash', restoreTemplate_same], F,
    H.of_reconcile F hsl (hkept a H.aOwn (Or.inl (by rw [hcur]))).1 (hkept u H.uOwn (Or.inr rfl)).1 hhash' hact⟩
  · rw [hst, C08_canary_state]
    cases (isCanaryPaused w.eds.annotations (some u)).1 <;> rfl
  · rw [hst, manageStatus_active]
    show some ({ (w.eds.status.canary.getD { replicaSet := "", nodes := [] }) with replicaSet := u.name } : CanaryStatus) = _
    rw [R.block, ← R.named]
    rfl
  · rw [hst, manageStatus_active]
    rfl

end Continues

/-- a canary in progress after a command that is not `canary fail`: same `a`, same `u`. -/
theorem L3C_canaryWorld_cli_ne_fail {w : World} {a u : ERS} {c : Canary} (H : CanaryWorld w a u c) (cmd : CliCmd)
    (h : cmd ≠ .canaryFail) : CanaryWorld (stepC w (.cli cmd)) a u c := by
  have := L3C_canaryWorld_cli H cmd
  rwa [cliErsMap_of_ne_fail w cmd h, cliErsMap_of_ne_fail w cmd h] at this

section
-- keys are compared by `simp` on the literals (`decide` would have the kernel run each string comparison)
attribute [local simp] documentedKeys K.canaryValidAnnot K.canaryPausedAnnot K.canaryUnpausedAnnot

/-- `canary pause` and `canary unpause` do not touch the canary-valid annotation. -/
theorem cli_pause_keeps_valid (w : World) (cmd : CliCmd) (h : cmd = .canaryPause ∨ cmd = .canaryUnpause) (n : String) :
    isCanaryValid (stepC w (.cli cmd)).eds.annotations n = isCanaryValid w.eds.annotations n := by
  unfold isCanaryValid
  rw [(L3C_frame w cmd).2.1 K.canaryValidAnnot (by rcases h with rfl | rfl <;> simp)]

end

/-! ### (a) pause -/

/-- **(a)**  A canary is running (settled, not failed, not validated).  After
`kubectl eds canary pause`, ANY amount `d` of elapsed time and one daemonset reconcile: `status.state` is
`Canary Paused`, the active replica set and the canary block are unchanged, spec.template and its hash are unchanged —
the canary is NOT promoted however late the clock is — and the canary is still in progress (and running). -/
theorem L3C_pause_then_reconcile {w : World} {a u : ERS} {c : Canary} {cs : CanaryStatus}
    (H : CanaryWorld w a u c) (R : CanaryRunning w u c cs)
    (hv : isCanaryValid w.eds.annotations u.name = false) (d : Nat) (nn m : String) :
    let w' := step (step (stepC w (.cli .canaryPause)) (.tick d)) (.reconcileEds nn m)
    w'.eds.status.state = "Canary Paused" ∧
    w'.eds.status.activeReplicaSet = a.name ∧ w'.eds.status.activeReplicaSet = w.eds.status.activeReplicaSet ∧
    w'.eds.status.canary = some cs ∧ w'.eds.status.canary = w.eds.status.canary ∧
    w'.eds.templateHash = w.eds.templateHash ∧ w'.eds.template = w.eds.template ∧
    SMap.get? w'.eds.annotations K.canaryPausedAnnot = some "true" ∧
    w'.eds.status.desired = a.status.desired + u.status.desired ∧
    CanaryWorld w' a u c := by
  intro w'
  have H1 := (L3C_canaryWorld_cli_ne_fail H .canaryPause nofun).tick d
  have R1 : CanaryRunning (step (stepC w (.cli .canaryPause)) (.tick d)) u c cs :=
    R.of_status (stepC_cli_status w .canaryPause)
  have hpa : SMap.get? (step (stepC w (.cli .canaryPause)) (.tick d)).eds.annotations K.canaryPausedAnnot = some "true" :=
    pause_annotation w c cs H.canary R.block
  have hp : (isCanaryPaused (step (stepC w (.cli .canaryPause)) (.tick d)).eds.annotations (some u)).1 = true := by
    rw [C08_pause_sources, hpa]; simp
  have hv1 : isCanaryValid (step (stepC w (.cli .canaryPause)) (.tick d)).eds.annotations u.name = false :=
    (cli_pause_keeps_valid w _ (Or.inl rfl) _).trans hv
  obtain ⟨h1, h2, h3, h4, h5, h6, h7, _, h9⟩ :=
    L3C_canary_continues H1 R1 (C05_paused_never_by_time c _ a u _ hp hv1) nn m
  rw [hp] at h1
  exact ⟨h1, h2, h2.trans H.active.symm, h3, h3.trans R.block.symm,
    h6.trans (stepC_cli_template w .canaryPause).1, h7.trans (stepC_cli_template w .canaryPause).2,
    by rw [h5]; exact hpa, h4, h9⟩

/-! ### (b) unpause -/

/-- **(b)**  From a world with a running canary (for instance the result of (a): the
hypotheses are (a)'s conclusions): `kubectl eds canary unpause`, any elapsed time `d`, a sync of the canary replica
set `u` (which rewrites `u`'s status: `u2` below), then one daemonset reconcile.  If after the sync `u2` carries
neither a true Canary-Paused nor a true Canary-Failed condition (what `C08_canary_resumes_on_unpause` / C06 give for a
sync that read the unpaused annotation and found no failing pod) then
  * canary NOT ended at that instant  ⟹ `status.state = "Canary"`, active replica set and canary block unchanged;
  * canary ended (duration elapsed, no recent restart) in auto mode ⟹ the reconcile PROMOTES `u2`: no canary in progress, `u2` active.
In both cases spec.template and its hash are unchanged. -/
theorem L3C_unpause_then_reconcile {w : World} {a u : ERS} {c : Canary} {cs : CanaryStatus}
    (H : CanaryWorld w a u c) (R : CanaryRunning w u c cs)
    (hv : isCanaryValid w.eds.annotations u.name = false) (hfind : findErs w u.name = some u)
    (d : Nat) (rel : String → Bool) (aff : Bool) (nn m : String) :
    let w1 := step (stepC w (.cli .canaryUnpause)) (.tick d)
    let w2 := step w1 (.reconcileErs u.name rel aff)
    let u2 : ERS := { u with status := (ersWrites w1 u rel aff).statusUpdate.getD u.status }
    let w3 := step w2 (.reconcileEds nn m)
    SMap.get? w2.eds.annotations K.canaryPausedAnnot = some "false" ∧
    CanaryWorld w2 a u2 c ∧
    (isCondTrue u2.status.conds "Canary-Paused" = false → isCanaryFailed (some u2) = false →
      ((isCanaryEnded (some c) u2 w2.now).1 = false →
        w3.eds.status.state = "Canary" ∧ w3.eds.status.activeReplicaSet = a.name ∧ w3.eds.status.canary = some cs ∧
        w3.eds.templateHash = w.eds.templateHash ∧ w3.eds.template = w.eds.template ∧ CanaryWorld w3 a u2 c) ∧
      ((isCanaryEnded (some c) u2 w2.now).1 = true → c.validationMode = "auto" →
        LiveOn w3 u2 ∧ w3.eds.status.activeReplicaSet = u.name ∧ w3.eds.status.canary = none ∧
        w3.eds.templateHash = w.eds.templateHash ∧ w3.eds.template = w.eds.template)) := by
  intro w1 w2 u2 w3
  have H1 : CanaryWorld w1 a u c := (L3C_canaryWorld_cli_ne_fail H .canaryUnpause nofun).tick d
  have hfind1 : findErs w1 u.name = some u := by
    show findErs (stepC w (.cli .canaryUnpause)) u.name = some u
    rw [findErs_stepC_cli, hfind, Option.map_some, cliErsMap_of_ne_fail w .canaryUnpause nofun]
  have hw2 : w2 = applyErs w1 u (ersWrites w1 u rel aff) := step_reconcileErs_some w1 u.name rel aff u hfind1
  have hu2 : setStatusOf u (ersWrites w1 u rel aff) u = u2 := setStatusOf_self u _
  have ha2 : setStatusOf u (ersWrites w1 u rel aff) a = a := setStatusOf_of_ne u _ H.ne
  have hown2 : w2.own = w1.own.map (setStatusOf u (ersWrites w1 u rel aff)) := by
    rw [hw2]; exact own_applyErs w1 u _
  have heds2 : w2.eds = (stepC w (.cli .canaryUnpause)).eds := by rw [hw2]; rfl
  have H2 : CanaryWorld w2 a u2 c := by
    have := H1.transfer (w' := w2) (setStatusOf u (ersWrites w1 u rel aff)) (setStatusOf_eq u _) hown2
      (by rw [heds2]; rfl) (by rw [heds2]; rfl) (by rw [heds2]; rfl) (by rw [heds2]; rfl)
    rwa [ha2, hu2] at this
  have hpa : SMap.get? w2.eds.annotations K.canaryPausedAnnot = some "false" := by
    rw [heds2]; exact unpause_annotation w c cs H.canary R.block
  have htpl2 : w2.eds.templateHash = w.eds.templateHash ∧ w2.eds.template = w.eds.template := by
    rw [heds2]; exact stepC_cli_template w .canaryUnpause
  refine ⟨hpa, H2, ?_⟩
  intro hnp2 hnf2
  have R2 : CanaryRunning w2 u2 c cs :=
    ⟨by rw [heds2, stepC_cli_status]; exact R.block, R.named,
     by rw [heds2, stepC_cli_status]; exact R.settled, hnf2⟩
  have hp2 : (isCanaryPaused w2.eds.annotations (some u2)).1 = false := by
    rw [C08_pause_sources, hnp2, hpa]; decide
  have hv2 : isCanaryValid w2.eds.annotations u2.name = false := by
    rw [heds2]; exact (cli_pause_keeps_valid w _ (Or.inr rfl) _).trans hv
  constructor
  · intro he
    have hsel : (selectCurrent (some c) w2.eds.annotations (some a) u2 false w2.now).1 = .active := by
      simp [selectCurrent, hv2, he]
    obtain ⟨h1, h2, h3, _, _, h6, h7, _, h9⟩ := L3C_canary_continues H2 R2 hsel nn m
    rw [hp2] at h1
    exact ⟨h1, h2, h3, h6.trans htpl2.1, h7.trans htpl2.2, h9⟩
  · intro he hm
    obtain ⟨L, _, h1, h2, _⟩ := L3Live_promotion_step H2 (Or.inr ⟨hm, he, hp2, hnf2⟩) nn m
    exact ⟨L, L.active, L.noCanary, h1.trans htpl2.1, h2.trans htpl2.2⟩

/-! ### (c) validate -/

/-- **(c)**  A canary is in progress and the status names `u` as the canary replica set.  After
`kubectl eds canary validate` and one daemonset reconcile, `u` — the replica set that was `status.canary.replicaSet`
when the command ran — is promoted: it is the active replica set, no canary is in progress any more, spec.template
and its hash are unchanged.  No hypothesis on time, pause or failure marks: an explicit validation overrides them. -/
theorem L3C_validate_exact {w : World} {a u : ERS} {c : Canary} {cs : CanaryStatus}
    (H : CanaryWorld w a u c) (hb : w.eds.status.canary = some cs) (hn : cs.replicaSet = u.name) (nn m : String) :
    let w' := step (stepC w (.cli .canaryValidate)) (.reconcileEds nn m)
    isCanaryValid (stepC w (.cli .canaryValidate)).eds.annotations u.name = true ∧
    LiveOn w' u ∧
    w'.eds.status.activeReplicaSet = cs.replicaSet ∧ w'.eds.status.canary = none ∧
    w'.eds.templateHash = w.eds.templateHash ∧ w'.eds.template = w.eds.template ∧
    EdsFrame (stepC w (.cli .canaryValidate)) w' := by
  intro w'
  have H1 := L3C_canaryWorld_cli_ne_fail H .canaryValidate nofun
  have hval : isCanaryValid (stepC w (.cli .canaryValidate)).eds.annotations u.name = true := by
    unfold isCanaryValid
    rw [validate_annotation w cs hb, hn]; simp
  obtain ⟨L, F, h1, h2, _⟩ := L3Live_promotion_step H1 (Or.inl hval) nn m
  exact ⟨hval, L, L.active.trans hn.symm, L.noCanary, h1.trans (stepC_cli_template w .canaryValidate).1,
    h2.trans (stepC_cli_template w .canaryValidate).2, F⟩

/-- **(c, continued)**  The validation names the replica set that was the canary WHEN THE
COMMAND RAN.  If, after `canary validate` and before the next reconcile, the user changes spec.template to a template
no own replica set has (`userSpec` with a new hash `h'`, same strategy and annotations), the next reconcile creates a
NEW up-to-date replica set `n` (named `nn` by the API server) and the reconcile after that does NOT promote it by that
annotation: the annotation still names `u`, `isCanaryValid … n.name = false`, and — `n` being neither paused-exempt nor
old enough to be promoted by time — the active replica set is still `a`. -/
theorem L3C_validate_not_later {w : World} {a u : ERS} {c : Canary} {cs : CanaryStatus}
    (H : CanaryWorld w a u c) (hb : w.eds.status.canary = some cs) (hn : cs.replicaSet = u.name)
    (h' : String) (t' : Template) (nn m nn' m' : String)
    (hnew : ∀ e ∈ w.own, SMap.get? e.annotations K.templateHashAnnot ≠ some h')
    (hfresh : nn ∉ w.own.map (·.name))
    (hd : ∀ d, c.duration = some d → 0 ≤ d) :
    let w1 := stepC w (.cli .canaryValidate)
    let w2 := step w1 (.userSpec h' t' w1.eds.strategy w1.eds.annotations)
    let w3 := step w2 (.reconcileEds nn m)
    let w4 := step w3 (.reconcileEds nn' m')
    let n := ersOfNewAt w2.eds (newReplicaSetFromInstance w2.eds) nn w.now
    w3.own = w.own ++ [n] ∧ upToDateOf w3.eds w3.own = some n ∧ n.name = nn ∧ n.name ≠ u.name ∧
    isCanaryValid w3.eds.annotations u.name = true ∧ isCanaryValid w3.eds.annotations n.name = false ∧
    CanaryWorld w3 a n c ∧
    w4.eds.status.activeReplicaSet = a.name ∧ w4.eds.status.activeReplicaSet ≠ n.name := by
  have hva := validate_annotation w cs hb
  rw [stepC_cli_annotations, hn] at hva
  -- the command patches annotations only: the own replica sets, strategy, status and clock of `w` are those of `w2`
  rw [stepC_cli_ne_fail w .canaryValidate nofun]
  intro w1 w2 w3 w4 n
  have hune : nn ≠ u.name := fun h => hfresh (List.mem_map.2 ⟨u, H.uOwn, h.symm⟩)
  have hane : a.name ≠ nn := fun h => hfresh (List.mem_map.2 ⟨a, H.aOwn, h⟩)
  obtain ⟨heds3, hown3⟩ := step_creates w2 H.defaulted H.valid hnew nn m
  have hmemn : n ∈ w3.own := by rw [hown3]; exact List.mem_append_right _ (List.mem_singleton.mpr rfl)
  have hHashes : HashesNodup w3 := L3_hashesNodup_step w2 (.reconcileEds nn m) H.hashes
  have hAnnot : AnnotGen w3 := L3_annotGen_step w2 (.reconcileEds nn m) H.annotGen
  have hup3 : upToDateOf w3.eds w3.own = some n :=
    upToDate_of_sublist (List.Sublist.refl _) hHashes hAnnot hmemn (by rw [heds3]; rfl)
  have hvu : isCanaryValid w3.eds.annotations u.name = true := by
    unfold isCanaryValid
    rw [heds3]
    show (SMap.get? (cliAnn w .canaryValidate) K.canaryValidAnnot == some u.name) = true
    rw [hva]; simp
  have hvn : isCanaryValid w3.eds.annotations n.name = false := by
    unfold isCanaryValid
    rw [heds3]
    show (SMap.get? (cliAnn w .canaryValidate) K.canaryValidAnnot == some nn) = false
    rw [hva]
    simpa using fun h => hune h.symm
  have H3 : CanaryWorld w3 a n c :=
    { defaulted := by rw [heds3]; exact H.defaulted
      valid := by rw [heds3]; exact H.valid
      canary := by rw [heds3]; exact H.canary
      names := L3_namesNodup_step w2 (.reconcileEds nn m) H.names hfresh
      hashes := hHashes
      annotGen := hAnnot
      aOwn := by rw [hown3]; exact List.mem_append_left _ H.aOwn
      upToDate := hup3
      active := by rw [heds3]; exact H.active
      ne := hane }
  have hsel : (selectCurrent (some c) w3.eds.annotations (some a) n false w3.now).1 = .active := by
    have he : (isCanaryEnded (some c) n w3.now).1 = false := isCanaryEnded_new c n w3.now rfl hd
    simp [selectCurrent, hvn, he]
  have hact4 : w4.eds.status.activeReplicaSet = a.name := H3.reconcile_active (EdsSub.refl (edsWrites w3 m')) nn'
    (currentOf_of_active w3.eds w3.own n a w3.now c H3.canary H3.activeLookup hsel)
  exact ⟨hown3, hup3, rfl, hune, hvu, hvn, H3, hact4, by rw [hact4]; exact hane⟩

/-! ### (d) fail -/

/-- a failed canary is in progress after `canary fail`: `u` carries a true Canary-Failed condition. -/
theorem L3C_canaryWorld_fail {w : World} {a u : ERS} {c : Canary} {cs : CanaryStatus}
    (H : CanaryWorld w a u c) (hb : w.eds.status.canary = some cs) (hn : cs.replicaSet = u.name) :
    CanaryWorld (stepC w (.cli .canaryFail)) a (failErsObj w.now u) c ∧
    isCanaryFailed (some (failErsObj w.now u)) = true ∧
    findErs (stepC w (.cli .canaryFail)) a.name = findErs w a.name := by
  have hout := cliOut_fail H.canary hb
  have hu : cliErsMap w .canaryFail u = failErsObj w.now u := by
    unfold cliErsMap
    rw [hout]
    simp [own_ns H.uOwn, hn]
  have ha' : ∀ e : ERS, e.name = a.name → cliErsMap w .canaryFail e = e := by
    intro e he
    unfold cliErsMap
    rw [hout]
    have : (e.name == cs.replicaSet) = false := by
      rw [he, hn]; simpa using H.ne
    simp [this]
  have := L3C_canaryWorld_cli H .canaryFail
  rw [hu, ha' a rfl] at this
  refine ⟨this, failErsObj_failed _ _, ?_⟩
  rw [findErs_stepC_cli]
  cases hf : findErs w a.name with
  | none => rfl
  | some e =>
    obtain ⟨_, _, hen⟩ := findErs_ns hf
    rw [Option.map_some, ha' e hen]

/-- **(d)**  A canary is in progress, the status names `u` as the canary replica set and the
canary-valid annotation does not name it.  After `kubectl eds canary fail`:
  (one step)  one daemonset reconcile (all writes applied) rolls back: the active replica set is unchanged (`a`),
              the canary block is cleared, spec.template is `a`'s template again (hash `a.templateGeneration`);
  (two steps) when the spec write of that reconcile is dropped, the next reconcile completes the rollback. -/
theorem L3C_fail_rolls_back {w : World} {a u : ERS} {c : Canary} {cs : CanaryStatus}
    (H : CanaryWorld w a u c) (hb : w.eds.status.canary = some cs) (hn : cs.replicaSet = u.name)
    (hv : isCanaryValid w.eds.annotations u.name = false) (nn m : String) :
    let w1 := stepC w (.cli .canaryFail)
    (LiveOn (step w1 (.reconcileEds nn m)) a ∧
      (step w1 (.reconcileEds nn m)).eds.status.activeReplicaSet = w.eds.status.activeReplicaSet ∧
      (step w1 (.reconcileEds nn m)).eds.status.canary = none ∧
      (step w1 (.reconcileEds nn m)).eds.templateHash = a.templateGeneration ∧
      (step w1 (.reconcileEds nn m)).eds.template = a.template ∧
      EdsFrame w1 (step w1 (.reconcileEds nn m))) ∧
    (∀ (f : Faults) (nn' m' : String), f.edsSpec = false →
      LiveOn (step (stepF f w1 (.reconcileEds nn m)) (.reconcileEds nn' m')) a ∧
      (step (stepF f w1 (.reconcileEds nn m)) (.reconcileEds nn' m')).eds.status.activeReplicaSet =
        w.eds.status.activeReplicaSet ∧
      (step (stepF f w1 (.reconcileEds nn m)) (.reconcileEds nn' m')).eds.status.canary = none ∧
      (step (stepF f w1 (.reconcileEds nn m)) (.reconcileEds nn' m')).eds.templateHash = a.templateGeneration ∧
      (step (stepF f w1 (.reconcileEds nn m)) (.reconcileEds nn' m')).eds.template = a.template ∧
      EdsFrame w1 (step (stepF f w1 (.reconcileEds nn m)) (.reconcileEds nn' m'))) := by
  obtain ⟨H1, hf, _⟩ := L3C_canaryWorld_fail H hb hn
  rw [stepC_fail_eq] at H1 ⊢
  obtain ⟨⟨L, F, h1, h2, _, _⟩, h'⟩ := L3Live_rollback_steps H1 hf hv nn m
  exact ⟨⟨L, L.active.trans H.active.symm, L.noCanary, h1, h2, F⟩, fun f nn' m' hp =>
    let ⟨L, F, h1, h2, _, _⟩ := h' f nn' m' hp
    ⟨L, L.active.trans H.active.symm, L.noCanary, h1, h2, F⟩⟩

/-- **(d, continued)** "… and subsequently replaces the canary pods".  Under the hypotheses of
`L3Live_converges_after_rollback` for the active replica set `a` (stated in the world BEFORE the command: the command
touches neither the daemonset, nor a pod, nor a node, nor the clock), the run

    `cli canaryFail` :: `reconcileEds nn m` [:: `reconcileEds nn' m'` when the spec write was dropped] :: `k` rounds of `a`

ends in the converged cluster for `a`: every eligible node runs exactly one Ready pod of `a`'s template, which is
spec.template again, and nothing else; the failed canary replica set is an inert leftover. -/
theorem L3C_fail_converges {w : World} {a u : ERS} {c : Canary} {cs : CanaryStatus} {aff : Bool}
    {gen : String → String} {items : List NodeItem}
    (H : CanaryWorld w a u c) (hb : w.eds.status.canary = some cs) (hn : cs.replicaSet = u.name)
    (hv : isCanaryValid w.eds.annotations u.name = false)
    (E : LiveEnv w a aff) (hfind : findErs w a.name = some a)
    (S : CoopStore w.eds a gen items w.store) (hK : StratOk w.eds (fitItems a items).length)
    (hinj : ∀ x y, gen x = gen y → x = y) (clock : Nat → Time) (h0 : w.now ≤ clock 0)
    (hclock : ∀ k, clock k + max 0 (ersFreq w.eds) ≤ clock (k + 1)) (G : GateFree w.eds a (clock 0))
    (nn m : String) (k : Nat) (hk : liveBound w a items ≤ k) :
    let w1 := stepC w (.cli .canaryFail)
    (ClusterConverged (coopRunW a.name aff gen clock k (step w1 (.reconcileEds nn m))) a aff items ∧
      (coopRunW a.name aff gen clock k (step w1 (.reconcileEds nn m))).eds.template = a.template ∧
      ersRole (coopRunW a.name aff gen clock k (step w1 (.reconcileEds nn m))).eds u.name = "unknown") ∧
    (∀ (f : Faults) (nn' m' : String), f.edsSpec = false →
      ClusterConverged
        (coopRunW a.name aff gen clock k (step (stepF f w1 (.reconcileEds nn m)) (.reconcileEds nn' m'))) a aff items ∧
      (coopRunW a.name aff gen clock k (step (stepF f w1 (.reconcileEds nn m)) (.reconcileEds nn' m'))).eds.template
        = a.template ∧
      ersRole (coopRunW a.name aff gen clock k (step (stepF f w1 (.reconcileEds nn m)) (.reconcileEds nn' m'))).eds u.name
        = "unknown") := by
  -- the command changes the replica-set list only: the hypotheses about `w` are hypotheses about the world after it
  obtain ⟨H1, hf, hfa⟩ := L3C_canaryWorld_fail H hb hn
  rw [stepC_fail_eq] at H1 hfa ⊢
  obtain ⟨⟨C, _, t, r⟩, h'⟩ := L3Live_converges_after_rollback H1 hf hv
    ⟨E.named, E.notPaused, E.notFrozen, E.noOldDs, E.affOk⟩ (hfa.trans hfind) S hK hinj clock h0 hclock G nn m k hk
  exact ⟨⟨C, t, r⟩, fun f nn' m' hp => let ⟨C, _, t, r⟩ := h' f nn' m' hp; ⟨C, t, r⟩⟩

/-! ### (e) rolling-update pause / freeze during a canary -/

/-- **(e)** with `status.canary` set, `rolling-update pause` and `rolling-update unpause` are no-ops of the cluster
machine — whatever `status.state`, the annotations or anything else in the world say. -/
theorem L3C_rupause_refused_during_canary (w : World) (cs : CanaryStatus) (hb : w.eds.status.canary = some cs) :
    stepC w (.cli .ruPause) = w ∧ stepC w (.cli .ruUnpause) = w ∧
    cliOut w .ruPause = .refused "active-canary" ∧ cliOut w .ruUnpause = .refused "active-canary" := by
  have h1 := cliOut_refused_active_canary hb .ruPause (.inl rfl)
  have h2 := cliOut_refused_active_canary hb .ruUnpause (.inr (.inl rfl))
  exact ⟨L3C_refused_noop w _ _ h1, L3C_refused_noop w _ _ h2, h1, h2⟩

/-- **(e)** the same for `rollout freeze` / `rollout unfreeze`. -/
theorem L3C_freeze_refused_during_canary (w : World) (cs : CanaryStatus) (hb : w.eds.status.canary = some cs) :
    stepC w (.cli .freeze) = w ∧ stepC w (.cli .unfreeze) = w ∧
    cliOut w .freeze = .refused "active-canary" ∧ cliOut w .unfreeze = .refused "active-canary" := by
  have h1 := cliOut_refused_active_canary hb .freeze (.inr (.inr (.inl rfl)))
  have h2 := cliOut_refused_active_canary hb .unfreeze (.inr (.inr (.inr rfl)))
  exact ⟨L3C_refused_noop w _ _ h1, L3C_refused_noop w _ _ h2, h1, h2⟩

end Eds

/-! ## 3. Non-vacuity: the commands on the two-node cluster of `Eds.ExLive` -/
namespace Eds.ExCli
open Eds Eds.Cluster Eds.ExLive

def csL : CanaryStatus := { replicaSet := "d-new", nodes := ["n1"] }

/-- one minute into the canary (`wR` without the failure mark): running, settled, not promoted by time yet. -/
def wC : World := { wP with now := minute }

theorem canaryWorldC : CanaryWorld wC aL uL cL :=
  canaryWorldP.transfer id (fun _ => rfl) (List.map_id _).symm rfl rfl rfl rfl

theorem runningC : CanaryRunning wC uL cL csL := ⟨by decide +kernel, by decide +kernel, by decide +kernel, by decide +kernel⟩
theorem runningP : CanaryRunning wP uL cL csL := ⟨by decide +kernel, by decide +kernel, by decide +kernel, by decide +kernel⟩
theorem notValidC : isCanaryValid wC.eds.annotations uL.name = false := by decide

/-- (state, active, canary block, hash of spec.template). -/
def viewC (w : World) : String × String × Option CanaryStatus × String :=
  (w.eds.status.state, w.eds.status.activeReplicaSet, w.eds.status.canary, w.eds.templateHash)

/-! ### frame, refusals, invariants -/

example : (stepC wC (.cli .canaryPause)).eds.annotations =
    [⟨K.canaryPausedAnnot, "true"⟩, ⟨K.canaryUnpausedAnnot, "false"⟩] := by decide +kernel
example : (stepC wC (.cli .canaryValidate)).eds.annotations = [⟨K.canaryValidAnnot, "d-new"⟩] := by decide +kernel
example : CliFrame wC (stepC wC (.cli .canaryPause)) := (L3C_frame wC .canaryPause).1
/-- `canary fail` rewrites the canary replica set's conditions and nothing else. -/
example : (stepC wC (.cli .canaryFail)).erss =
    [ersL "d-old" "old", ersL "d-new" "new" [⟨"Canary-Failed", "True", minute, minute, "Manually failed", ""⟩]] ∧
    (stepC wC (.cli .canaryFail)).eds = wC.eds ∧ (stepC wC (.cli .canaryFail)).pods = wC.pods := by decide +kernel
/-- an earlier `False` entry is rewritten in place (F12): the command is not shadowed. -/
example : cliFailConds [⟨"Canary-Failed", "False", 0, 0, "", ""⟩] 5 = [⟨"Canary-Failed", "True", 5, 5, "Manually failed", ""⟩] := by
  decide +kernel
/-- a second `pause` is refused (`L3C_refused_noop`); `unpause` on a canary that was never paused acts. -/
example : stepC (stepC wC (.cli .canaryPause)) (.cli .canaryPause) = stepC wC (.cli .canaryPause) :=
  L3C_refused_noop _ _ "already-paused" (by decide +kernel)
example : (stepC wC (.cli .canaryUnpause)).eds.annotations =
    [⟨K.canaryPausedAnnot, "false"⟩, ⟨K.canaryUnpausedAnnot, "true"⟩] := by decide +kernel
/-- no canary in progress (after the promotion): the canary commands are refused, `freeze` acts. -/
example : stepC (step wP (.reconcileEds "x" "auto")) (.cli .canaryPause) = step wP (.reconcileEds "x" "auto") :=
  L3C_refused_of_precondition _ _ (Or.inl (by decide +kernel))
example : (stepC (step wP (.reconcileEds "x" "auto")) (.cli .freeze)).eds.annotations = [⟨K.rolloutFrozenAnnot, "true"⟩] := by
  decide +kernel
example : NamesNodup (runC wC [.cli .canaryFail, .op (.reconcileEds "x" "auto"), .cli .freeze]) :=
  (L3C_invariants_runC wC _ ⟨canaryWorldC.names, canaryWorldC.hashes, canaryWorldC.annotGen, by decide +kernel⟩
    (by decide +kernel)).1

/-! ### (a) pause -/

/-- `L3C_pause_then_reconcile` applied, one hour later. -/
example : (step (step (stepC wC (.cli .canaryPause)) (.tick 3600000000000)) (.reconcileEds "x" "auto")).eds.status.state = "Canary Paused" :=
  (L3C_pause_then_reconcile canaryWorldC runningC notValidC 3600000000000 "x" "auto").1
/-- the runs evaluated: at 11 minutes the canary is promoted without the pause and kept with it. -/
example : viewC (step wP (.reconcileEds "x" "auto")) = ("Running", "d-new", none, "new") := by decide +kernel
example : viewC (step (stepC wP (.cli .canaryPause)) (.reconcileEds "x" "auto")) =
    ("Canary Paused", "d-old", some csL, "new") := by decide +kernel
example : viewC (step (step (stepC wC (.cli .canaryPause)) (.tick 3600000000000)) (.reconcileEds "x" "auto")) =
    ("Canary Paused", "d-old", some csL, "new") := by decide +kernel

/-! ### (c) validate -/

/-- `L3C_validate_exact` applied one minute into the canary: promoted at once. -/
example : LiveOn (step (stepC wC (.cli .canaryValidate)) (.reconcileEds "x" "auto")) uL :=
  (L3C_validate_exact canaryWorldC runningC.block runningC.named "x" "auto").2.1
example : viewC (step wC (.reconcileEds "x" "auto")) = ("Canary", "d-old", some csL, "new") := by decide +kernel
example : viewC (step (stepC wC (.cli .canaryValidate)) (.reconcileEds "x" "auto")) = ("Running", "d-new", none, "new") := by
  decide +kernel

/-- `L3C_validate_not_later` applied: validate `d-new`, the user then moves spec.template to hash `newer`; the next
reconcile creates `d-newer`, the one after keeps `d-old` active — the annotation names `d-new`, not `d-newer`. -/
example :
    (step (step (step (stepC wC (.cli .canaryValidate))
      (.userSpec "newer" exTemplate01 (stepC wC (.cli .canaryValidate)).eds.strategy (stepC wC (.cli .canaryValidate)).eds.annotations))
      (.reconcileEds "d-newer" "auto")) (.reconcileEds "y" "auto")).eds.status.activeReplicaSet = "d-old" :=
  (L3C_validate_not_later canaryWorldC runningC.block runningC.named "newer" exTemplate01 "d-newer" "auto" "y" "auto"
    (by decide +kernel) (by decide +kernel)
    (by intro d h; have h2 : cL.duration = some (10 * minute) := by decide +kernel
        rw [h2] at h; cases h; decide +kernel)).2.2.2.2.2.2.2.1
example :
    let w3 := step (step (stepC wC (.cli .canaryValidate))
      (.userSpec "newer" exTemplate01 (stepC wC (.cli .canaryValidate)).eds.strategy (stepC wC (.cli .canaryValidate)).eds.annotations))
      (.reconcileEds "d-newer" "auto")
    w3.erss.map (·.name) = ["d-old", "d-new", "d-newer"] ∧
    viewC (step w3 (.reconcileEds "y" "auto")) = ("Canary", "d-old", some { replicaSet := "d-newer", nodes := ["n1"] }, "newer") := by
  decide +kernel

/-! ### (b) unpause -/

/-- the result of (a) at one minute. -/
def wA : World := step (step (stepC wC (.cli .canaryPause)) (.tick 0)) (.reconcileEds "x" "auto")

theorem canaryWorldA : CanaryWorld wA aL uL cL :=
  (L3C_pause_then_reconcile canaryWorldC runningC notValidC 0 "x" "auto").2.2.2.2.2.2.2.2.2
theorem runningA : CanaryRunning wA uL cL csL :=
  have k : wA.eds.status.canary = some csL ∧
      resolveIntOrPercent cL.replicas wA.eds.status.desired = some (csL.nodes.length : Int) := by decide +kernel
  ⟨k.1, runningC.named, k.2, runningC.notFailed⟩

/-- `L3C_unpause_then_reconcile` applied: 10 s later the state is `Canary` again; 15 minutes later the canary is promoted. -/
example : (step (step (step (stepC wA (.cli .canaryUnpause)) (.tick 10000000000)) (.reconcileErs "d-new" (fun _ => false) true))
    (.reconcileEds "y" "auto")).eds.status.state = "Canary" :=
  -- the five hypotheses are evaluated together: they read the same run
  (fun (k : (_ ∧ _) ∧ _ ∧ _ ∧ _) =>
    (((L3C_unpause_then_reconcile canaryWorldA runningA k.1.1 k.1.2 10000000000 (fun _ => false) true "y" "auto").2.2
      k.2.1 k.2.2.1).1 k.2.2.2).1) (by decide +kernel)
example : viewC wA = ("Canary Paused", "d-old", some csL, "new") := by decide +kernel
example : viewC (step (step (step (stepC wA (.cli .canaryUnpause)) (.tick 10000000000)) (.reconcileErs "d-new" (fun _ => false) true))
    (.reconcileEds "y" "auto")) = ("Canary", "d-old", some csL, "new") := by decide +kernel
example : viewC (step (step (step (stepC wA (.cli .canaryUnpause)) (.tick 900000000000)) (.reconcileErs "d-new" (fun _ => false) true))
    (.reconcileEds "y" "auto")) = ("Running", "d-new", none, "new") := by decide +kernel
/-- without the unpause the same run stays paused, however late. -/
example : viewC (step (step (step wA (.tick 900000000000)) (.reconcileErs "d-new" (fun _ => false) true))
    (.reconcileEds "y" "auto")) = ("Canary Paused", "d-old", some csL, "new") := by decide +kernel

/-! ### (d) fail -/

/-- `L3C_fail_rolls_back` applied (one step, and two with the spec write dropped). -/
example : LiveOn (step (stepC wC (.cli .canaryFail)) (.reconcileEds "x" "auto")) aL ∧
    LiveOn (step (stepF { edsSpec := false } (stepC wC (.cli .canaryFail)) (.reconcileEds "x" "auto")) (.reconcileEds "y" "auto")) aL :=
  let h := L3C_fail_rolls_back canaryWorldC runningC.block runningC.named notValidC "x" "auto"
  ⟨h.1.1, (h.2 { edsSpec := false } "y" "auto" rfl).1⟩
example : viewC (step (stepC wC (.cli .canaryFail)) (.reconcileEds "x" "auto")) = ("Canary Failed", "d-old", none, "old") := by
  decide +kernel

theorem envC : LiveEnv wC aL true := ⟨by decide +kernel, by decide +kernel, by decide +kernel, by decide +kernel, by decide +kernel⟩
theorem edsPodsC : edsPodsOf wC.eds wC.store = podsL := edsPodsL
theorem storeC : CoopStore wC.eds aL genOld itemsL wC.store := storeR
theorem stratC : StratOk wC.eds (fitItems aL itemsL).length := stratR

/-- `L3C_fail_converges` applied: fail, rollback, two cooperative rounds of `d-old` replace the canary pod. -/
example : ClusterConverged (coopRunW "d-old" true genOld clockR 2
    (step (stepC wC (.cli .canaryFail)) (.reconcileEds "x" "auto"))) aL true itemsL :=
  (L3C_fail_converges canaryWorldC runningC.block runningC.named notValidC envC (by decide +kernel) storeC stratC
    genOld_inj clockR (by decide +kernel) clockR_ok gateR "x" "auto" 2 (by decide +kernel)).1.1
example : viewP (coopRunW "d-old" true genOld clockR 2 (step (stepC wC (.cli .canaryFail)) (.reconcileEds "x" "auto"))) =
    [("old-2", "n2", some "old", true), ("d-old-n1", "n1", some "old", true)] := by decide +kernel

/-! ### (e) -/

example : stepC wC (.cli .ruPause) = wC := (L3C_rupause_refused_during_canary wC csL runningC.block).1
example : stepC wC (.cli .unfreeze) = wC := (L3C_freeze_refused_during_canary wC csL runningC.block).2.1
/-- … whatever `status.state` says: here the state string claims "Running" while `status.canary` is set. -/
example : stepC { wC with eds := { wC.eds with status := { wC.eds.status with state := "Running" } } } (.cli .freeze) =
    { wC with eds := { wC.eds with status := { wC.eds.status with state := "Running" } } } :=
  (L3C_freeze_refused_during_canary _ csL (by decide +kernel)).1

/-! ### the hypothesis `isCanaryValid … u.name = false` of (a), (b), (d) cannot be dropped -/

/-- the canary-valid annotation already names `d-new`. -/
def wCV : World := { wC with eds := edsL [⟨K.canaryValidAnnot, "d-new"⟩] }

/-- pause, then reconcile: the validated canary is promoted although it is paused (C05: validation overrides pause). -/
example : viewC (step (stepC wCV (.cli .canaryPause)) (.reconcileEds "x" "auto")) = ("Running", "d-new", none, "new") := by
  decide +kernel
/-- fail, then reconcile: the validated canary is promoted although it is failed (the finding recorded in C07 / `ExLive.wV`). -/
example : (step (stepC wCV (.cli .canaryFail)) (.reconcileEds "x" "auto")).eds.status.activeReplicaSet = "d-new" ∧
    isCanaryFailed (findErs (stepC wCV (.cli .canaryFail)) "d-new") = true := by decide +kernel

end Eds.ExCli
