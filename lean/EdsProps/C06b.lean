import EdsProps.C06
import EdsProps.C04
import EdsProofs.CanaryRestart
/-
  C06 (history level) — the restart timeline kept in the PodRestarting condition of a replica set, the
  stickiness of Canary-Failed and the monotonicity of the restart span, over ARBITRARY runs.

  Subject: `reconcileErs` (EdsModel/ReconcileErs.lean) iterated over a list of syncs of one replica set
  (`Sync`, `stepErs`, `runErs` of EdsProofs/ErsRun.lean): sync k reads the status sync k−1 left
  (`statusUpdate` applied, or the status unchanged when the sync wrote nothing); everything else a sync
  reads — the store with the owner EDS and its status (hence the ROLE of the replica set), nodes, pods
  with their container statuses, settings, the annotations of the EDS, the back-off oracle, the
  affinity mode and the clock — is arbitrary and unrelated from one sync to the next.  A replica set's
  status is written by the syncs of that replica set only, so syncs of other objects are covered by
  the arbitrary stores.  No hypothesis on the clock is needed in this file (in particular not that it
  is non-decreasing): the clock never enters the PodRestarting condition.

  WHAT A SYNC RECORDS (`recorded`, EdsProofs/CanaryRestart.lean; `C06_recorded_iff`).  The model — like
  the Go code — stamps the PodRestarting condition with `metav1.NewTime(newRestartTime)`, NOT with `now`:
    * `newRestartTime` = `observedRestart pods`: the latest `lastState.terminated.finishedAt` among the
      container statuses with a non-zero restart count (`MostRecentRestart`) of the evaluated pods whose
      highest restart count is non-zero; Go's zero time when there is none (`observedRestart_spec`,
      `mostRecentRestart_spec`);
    * the evaluated pods are the pods on canary nodes that are not terminating and match the replica
      set's template (`canaryCheckedOf`);
    * the sync RECORDS that time iff it is a full run in the canary role (owner found and defaulted, not
      gated by LastFullSync, node listing succeeded, no nil dereference), the time is not the zero time
      and it is STRICTLY AFTER the stored `PodRestarting.lastUpdate`.  A sync that sees again a restart it
      (or an earlier sync) has already recorded does not record: "the latest sync that observed a
      restart" of the informal text is, in the code, "the latest sync that observed a restart newer than
      every restart recorded before".  Consequently the recorded times of a run are strictly increasing
      (`C06_restart_log_increasing`) and `lastUpdate` is their maximum.

    1  `C06_restart_timeline`         — fresh replica set (no PodRestarting condition): after any run the
                                        condition is absent iff no sync recorded; otherwise it is True with
                                        `lastTransition` = the FIRST recorded time and `lastUpdate` = the LAST;
       `C06_restart_timeline_general` — any initial condition (True: `lastTransition` kept; not True: reset
                                        by the first recording);
       `C06_restart_first`, `C06_restart_first_fixed`, `C06_restart_latest` — the same, reading "first" and
                                        "latest" off the position of the syncs in the run;
       `C06_restart_span_value`       — the span the RestartsTimeoutExceeded trigger of the next sync reads.
    2  `C06_failed_sticky_history`    — once Canary-Failed is True after some sync, it is True after every
                                        later sync as long as no later sync runs the replica set in the
                                        ACTIVE role (hypothesis weaker than "stays the canary": the
                                        unknown role keeps it as well).  The hypothesis is necessary: the
                                        active role rewrites Canary-Failed to False (the `example` after `exRunFail06b`'s two).
    3  `C06_restart_span_monotone`    — [hyp: a stored PodRestarting condition, if any, is True — holds for
                                        a fresh replica set and is preserved] `lastUpdate − lastTransition`
                                        never decreases along the run.  Without the hypothesis the statement
                                        is FALSE in the model: a stored condition with status ≠ "True" (which
                                        this controller never writes) is reset by the first recording and its
                                        span drops to 0 — `C06_restart_span_counterexample`, by `decide`.

-/
namespace Eds

/-- the times recorded by the syncs of a run, in order. -/
def restartLog (rs : ERS) : List Sync → List Time
  | [] => []
  | s :: ss => (recorded rs s).toList ++ restartLog (stepErs rs s) ss

/-- recording a list of times in order. -/
def applyLog (v : RView) (log : List Time) : RView := log.foldl (fun v t => recordView t v) v

theorem restartLog_append (rs : ERS) (ss ts : List Sync) :
    restartLog rs (ss ++ ts) = restartLog rs ss ++ restartLog (runErs rs ss) ts := by
  induction ss generalizing rs with
  | nil => rfl
  | cons s ss ih => simp only [List.cons_append, restartLog, runErs_cons, ih, List.append_assoc]

theorem restartLog_eq_nil (rs : ERS) (ss : List Sync)
    (h : ∀ k (h : k < ss.length), recorded (runErs rs (ss.take k)) ss[k] = none) : restartLog rs ss = [] := by
  induction ss generalizing rs with
  | nil => rfl
  | cons s ss ih =>
    have h0 := h 0 (by simp)
    simp only [List.take_zero, runErs_nil, List.getElem_cons_zero] at h0
    have h1 : ∀ k (hk : k < ss.length), recorded (runErs (stepErs rs s) (ss.take k)) ss[k] = none := fun k hk => by
      have := h (k + 1) (by simpa using hk)
      simpa only [List.take_succ_cons, runErs_cons, List.getElem_cons_succ] using this
    rw [restartLog, h0, ih (stepErs rs s) h1]
    rfl

/-- **The stored condition after a run** is the initial one with the log applied. -/
theorem restartView_run (rs : ERS) (ss : List Sync) :
    restartView (runErs rs ss).status.conds = applyLog (restartView rs.status.conds) (restartLog rs ss) := by
  induction ss generalizing rs with
  | nil => rfl
  | cons s ss ih =>
    rw [runErs_cons, ih, restartView_step, restartLog]
    unfold applyLog
    rw [List.foldl_append]
    cases recorded rs s <;> rfl

/-- **What a sync records.**  `recorded rs s = some t` iff the sync is a full canary-role run whose
`manageCanaryPodFailures` returns some loop state `fs` (`canaryFailOf`), `t` is the restart time the
loop observed, `t` is not Go's zero time and `t` is strictly after the stored `lastUpdate`. -/
theorem C06_recorded_iff (rs : ERS) (s : Sync) (t : Time) :
    recorded rs s = some t ↔
      ∃ fs, canaryFailOf rs s = some fs ∧ t = observedRestart (canaryCheckedOf rs s) ∧
        t ≠ zeroTime ∧ t > lastRestartTime rs := by
  unfold recorded
  constructor
  · intro h
    cases hc : canaryFailOf rs s with
    | none => rw [hc] at h; cases h
    | some fs =>
      rw [hc] at h
      simp only [] at h
      split at h
      · rename_i hcond
        simp only [Option.some.injEq] at h
        subst h
        exact ⟨fs, rfl, canaryFailOf_newRestartTime rs s fs hc, hcond.1, hcond.2⟩
      · cases h
  · rintro ⟨fs, hc, ht, hz, hgt⟩
    rw [hc]
    have he := canaryFailOf_newRestartTime rs s fs hc
    simp only []
    rw [he, ← ht, if_pos ⟨hz, hgt⟩]

/-- a sync that is not a full canary-role run records nothing. -/
theorem C06_recorded_only_canary (rs : ERS) (s : Sync) (t : Time) (h : recorded rs s = some t) :
    ∃ d, ersOwner rs s.st = some d ∧ ersRole d rs.name = "canary" ∧
      isDefaulted d.strategy d.templateName = true ∧ ersGated d rs s.now = false := by
  obtain ⟨fs, hc, _⟩ := (C06_recorded_iff rs s t).mp h
  obtain ⟨d, _, _, ho, hd, hg, _, hr, _⟩ := canaryFailOf_eq_some_iff.mp hc
  exact ⟨d, ho, hr, hd, hg⟩

theorem lastRestartTime_step (rs : ERS) (s : Sync) :
    lastRestartTime (stepErs rs s) = match recorded rs s with | none => lastRestartTime rs | some t => t := by
  rw [lastRestartTime_eq, lastRestartTime_eq, restartView_step]
  cases recorded rs s with
  | none => rfl
  | some t =>
    simp only []
    cases hv : restartView rs.status.conds with
    | none => rfl
    | some v =>
      obtain ⟨st, tr, up⟩ := v
      unfold recordView
      simp only []
      split <;> rfl

theorem restartLog_gt (rs : ERS) (ss : List Sync) : ∀ t ∈ restartLog rs ss, lastRestartTime rs < t := by
  induction ss generalizing rs with
  | nil => intro t ht; cases ht
  | cons s ss ih =>
    intro t ht
    simp only [restartLog, List.mem_append] at ht
    have hstep := lastRestartTime_step rs s
    rcases ht with ht | ht
    · cases hr : recorded rs s with
      | none => rw [hr] at ht; cases ht
      | some t' =>
        rw [hr] at ht
        simp only [Option.toList_some, List.mem_singleton] at ht
        subst ht
        obtain ⟨_, _, _, _, hgt⟩ := (C06_recorded_iff rs s t).mp hr
        exact hgt
    · have := ih (stepErs rs s) t ht
      cases hr : recorded rs s with
      | none => rw [hr] at hstep; simp only [] at hstep; omega
      | some t' =>
        rw [hr] at hstep
        simp only [] at hstep
        obtain ⟨_, _, _, _, h2⟩ := (C06_recorded_iff rs s t').mp hr
        omega

/-- **The recorded times of a run are strictly increasing**, and all after the initially stored
`lastUpdate`: the last recorded time is the maximum of everything recorded. -/
theorem C06_restart_log_increasing (rs : ERS) (ss : List Sync) :
    (restartLog rs ss).Pairwise (· < ·) ∧ ∀ t ∈ restartLog rs ss, lastRestartTime rs < t := by
  refine ⟨?_, restartLog_gt rs ss⟩
  induction ss generalizing rs with
  | nil => exact List.Pairwise.nil
  | cons s ss ih =>
    simp only [restartLog]
    cases hr : recorded rs s with
    | none => simpa using ih (stepErs rs s)
    | some t =>
      simp only [Option.toList_some, List.singleton_append, List.pairwise_cons]
      refine ⟨fun t' ht' => ?_, ih (stepErs rs s)⟩
      have := restartLog_gt (stepErs rs s) ss t' ht'
      rw [lastRestartTime_step, hr] at this
      exact this

theorem applyLog_true (tr up : Time) (log : List Time) :
    applyLog (some ("True", tr, up)) log = some ("True", tr, (log.getLast?).getD up) := by
  induction log generalizing up with
  | nil => rfl
  | cons t ts ih =>
    unfold applyLog at ih ⊢
    rw [List.foldl_cons]
    have : recordView t (some ("True", tr, up)) = some ("True", tr, t) := by simp [recordView]
    rw [this, ih t]
    cases ts with
    | nil => rfl
    | cons t' ts' =>
      rw [List.getLast?_cons_cons]
      cases hg : (t' :: ts').getLast? with
      | none => simp at hg
      | some x => rfl

/-- applying a non-empty log: the result is True, `lastUpdate` is the last entry, `lastTransition` is
the stored one if the stored condition was True and the first entry otherwise. -/
theorem applyLog_cons (v : RView) (t : Time) (ts : List Time) :
    applyLog v (t :: ts) =
      some ("True",
        (match v with | some (st, tr, _) => if st = "True" then tr else t | none => t),
        ((t :: ts).getLast?).getD t) := by
  have h1 : applyLog v (t :: ts) = applyLog (recordView t v) ts := rfl
  rw [h1]
  have hl : ((t :: ts).getLast?).getD t = (ts.getLast?).getD t := by
    cases ts with
    | nil => rfl
    | cons t' ts' => simp [List.getLast?_cons_cons]
  rw [hl]
  cases v with
  | none => exact applyLog_true t t ts
  | some x =>
    obtain ⟨st, tr, up⟩ := x
    by_cases hs : st = "True"
    · subst hs
      have : recordView t (some ("True", tr, up)) = some ("True", tr, t) := by simp [recordView]
      rw [this, applyLog_true]
      simp
    · have : recordView t (some (st, tr, up)) = some ("True", t, t) := by simp [recordView, hs]
      rw [this, applyLog_true]
      simp [hs]

/-- **Restart timeline, any initial status.**  After an arbitrary run: if no sync recorded, the
PodRestarting condition is what it was; otherwise it is True, its `lastUpdate` is the time recorded
by the LAST recording sync, and its `lastTransition` is the stored one when the run started with a
True condition, and the time recorded by the FIRST recording sync otherwise. -/
theorem C06_restart_timeline_general (rs : ERS) (ss : List Sync) :
    restartView (runErs rs ss).status.conds =
      match (restartLog rs ss).head?, (restartLog rs ss).getLast? with
      | some first, some last =>
        some ("True",
          (match restartView rs.status.conds with
           | some (st, tr, _) => if st = "True" then tr else first
           | none => first),
          last)
      | _, _ => restartView rs.status.conds := by
  rw [restartView_run]
  cases hl : restartLog rs ss with
  | nil => rfl
  | cons t ts =>
    rw [applyLog_cons]
    cases hg : (t :: ts).getLast? with
    | none => simp at hg
    | some last => rfl

/-- **C06, restart timeline.**  For a replica set that starts without a PodRestarting condition (a
fresh canary), after an ARBITRARY run of syncs: the condition is absent iff no sync recorded a restart
time; otherwise it is True, its `lastTransition` is the time recorded by the FIRST sync that recorded
one — never changed by any later sync — and its `lastUpdate` is the time recorded by the LATEST sync
that recorded one.  "The time a sync records" is `C06_recorded_iff`: the most recent container
`finishedAt` the sync observes (not `now`), provided it is newer than what is stored. -/
theorem C06_restart_timeline (rs : ERS) (ss : List Sync)
    (hfresh : findCond rs.status.conds "PodRestarting" = none) :
    restartView (runErs rs ss).status.conds =
      match (restartLog rs ss).head?, (restartLog rs ss).getLast? with
      | some first, some last => some ("True", first, last)
      | _, _ => none := by
  have hv : restartView rs.status.conds = none := by unfold restartView; rw [hfresh]; rfl
  rw [C06_restart_timeline_general, hv]

/-- the same, spelled on the condition itself. -/
theorem C06_restart_timeline_cond (rs : ERS) (ss : List Sync)
    (hfresh : findCond rs.status.conds "PodRestarting" = none)
    (c : Cond) (hc : findCond (runErs rs ss).status.conds "PodRestarting" = some c) :
    c.status = "True" ∧ (restartLog rs ss).head? = some c.lastTransition ∧
    (restartLog rs ss).getLast? = some c.lastUpdate := by
  have h := C06_restart_timeline rs ss hfresh
  unfold restartView at h
  rw [hc] at h
  simp only [Option.map_some] at h
  cases hh : (restartLog rs ss).head? with
  | none => rw [hh] at h; cases h
  | some first =>
    cases hl : (restartLog rs ss).getLast? with
    | none => rw [hh, hl] at h; cases h
    | some last =>
      rw [hh, hl] at h
      simp only [Option.some.injEq, Prod.mk.injEq] at h
      exact ⟨h.1, by rw [h.2.1], by rw [h.2.2]⟩

/-- **"First", positionally.**  Fresh replica set; no sync of `pre` records; the next sync `s` records
`a`.  Then after ANY continuation `post` the condition is True with `lastTransition = a`. -/
theorem C06_restart_first (rs : ERS) (pre post : List Sync) (s : Sync) (a : Time)
    (hfresh : findCond rs.status.conds "PodRestarting" = none)
    (hpre : ∀ k (h : k < pre.length), recorded (runErs rs (pre.take k)) pre[k] = none)
    (hs : recorded (runErs rs pre) s = some a) :
    ∃ last, restartView (runErs rs (pre ++ s :: post)).status.conds = some ("True", a, last) := by
  have hlog : restartLog rs (pre ++ s :: post) = a :: restartLog (stepErs (runErs rs pre) s) post := by
    rw [restartLog_append, restartLog_eq_nil rs pre hpre]
    simp only [restartLog, hs, List.nil_append, Option.toList_some, List.singleton_append]
  rw [C06_restart_timeline rs _ hfresh, hlog]
  cases hg : (a :: restartLog (stepErs (runErs rs pre) s) post).getLast? with
  | none => simp at hg
  | some last => exact ⟨last, rfl⟩

/-- **The first restart time is never changed**: once the condition is True, no continuation of the
run changes its `lastTransition` (any initial status, any syncs). -/
theorem C06_restart_first_fixed (rs : ERS) (post : List Sync) (tr up : Time)
    (h : restartView rs.status.conds = some ("True", tr, up)) :
    ∃ up', restartView (runErs rs post).status.conds = some ("True", tr, up') ∧ up ≤ up' := by
  rw [restartView_run, h, applyLog_true]
  refine ⟨_, rfl, ?_⟩
  cases hg : (restartLog rs post).getLast? with
  | none => exact Int.le_refl _
  | some last =>
    have := restartLog_gt rs post last (List.mem_of_getLast? hg)
    rw [lastRestartTime_eq, h] at this
    simp only [viewLast, Option.getD_some] at this ⊢
    omega

/-- **"Latest", positionally.**  Any initial status; the sync `s` (after `pre`) records `b`; no sync of
`post` records.  Then after `pre ++ s :: post` the condition is True with `lastUpdate = b`. -/
theorem C06_restart_latest (rs : ERS) (pre post : List Sync) (s : Sync) (b : Time)
    (hs : recorded (runErs rs pre) s = some b)
    (hpost : ∀ k (h : k < post.length),
      recorded (runErs (stepErs (runErs rs pre) s) (post.take k)) post[k] = none) :
    ∃ first, restartView (runErs rs (pre ++ s :: post)).status.conds = some ("True", first, b) := by
  have e : runErs rs (pre ++ s :: post) = runErs (stepErs (runErs rs pre) s) post := by
    rw [runErs_append]; rfl
  rw [e, restartView_run, restartLog_eq_nil _ post hpost]
  simp only [applyLog, List.foldl_nil]
  rw [restartView_step, hs]
  simp only []
  cases hv : restartView (runErs rs pre).status.conds with
  | none => exact ⟨b, rfl⟩
  | some x =>
    obtain ⟨st, tr, up⟩ := x
    unfold recordView
    simp only []
    split
    · exact ⟨b, rfl⟩
    · rename_i hst
      have : st = "True" := by simpa using hst
      subst this
      exact ⟨tr, rfl⟩

def viewSpan (v : RView) : Option Dur := v.map (fun x => x.2.2 - x.2.1)

/-- **The span the RestartsTimeoutExceeded trigger reads.**  After a run of a fresh replica set the
next sync's auto-fail trigger (`C06_failed_iff`) compares `maxRestartsDuration` with
`lastUpdate − lastTransition` of the stored condition, i.e. with (last recorded) − (first recorded). -/
theorem C06_restart_span_value (rs : ERS) (ss : List Sync)
    (hfresh : findCond rs.status.conds "PodRestarting" = none) :
    (findCond (runErs rs ss).status.conds "PodRestarting").map (fun rc => rc.lastUpdate - rc.lastTransition) =
      match (restartLog rs ss).head?, (restartLog rs ss).getLast? with
      | some first, some last => some (last - first)
      | _, _ => none := by
  have h := C06_restart_timeline rs ss hfresh
  have e : (findCond (runErs rs ss).status.conds "PodRestarting").map (fun rc => rc.lastUpdate - rc.lastTransition)
      = viewSpan (restartView (runErs rs ss).status.conds) := by
    unfold viewSpan restartView
    cases findCond (runErs rs ss).status.conds "PodRestarting" <;> rfl
  rw [e, h]
  cases (restartLog rs ss).head? <;> cases (restartLog rs ss).getLast? <;> rfl

/-- the sync does not run the replica set in the active role (whatever owner it finds). -/
def Sync.notActive (s : Sync) (rs : ERS) : Prop := ∀ d, ersOwner rs s.st = some d → ersRole d rs.name ≠ "active"

theorem notActive_of_owner {s : Sync} {rs : ERS} {d : EDS} (h : ersOwner rs s.st = some d)
    (hr : ersRole d rs.name ≠ "active") : s.notActive rs := by
  intro d' hd'
  rw [h] at hd'
  cases hd'
  exact hr

theorem failed_step (rs : ERS) (s : Sync) (hf : isCondTrue rs.status.conds "Canary-Failed" = true)
    (hna : s.notActive rs) : isCondTrue (stepErs rs s).status.conds "Canary-Failed" = true := by
  rcases stepErs_cases rs s with h | ⟨d, _, _, h⟩ | ⟨d, items, r, adds, removes, se, st0, ho, F⟩
  · rw [h]; exact hf
  · rw [h, isCondTrue_congr (ersNotDefaulted_findCond rs s.now _ (by simp))]; exact hf
  · have hfin : isCondTrue (stepErs rs s).status.conds "Canary-Failed" = isCondTrue st0.conds "Canary-Failed" := by
      apply isCondTrue_congr
      show findCond ((s.run rs).statusUpdate.getD rs.status).conds "Canary-Failed" = _
      rw [F.eq]
      exact ersFinish_findCond _ _ _ _ _ _ _ _ _ _ _ _ (by simp)
    rw [hfin]
    rcases ersRole_cases d rs.name with hr | hr | hr
    · exact absurd hr (hna d ho)
    · obtain ⟨r0, hm, rfl, _⟩ := F.canary hr
      obtain ⟨fs, st', hcf, _, st0', hst0, hconds⟩ := manageCanaryStatus_some _ _ _ hm
      obtain rfl : st0' = st0 := Option.some.inj (hst0.symm.trans F.status)
      rw [hconds]
      unfold canaryFail at hcf
      obtain ⟨ape, apm, slow, afe, afm, mrd, cto, hd⟩ := mcpf_derefs hcf
      rw [C06_condition_failed_written _ _ _ _ _ _ _ _ _ _ _ hcf]
      exact C06_failed_sticky _ _ _ _ _ _ _ _ _ _ _ ape apm slow afe afm mrd cto hd hcf hf
    · rw [manageUnknown_conds _ _ _ ((F.unknown hr).1 ▸ F.status)]
      exact ((preConds_updated_nonactive _ _ _ (by rw [hr]; simp)).isCondTrue_eq (by simp)).trans hf

/-- **C06, Canary-Failed is sticky (history form).**  Along an arbitrary run: if the status left by
the first `i` syncs has Canary-Failed = True and none of the syncs number `i … j−1` runs the replica
set in the active role (in particular: if it stays the canary), then the status left by the first
`j` syncs has Canary-Failed = True — for every `j ≥ i`, whatever pods, clock values, annotations
(including the unpause annotation) and EDS status those syncs read. -/
theorem C06_failed_sticky_history (rs : ERS) (ss : List Sync) (i j : Nat) (hij : i ≤ j) (hj : j ≤ ss.length)
    (hf : isCondTrue (runErs rs (ss.take i)).status.conds "Canary-Failed" = true)
    (hna : ∀ k (h : k < ss.length), i ≤ k → k < j → ss[k].notActive (runErs rs (ss.take k))) :
    isCondTrue (runErs rs (ss.take j)).status.conds "Canary-Failed" = true := by
  obtain ⟨n, rfl⟩ := Nat.exists_eq_add_of_le hij
  clear hij
  induction n with
  | zero => exact hf
  | succ n ih =>
    have hlt : i + n < ss.length := by omega
    rw [← Nat.add_assoc, take_succ_eq_snoc ss (i + n) hlt, runErs_snoc]
    exact failed_step _ _ (ih (by omega) (fun k h h1 h2 => hna k h h1 (by omega)))
      (hna (i + n) hlt (by omega) (by omega))

/-- invariant: a stored PodRestarting condition, if any, is True. -/
def RestartTrueIfPresent (rs : ERS) : Prop :=
  ∀ st tr up, restartView rs.status.conds = some (st, tr, up) → st = "True"

theorem restartTrueIfPresent_step (rs : ERS) (s : Sync) (h : RestartTrueIfPresent rs) :
    RestartTrueIfPresent (stepErs rs s) := by
  intro st tr up hv
  rw [restartView_step] at hv
  cases hr : recorded rs s with
  | none => rw [hr] at hv; exact h st tr up hv
  | some t =>
    rw [hr] at hv
    simp only [] at hv
    cases hv0 : restartView rs.status.conds with
    | none => rw [hv0] at hv; simp [recordView] at hv; exact hv.1.symm
    | some x =>
      obtain ⟨st0, tr0, up0⟩ := x
      rw [hv0] at hv
      have := h st0 tr0 up0 hv0
      subst this
      simp [recordView] at hv
      exact hv.1.symm

theorem restartTrueIfPresent_run (rs : ERS) (ss : List Sync) (h : RestartTrueIfPresent rs) :
    RestartTrueIfPresent (runErs rs ss) := by
  induction ss generalizing rs with
  | nil => exact h
  | cons s ss ih => exact ih _ (restartTrueIfPresent_step rs s h)

theorem restartTrueIfPresent_fresh (rs : ERS) (hfresh : findCond rs.status.conds "PodRestarting" = none) :
    RestartTrueIfPresent rs := by
  intro st tr up hv
  unfold restartView at hv; rw [hfresh] at hv; cases hv

theorem span_run (rs : ERS) (ss : List Sync) (h : RestartTrueIfPresent rs) (d : Dur)
    (hd : viewSpan (restartView rs.status.conds) = some d) :
    ∃ d', viewSpan (restartView (runErs rs ss).status.conds) = some d' ∧ d ≤ d' := by
  cases hv : restartView rs.status.conds with
  | none => rw [hv] at hd; cases hd
  | some x =>
    obtain ⟨st, tr, up⟩ := x
    have := h st tr up hv
    subst this
    obtain ⟨up', hv', hle⟩ := C06_restart_first_fixed rs ss tr up hv
    rw [hv] at hd
    rw [hv']
    simp only [viewSpan, Option.map_some, Option.some.injEq] at hd ⊢
    exact ⟨_, rfl, by omega⟩

/-- **C06, the restart span is monotone.**  If the run starts from a status whose PodRestarting
condition, when present, is True (e.g. a fresh replica set: `restartTrueIfPresent_fresh`), then along
an arbitrary run the span `lastUpdate − lastTransition` of the stored condition never decreases: once
it is `d` after `i` syncs, the condition is still present after `j ≥ i` syncs with a span `≥ d`. -/
theorem C06_restart_span_monotone (rs : ERS) (ss : List Sync) (h : RestartTrueIfPresent rs)
    (i j : Nat) (hij : i ≤ j) (d : Dur)
    (hd : viewSpan (restartView (runErs rs (ss.take i)).status.conds) = some d) :
    ∃ d', viewSpan (restartView (runErs rs (ss.take j)).status.conds) = some d' ∧ d ≤ d' := by
  rw [runErs_take_le rs ss i j hij]
  exact span_run _ _ (restartTrueIfPresent_run rs _ h) d hd

/-! ### Non-vacuity.  Store of EdsProps/C04.lean: EDS `d` (defaulted, reconcile frequency 10 s), active
replica set `d-old`, canary `d-new` on node `n1`. -/

/-- an up-to-date canary pod on `n1` whose single container restarted `n` times, last termination
finished at `fin`. -/
def exPod06b (n : Int) (fin : Time) : Pod :=
  { exPod04 "new-1" "n1" "d-new" "new" true with
    cstats := [{ name := "c", restarts := n, waiting := none,
                 lastTerm := some { reason := "Error", finishedAt := fin, empty := false } }] }

/-- four syncs of the canary replica set: no restart seen at 100 s; one restart (finished at 130 s) seen
at 200 s; the same restart seen again at 300 s; a second restart (finished at 390 s) seen at 400 s. -/
def exRun06b : List Sync :=
  [ { st := exStore04 [exPod04 "new-1" "n1" "d-new" "new" true], now := 100 * sec },
    { st := exStore04 [exPod06b 1 (130 * sec)], now := 200 * sec },
    { st := exStore04 [exPod06b 1 (130 * sec)], now := 300 * sec },
    { st := exStore04 [exPod06b 2 (390 * sec)], now := 400 * sec } ]

/-- the log of that run: the second and the fourth sync record, the third (same restart again) does not. -/
example : restartLog (exErs04 "d-new" "new") exRun06b = [130 * sec, 390 * sec] := by decide +kernel

/-- the hypotheses of `C06_restart_timeline` / `C06_restart_first` / `C06_restart_latest` hold of it and the
stored condition is the one they predict: first = 130 s, latest = 390 s, span 260 s. -/
example : findCond (exErs04 "d-new" "new").status.conds "PodRestarting" = none ∧
    recorded (exErs04 "d-new" "new") exRun06b[0] = none ∧
    recorded (runErs (exErs04 "d-new" "new") (exRun06b.take 1)) exRun06b[1] = some (130 * sec) ∧
    recorded (runErs (exErs04 "d-new" "new") (exRun06b.take 2)) exRun06b[2] = none ∧
    recorded (runErs (exErs04 "d-new" "new") (exRun06b.take 3)) exRun06b[3] = some (390 * sec) ∧
    restartView (runErs (exErs04 "d-new" "new") exRun06b).status.conds = some ("True", 130 * sec, 390 * sec) ∧
    viewSpan (restartView (runErs (exErs04 "d-new" "new") exRun06b).status.conds) = some (260 * sec) := by
  decide +kernel

/-- `C06_recorded_iff` on the second sync: the time recorded is the container's `finishedAt` (130 s), not
the clock (200 s). -/
example : observedRestart (canaryCheckedOf (runErs (exErs04 "d-new" "new") (exRun06b.take 1)) exRun06b[1])
    = 130 * sec ∧ (exRun06b[1]).now = 200 * sec := by decide +kernel

/-- stickiness: a pod with 6 restarts (> maxRestarts 5) fails the canary at 200 s; at 300 s the pod is
healthy again and the EDS carries the unpause annotation — still failed; the hypothesis (not active)
holds of both syncs. -/
def exRunFail06b : List Sync :=
  [ { st := exStore04 [exPod06b 6 (130 * sec)], now := 200 * sec },
    { st := { exStore04 [exPod04 "new-1" "n1" "d-new" "new" true] with
              edss := [{ exEds04 with annotations := [⟨K.canaryUnpausedAnnot, "true"⟩] }] },
      now := 300 * sec } ]

example : isCondTrue (runErs (exErs04 "d-new" "new") (exRunFail06b.take 0)).status.conds "Canary-Failed" = false ∧
    isCondTrue (runErs (exErs04 "d-new" "new") (exRunFail06b.take 1)).status.conds "Canary-Failed" = true ∧
    isCondTrue (runErs (exErs04 "d-new" "new") (exRunFail06b.take 2)).status.conds "Canary-Failed" = true ∧
    ersRole exEds04 "d-new" ≠ "active" := by decide +kernel

example : (exRunFail06b[0]).notActive (exErs04 "d-new" "new") ∧
    (exRunFail06b[1]).notActive (runErs (exErs04 "d-new" "new") (exRunFail06b.take 1)) :=
  ⟨notActive_of_owner (d := exEds04) (by decide +kernel) (by decide +kernel),
   notActive_of_owner (d := { exEds04 with annotations := [⟨K.canaryUnpausedAnnot, "true"⟩] }) (by decide +kernel) (by decide +kernel)⟩

/-- the hypothesis of `C06_failed_sticky_history` is necessary: a later sync in the ACTIVE role (the
failed canary's replica set made active — e.g. by a manual `canary-valid`) rewrites Canary-Failed to
False. -/
example : isCondTrue (runErs (exErs04 "d-new" "new") (exRunFail06b.take 1)).status.conds "Canary-Failed" = true ∧
    isCondTrue (stepErs (runErs (exErs04 "d-new" "new") (exRunFail06b.take 1))
      { st := exStore04 [exPod04 "new-1" "n1" "d-new" "new" true] false, now := 300 * sec }).status.conds
      "Canary-Failed" = false := by decide +kernel

/-- **Counterexample to span monotonicity without the invariant.**  A stored PodRestarting condition
with status "False" (never written by this controller, but a legal API object) and span 100 s; one
canary sync records a restart: the condition transitions, both stamps are the recorded time, the
span drops to 0. -/
def exErsFalse06b : ERS :=
  exErs04 "d-new" "new" [{ type := "PodRestarting", status := "False", lastTransition := 0,
                           lastUpdate := 100 * sec, reason := "", message := "" }]

theorem C06_restart_span_counterexample :
    viewSpan (restartView exErsFalse06b.status.conds) = some (100 * sec) ∧
    viewSpan (restartView (runErs exErsFalse06b
      [{ st := exStore04 [exPod06b 1 (130 * sec)], now := 200 * sec }]).status.conds) = some 0 ∧
    ¬ RestartTrueIfPresent exErsFalse06b := by
  refine ⟨by decide +kernel, by decide +kernel, ?_⟩
  intro h
  have := h "False" 0 (100 * sec) (by decide +kernel)
  exact absurd this (by simp)

/-- the monotone case on the example run: spans after 2, 3, 4 syncs are 0, 0, 260 s. -/
example : RestartTrueIfPresent (exErs04 "d-new" "new") ∧
    viewSpan (restartView (runErs (exErs04 "d-new" "new") (exRun06b.take 1)).status.conds) = none ∧
    viewSpan (restartView (runErs (exErs04 "d-new" "new") (exRun06b.take 2)).status.conds) = some 0 ∧
    viewSpan (restartView (runErs (exErs04 "d-new" "new") (exRun06b.take 3)).status.conds) = some 0 ∧
    viewSpan (restartView (runErs (exErs04 "d-new" "new") (exRun06b.take 4)).status.conds) = some (260 * sec) :=
  ⟨restartTrueIfPresent_fresh _ (by decide +kernel), by decide +kernel, by decide +kernel, by decide +kernel, by decide +kernel⟩

end Eds
