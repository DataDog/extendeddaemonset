import EdsProofs.L3RV
/-
  L3RV — the cluster machine with resourceVersions (EdsModel/ClusterRV.lean): which history invariants
  of EdsProps/L3.lean survive reconciles that read a STALE ExtendedDaemonSet.

  A stale reconcile (`OpRV.reconcileEdsStale k newName mode`) plans its writes on the `k`-th earlier
  stored value of the ExtendedDaemonSet (every list and the clock current).  Its writes to the
  ExtendedDaemonSet carry an outdated resourceVersion and are refused; the reconcile stops at the first
  refused write; the replica-set `Create` / `Delete`s issued before it are applied.

  1. runs                      `RunOkRV`, `runRV_inv`, `runRV_append`
  2. fresh ops                 `RV_fresh_is_step`, `RV_fresh_run`, `RV_version_bookkeeping`, `RV_rv_mono`
  3. stale reconciles          `RV_stale_eds_untouched`, `RV_stale_frame`, `RV_stale_is_faulty_step`,
                               `RV_stale_run_eds_untouched`
     corollaries for runs      `RV_promotion_step`, `RV_promotion_history`            (C05, `L3_promotion_history`)
                               `RV_canaryNodup_step`, `RV_canary_nodup`               (C15)
                               `RV_canary_bound_step`, `RV_canary_bound`              (C15)
                               `RV_canary_nodes_kept`, `RV_canary_nodes_kept_history`
  4. invariants that SURVIVE   `RV_hashesNodup_step`, `RV_allHashed_step`, `RV_annotGen_step`, `RV_namesNodup_step`,
     (no hypothesis on the     `RV_one_per_template`, `RV_all_hashed`, `RV_annot_gen`, `RV_names_nodup`, `RV_WF_run`,
      history)                 `RV_at_most_one_per_hash`, `RV_one_per_template_from_empty`,
                               `RV_histIdent_step/_run` (`HistIdent`: recorded values are values of the same object)
  5. invariants that do NOT    `RV_stale_never_deletes_uptodate` (FALSE), `RV_stale_never_deletes_active` (FALSE),
                               `RV_stale_never_creates` (FALSE) with `…_false` (after the concrete worlds),
     true variants             `RV_stale_never_deletes_uptodate_partial`, `RV_stale_never_deletes_active_partial`,
                               `RV_stale_never_creates_partial`,
                               `RV_stale_creates_only_missing_hash`, `RV_stale_removes_only_drained`,
                               `RV_stale_keeps_seen_in_use`, `RV_stale_own_shape` (`stale_erss_eq` of EdsProofs/L3RV.lean)
     recovery                  `RV_recovery`, `RV_recovery_recreates`, `RV_stale_then_fresh`
  6. examples (non-vacuity) at the end.
-/
namespace Eds
open Cluster ClusterRV Spec.C05

/-! ## 1. Runs -/

/-- side condition `C` holds for every operation of the run, in the world it is applied to. -/
def RunOkRV (C : WorldRV → OpRV → Prop) : WorldRV → List OpRV → Prop
  | _, [] => True
  | w, op :: ops => C w op ∧ RunOkRV C (stepRV w op) ops

instance RunOkRV.dec {C : WorldRV → OpRV → Prop} [∀ w op, Decidable (C w op)] :
    ∀ (w : WorldRV) (ops : List OpRV), Decidable (RunOkRV C w ops)
  | _, [] => isTrue trivial
  | w, op :: ops => @instDecidableAnd _ _ inferInstance (RunOkRV.dec (stepRV w op) ops)

/-- induction over arbitrary operation sequences, stale reconciles included. -/
theorem runRV_inv {P : WorldRV → Prop} {C : WorldRV → OpRV → Prop}
    (hstep : ∀ w op, P w → C w op → P (stepRV w op)) :
    ∀ (ops : List OpRV) (w : WorldRV), P w → RunOkRV C w ops → P (runRV w ops) :=
  foldl_inv stepRV (fun w op _ h hok => ⟨hstep w op h hok.1, hok.2⟩)

theorem runRV_append (w : WorldRV) (ops : List OpRV) (op : OpRV) :
    runRV w (ops ++ [op]) = stepRV (runRV w ops) op := by
  unfold runRV; rw [List.foldl_append]; rfl

/-- … without side condition. -/
theorem runRV_inv_all {P : WorldRV → Prop} (hstep : ∀ w op, P w → P (stepRV w op))
    (ops : List OpRV) (w : WorldRV) (h : P w) : P (runRV w ops) :=
  List.foldlRecOn ops stepRV h (fun w h op _ => hstep w op h)

/-! ## 2. Fresh ops behave exactly as `step` -/

/-- **the non-stale ops behave exactly as `step` on the underlying world**: every guarded write of a
reconcile that read the stored object with its version is accepted (the version each accepted write
returns is used for the next one). -/
theorem RV_fresh_is_step (w : WorldRV) (op : Op) : (stepRV w (.fresh op)).world = step w.world op :=
  stepRV_fresh_world w op

/-- … hence a run without stale reconciles is a run of the L3 machine. -/
theorem RV_fresh_run (w : WorldRV) (ops : List Op) : (runRV w (ops.map .fresh)).world = run w.world ops := by
  unfold runRV run
  induction ops generalizing w with
  | nil => rfl
  | cons op ops ih =>
    simp only [List.map_cons, List.foldl_cons]
    rw [ih, RV_fresh_is_step]

/-- **version bookkeeping of every step** (fresh or stale): the values recorded by the step (`l`, most
recent first) are put in front of the history, the version grows by their number, they are values of the
same object, nothing recorded means the object is unchanged, otherwise the oldest recorded value is the
object the step started from. -/
theorem RV_version_bookkeeping (w : WorldRV) (op : OpRV) :
    ∃ l, (stepRV w op).hist = l ++ w.hist ∧ (stepRV w op).rv = w.rv + l.length ∧
      (∀ x ∈ l, x.name = w.world.eds.name ∧ x.ns = w.world.eds.ns ∧ x.labels = w.world.eds.labels) ∧
      (l = [] → (stepRV w op).world.eds = w.world.eds) ∧
      (l ≠ [] → l.getLast? = some w.world.eds) :=
  stepRV_hist_shape w op

/-- the version never decreases, and an object that changed got a new version. -/
theorem RV_rv_mono (w : WorldRV) (op : OpRV) :
    w.rv ≤ (stepRV w op).rv ∧ ((stepRV w op).world.eds ≠ w.world.eds → w.rv < (stepRV w op).rv) := by
  obtain ⟨l, _, hrv, _, hnil, _⟩ := stepRV_hist_shape w op
  refine ⟨by omega, fun hne => ?_⟩
  cases l with
  | nil => exact absurd (hnil rfl) hne
  | cons x l => simp only [List.length_cons] at hrv; omega

/-! ## 3. A stale reconcile never changes the stored ExtendedDaemonSet -/

/-- **a stale reconcile never changes the stored ExtendedDaemonSet** — status (in particular
`status.activeReplicaSet` and `status.canary.nodes`), spec, annotations — nor its version, nor its
history. -/
theorem RV_stale_eds_untouched (w : WorldRV) (k : Nat) (nn m : String) :
    (stepRV w (.reconcileEdsStale k nn m)).world.eds = w.world.eds ∧
    (stepRV w (.reconcileEdsStale k nn m)).rv = w.rv ∧
    (stepRV w (.reconcileEdsStale k nn m)).hist = w.hist := by
  rw [stepRV_stale_eq]
  cases w.hist[k]? <;> exact ⟨rfl, rfl, rfl⟩

/-- in particular the fields the history properties read. -/
theorem RV_stale_status_untouched (w : WorldRV) (k : Nat) (nn m : String) :
    (stepRV w (.reconcileEdsStale k nn m)).world.eds.status = w.world.eds.status ∧
    (stepRV w (.reconcileEdsStale k nn m)).world.eds.status.activeReplicaSet = w.world.eds.status.activeReplicaSet ∧
    canaryNodesOf (stepRV w (.reconcileEdsStale k nn m)).world.eds.status = canaryNodesOf w.world.eds.status ∧
    (stepRV w (.reconcileEdsStale k nn m)).world.eds.templateHash = w.world.eds.templateHash ∧
    (stepRV w (.reconcileEdsStale k nn m)).world.eds.template = w.world.eds.template ∧
    (stepRV w (.reconcileEdsStale k nn m)).world.eds.strategy = w.world.eds.strategy ∧
    (stepRV w (.reconcileEdsStale k nn m)).world.eds.annotations = w.world.eds.annotations := by
  rw [(RV_stale_eds_untouched w k nn m).1]
  exact ⟨rfl, rfl, rfl, rfl, rfl, rfl, rfl⟩

/-- a stale reconcile writes replica sets only: pods, nodes, settings, DaemonSets and the clock are
untouched as well. -/
theorem RV_stale_frame (w : WorldRV) (k : Nat) (nn m : String) :
    (stepRV w (.reconcileEdsStale k nn m)).world.pods = w.world.pods ∧
    (stepRV w (.reconcileEdsStale k nn m)).world.nodes = w.world.nodes ∧
    (stepRV w (.reconcileEdsStale k nn m)).world.settings = w.world.settings ∧
    (stepRV w (.reconcileEdsStale k nn m)).world.daemonsets = w.world.daemonsets ∧
    (stepRV w (.reconcileEdsStale k nn m)).world.now = w.world.now := by
  rw [stepRV_stale_eq]
  cases w.hist[k]? <;> exact ⟨rfl, rfl, rfl, rfl, rfl⟩

/-- **what a stale reconcile does**: nothing when there is no `k`-th earlier value; otherwise the
replica-set list becomes the one of the L3 step `stepF` that DROPS every ExtendedDaemonSet write
(`ersOnly`), taken in the world seen through the stale object. -/
theorem RV_stale_is_faulty_step (w : WorldRV) (k : Nat) (nn m : String) :
    stepRV w (.reconcileEdsStale k nn m) =
      (match w.hist[k]? with
       | none => w
       | some d => WorldRV.setErss w (stepF ersOnly (seenWith w.world d) (.reconcileEds nn m)).erss) :=
  stepRV_stale_eq w k nn m

/-- any number of stale reconciles in a row leaves the stored ExtendedDaemonSet, its version and its
history as they were. -/
theorem RV_stale_run_eds_untouched (w : WorldRV) (ops : List OpRV)
    (h : ∀ op ∈ ops, ∃ k nn m, op = .reconcileEdsStale k nn m) :
    (runRV w ops).world.eds = w.world.eds ∧ (runRV w ops).rv = w.rv ∧ (runRV w ops).hist = w.hist :=
  List.foldlRecOn ops stepRV (motive := fun w' => w'.world.eds = w.world.eds ∧ w'.rv = w.rv ∧ w'.hist = w.hist)
    ⟨rfl, rfl, rfl⟩ (fun w' hw' op hop => by
      obtain ⟨k, nn, m, rfl⟩ := h op hop
      obtain ⟨g1, g2, g3⟩ := RV_stale_eds_untouched w' k nn m
      exact ⟨g1.trans hw'.1, g2.trans hw'.2.1, g3.trans hw'.2.2⟩)

/-! ### corollaries for runs: promotion, the canary node list -/

/-- freshness of the name the API server hands out — for stale reconciles too: their `Create` is
applied. -/
def OpFreshRV (w : WorldRV) : OpRV → Prop
  | .fresh op => OpFresh w.world op
  | .reconcileEdsStale _ nn _ => nn ∉ w.world.own.map (·.name)

/-- `OpOk` of L3 for the fresh ops; a stale reconcile needs a fresh name only (its defaulting write,
the only place where the mode flag is used, is refused). -/
def OpOkRV (w : WorldRV) : OpRV → Prop
  | .fresh op => OpOk w.world op
  | .reconcileEdsStale _ nn _ => nn ∉ w.world.own.map (·.name)

instance (w : WorldRV) (op : OpRV) : Decidable (OpFreshRV w op) :=
  match op with
  | .fresh op => inferInstanceAs (Decidable (OpFresh w.world op))
  | .reconcileEdsStale _ nn _ => inferInstanceAs (Decidable (nn ∉ w.world.own.map (·.name)))

instance (w : WorldRV) (op : OpRV) : Decidable (OpOkRV w op) :=
  match op with
  | .fresh op => inferInstanceAs (Decidable (OpOk w.world op))
  | .reconcileEdsStale _ nn _ => inferInstanceAs (Decidable (nn ∉ w.world.own.map (·.name)))

theorem OpOkRV.fresh {w : WorldRV} {op : OpRV} (h : OpOkRV w op) : OpFreshRV w op := by
  cases op with
  | fresh op => exact h.1
  | reconcileEdsStale _ _ _ => exact h

theorem RV_schemaOk_step (w : WorldRV) (op : OpRV) (h : SchemaOk w.world) (ho : OpOkRV w op) :
    SchemaOk (stepRV w op).world := by
  cases op with
  | fresh op => rw [RV_fresh_is_step]; exact L3_schemaOk_step _ _ h ho.2
  | reconcileEdsStale k nn m =>
    unfold SchemaOk
    rw [(RV_stale_eds_untouched w k nn m).1]; exact h

/-- **C05 (step): promotion only by the rule, whatever the op.**  If ANY op of the machine with
resourceVersions changes `status.activeReplicaSet` from the name of an own replica set `a` to the name
of a different own replica set `u`, the op is a FRESH daemonset reconcile and the promotion rule held
for `u` in the pre-state.  A stale reconcile never promotes: its status update is refused. -/
theorem RV_promotion_step (w : WorldRV) (op : OpRV) (hs : SchemaOk w.world) (hn : NamesNodup w.world)
    (a u : ERS) (ha : a ∈ w.world.own) (hu : u ∈ w.world.own)
    (hact : w.world.eds.status.activeReplicaSet = a.name)
    (hact' : (stepRV w op).world.eds.status.activeReplicaSet = u.name)
    (hne : a.name ≠ u.name) :
    (∃ nn m, op = .fresh (.reconcileEds nn m)) ∧
    promotionAllowed w.world.eds.strategy.canary w.world.eds.annotations u w.world.now = true := by
  cases op with
  | fresh op =>
    rw [RV_fresh_is_step] at hact'
    by_cases hop : ∃ nn m, op = .reconcileEds nn m
    · obtain ⟨nn, m, rfl⟩ := hop
      exact ⟨⟨nn, m, rfl⟩, L3_promotion_step w.world nn m hs hn a u ha hu hact hact' hne⟩
    · rw [L3_status_written_only_by_eds_reconcile _ _ (fun nn m h => hop ⟨nn, m, h⟩)] at hact'
      exact absurd (hact.symm.trans hact') hne
  | reconcileEdsStale k nn m =>
    rw [(RV_stale_eds_untouched w k nn m).1] at hact'
    exact absurd (hact.symm.trans hact') hne

/-- **C15 (step): `status.canary.nodes` stays duplicate-free**, stale reconciles included. -/
theorem RV_canaryNodup_step (w : WorldRV) (op : OpRV) (h : CanaryNodup w.world) : CanaryNodup (stepRV w op).world := by
  cases op with
  | fresh op => rw [RV_fresh_is_step]; exact L3_canaryNodup_step _ _ h
  | reconcileEdsStale k nn m =>
    unfold CanaryNodup
    rw [(RV_stale_eds_untouched w k nn m).1]; exact h

theorem RV_canary_nodup (w : WorldRV) (ops : List OpRV) (h : CanaryNodup w.world) : CanaryNodup (runRV w ops).world :=
  runRV_inv_all (P := fun w => CanaryNodup w.world) RV_canaryNodup_step ops w h

/-- **C15 (step): the canary node list never grows beyond max(previous length, resolved request)**,
stale reconciles included (they leave it as it is). -/
theorem RV_canary_bound_step (w : WorldRV) (op : OpRV) :
    ((canaryNodesOf (stepRV w op).world.eds.status).length : Int) ≤
      max ((canaryNodesOf w.world.eds.status).length : Int) (requestOf w.world) := by
  cases op with
  | fresh op => rw [RV_fresh_is_step]; exact L3_canary_bound_step _ _
  | reconcileEdsStale k nn m => rw [(RV_stale_eds_untouched w k nn m).1]; omega

/-- **C15 (history): the bound `K` on the canary node list along any run with stale reconciles.** -/
theorem RV_canary_bound (K : Int) (w : WorldRV) (ops : List OpRV)
    (h : ((canaryNodesOf w.world.eds.status).length : Int) ≤ K)
    (hreq : RunOkRV (fun w _ => requestOf w.world ≤ K) w ops) :
    ((canaryNodesOf (runRV w ops).world.eds.status).length : Int) ≤ K :=
  runRV_inv (P := fun w => ((canaryNodesOf w.world.eds.status).length : Int) ≤ K)
    (fun w op h hc => by
      have := RV_canary_bound_step w op
      omega) ops w h hreq

/-- **`status.canary.nodes` selected earlier are kept by stale reconciles** (the whole list, in order). -/
theorem RV_canary_nodes_kept (w : WorldRV) (k : Nat) (nn m : String) :
    canaryNodesOf (stepRV w (.reconcileEdsStale k nn m)).world.eds.status = canaryNodesOf w.world.eds.status :=
  congrArg (fun d => canaryNodesOf d.status) (RV_stale_eds_untouched w k nn m).1

/-- … at any point of any run, and for any number of stale reconciles in a row. -/
theorem RV_canary_nodes_kept_history (w0 : WorldRV) (ops stale : List OpRV)
    (h : ∀ op ∈ stale, ∃ k nn m, op = .reconcileEdsStale k nn m) :
    canaryNodesOf (runRV w0 (ops ++ stale)).world.eds.status = canaryNodesOf (runRV w0 ops).world.eds.status ∧
    (runRV w0 (ops ++ stale)).world.eds.status.activeReplicaSet = (runRV w0 ops).world.eds.status.activeReplicaSet := by
  have : runRV w0 (ops ++ stale) = runRV (runRV w0 ops) stale := by unfold runRV; rw [List.foldl_append]
  rw [this, (RV_stale_run_eds_untouched (runRV w0 ops) stale h).1]
  exact ⟨rfl, rfl⟩

/-! ## 4. The L3 invariants on replica sets that survive stale reconciles

No hypothesis on the history is needed: a recorded value of the same object (`HistIdent`, an invariant
of the machine) makes the stale reconcile a faulty L3 step in the world seen through it; a value of
another identity (unreachable) could only remove own replica sets. -/

/-- **C13 (step): at most one own replica set per template hash**, stale reconciles included.  A stale
reconcile creates a replica set only for the hash of the template it READ, and only when no own
replica set (of the CURRENT list) carries that hash. -/
theorem RV_hashesNodup_step (w : WorldRV) (op : OpRV) (h : HashesNodup w.world) :
    HashesNodup (stepRV w op).world := by
  cases op with
  | fresh op => rw [RV_fresh_is_step]; exact L3_hashesNodup_step _ _ h
  | reconcileEdsStale k nn m =>
    exact stale_own_lift (fun (l : List ERS) => (l.map (fun (e : ERS) => SMap.get? e.annotations K.templateHashAnnot)).Nodup)
      w k nn m (fun _ _ hs hq => hq.sublist (hs.map _))
      (fun w' _ hq => L3_hashesNodup_stepF ersOnly w' (.reconcileEds nn m) hq) h

theorem RV_allHashed_step (w : WorldRV) (op : OpRV) (h : AllHashed w.world) :
    AllHashed (stepRV w op).world := by
  cases op with
  | fresh op => rw [RV_fresh_is_step]; exact L3_allHashed_step _ _ h
  | reconcileEdsStale k nn m =>
    exact stale_own_lift (fun (l : List ERS) => ∀ e ∈ l, (SMap.get? e.annotations K.templateHashAnnot).isSome = true)
      w k nn m (fun l l' hs hq e he => hq e (hs.subset he))
      (fun w' _ hq => L3_allHashed_stepF ersOnly w' (.reconcileEds nn m) hq) h

theorem RV_annotGen_step (w : WorldRV) (op : OpRV) (h : AnnotGen w.world) :
    AnnotGen (stepRV w op).world := by
  cases op with
  | fresh op => rw [RV_fresh_is_step]; exact L3_annotGen_step _ _ h
  | reconcileEdsStale k nn m =>
    exact stale_own_lift (fun (l : List ERS) => ∀ e ∈ l, SMap.get? e.annotations K.templateHashAnnot = some e.templateGeneration)
      w k nn m (fun l l' hs hq e he => hq e (hs.subset he))
      (fun w' _ hq => L3_annotGen_stepF ersOnly w' (.reconcileEds nn m) hq) h

/-- **names stay distinct** given fresh names for the replica sets created — by stale reconciles too. -/
theorem RV_namesNodup_step (w : WorldRV) (op : OpRV) (h : NamesNodup w.world)
    (hf : OpFreshRV w op) : NamesNodup (stepRV w op).world := by
  cases op with
  | fresh op => rw [RV_fresh_is_step]; exact L3_namesNodup_step _ _ h hf
  | reconcileEdsStale k nn m =>
    exact stale_own_lift (fun (l : List ERS) => (l.map (fun (e : ERS) => e.name)).Nodup) w k nn m
      (fun _ _ hs hq => hq.sublist (hs.map _))
      (fun w' ho hq => L3_namesNodup_stepF ersOnly w' (.reconcileEds nn m) hq (by
        show nn ∉ w'.own.map (·.name)
        rw [ho]; exact hf)) h

/-- `HistIdent` — every recorded value is a value of the same object — is an invariant. -/
theorem RV_histIdent_step (w : WorldRV) (op : OpRV) (h : HistIdent w) : HistIdent (stepRV w op) :=
  histIdent_stepRV w op h

theorem RV_histIdent_run (w : WorldRV) (ops : List OpRV) (h : HistIdent w) : HistIdent (runRV w ops) :=
  runRV_inv_all histIdent_stepRV ops w h

/-- **C13 (history): one replica set per template, for ALL operation sequences with stale reconciles.** -/
theorem RV_one_per_template (w : WorldRV) (ops : List OpRV) (h : HashesNodup w.world) :
    HashesNodup (runRV w ops).world :=
  runRV_inv_all (P := fun w => HashesNodup w.world) RV_hashesNodup_step ops w h

theorem RV_all_hashed (w : WorldRV) (ops : List OpRV) (h : AllHashed w.world) :
    AllHashed (runRV w ops).world :=
  runRV_inv_all (P := fun w => AllHashed w.world) RV_allHashed_step ops w h

theorem RV_annot_gen (w : WorldRV) (ops : List OpRV) (h : AnnotGen w.world) :
    AnnotGen (runRV w ops).world :=
  runRV_inv_all (P := fun w => AnnotGen w.world) RV_annotGen_step ops w h

/-- **names stay distinct along any run with fresh names** (`RunOkRV OpFreshRV`). -/
theorem RV_names_nodup (w : WorldRV) (ops : List OpRV) (h : NamesNodup w.world)
    (hf : RunOkRV OpFreshRV w ops) : NamesNodup (runRV w ops).world :=
  runRV_inv (P := fun w => NamesNodup w.world) RV_namesNodup_step ops w h hf

/-- well-formedness (`WF` of L3: distinct names, schema) along any run with stale reconciles. -/
theorem RV_WF_step (w : WorldRV) (op : OpRV) (h : WF w.world) (ho : OpOkRV w op) :
    WF (stepRV w op).world :=
  ⟨RV_namesNodup_step w op h.1 ho.fresh, RV_schemaOk_step w op h.2 ho⟩

theorem RV_WF_run (w : WorldRV) (ops : List OpRV) (h : WF w.world)
    (ho : RunOkRV OpOkRV w ops) : WF (runRV w ops).world :=
  runRV_inv (P := fun w => WF w.world) RV_WF_step ops w h ho

/-- at any point of any run with stale reconciles: two own replica sets with the same template hash
are the same object. -/
theorem RV_at_most_one_per_hash (w : WorldRV) (ops : List OpRV) (h : HashesNodup w.world)
    (e1 e2 : ERS) (h1 : e1 ∈ (runRV w ops).world.own) (h2 : e2 ∈ (runRV w ops).world.own)
    (hh : SMap.get? e1.annotations K.templateHashAnnot = SMap.get? e2.annotations K.templateHashAnnot) :
    e1 = e2 :=
  C13_at_most_one_per_hash _ _ (RV_one_per_template w ops h) e1 e2 h1 h2 hh

/-- from a world without replica sets no hypothesis is left. -/
theorem RV_one_per_template_from_empty (w : WorldRV) (ops : List OpRV) (h : w.world.erss = []) :
    HashesNodup (runRV w ops).world ∧ AllHashed (runRV w ops).world ∧ AnnotGen (runRV w ops).world :=
  ⟨RV_one_per_template w ops (hashInv_of_no_erss _ h).1, RV_all_hashed w ops (hashInv_of_no_erss _ h).2.1,
    RV_annot_gen w ops (hashInv_of_no_erss _ h).2.2⟩

/-- **C05 (history) with stale reconciles.**  In any run from a well-formed world — stale reconciles
of the daemonset anywhere in it — whenever the NEXT op (any op) changes `status.activeReplicaSet` from an
existing own replica set `a` to a different existing own replica set `u`, that op is a fresh daemonset
reconcile and the promotion rule held for `u` at that moment. -/
theorem RV_promotion_history (w0 : WorldRV) (ops : List OpRV) (op : OpRV) (h0 : WF w0.world)
    (hops : RunOkRV OpOkRV w0 ops) (a u : ERS)
    (ha : a ∈ (runRV w0 ops).world.own) (hu : u ∈ (runRV w0 ops).world.own)
    (hact : (runRV w0 ops).world.eds.status.activeReplicaSet = a.name)
    (hact' : (runRV w0 (ops ++ [op])).world.eds.status.activeReplicaSet = u.name)
    (hne : a.name ≠ u.name) :
    (∃ nn m, op = .fresh (.reconcileEds nn m)) ∧
    promotionAllowed (runRV w0 ops).world.eds.strategy.canary (runRV w0 ops).world.eds.annotations u
      (runRV w0 ops).world.now = true := by
  have hwf := RV_WF_run w0 ops h0 hops
  rw [runRV_append] at hact'
  exact RV_promotion_step _ op hwf.2 hwf.1 a u ha hu hact hact' hne

/-! ## 5. What does NOT survive: a stale reconcile deletes / creates replica sets on outdated grounds -/

instance (e : ERS) (w' : World) : Decidable (Survives e w') :=
  inferInstanceAs (Decidable (∃ e' ∈ w'.erss, e' = { e with status := e'.status }))

/-- the own replica sets after a stale reconcile that read `d`: those the clean-up planned on `d` does
not name, then the one created from `d`. -/
theorem RV_stale_own_shape (w : WorldRV) (k : Nat) (nn m : String) (d : EDS) (hi : HistIdent w)
    (hk : w.hist[k]? = some d) :
    (stepRV w (.reconcileEdsStale k nn m)).world.own =
      w.world.own.filter (fun e => !(e.ns == d.ns && (edsWrites (seenWith w.world d) m).deletedErs.contains e.name)) ++
      (match (edsWrites (seenWith w.world d) m).created with
       | some _ => [ersOfNewAt d (newReplicaSetFromInstance d) nn w.world.now]
       | none => []) := by
  obtain ⟨hn, hns⟩ := histIdent_get hi hk
  unfold World.own
  rw [stale_erss_eq w k nn m d hk, (RV_stale_eds_untouched w k nn m).1, ← ownErs_congr d w.world.eds _ hn hns,
    ← ownErs_congr d w.world.eds _ hn hns]
  exact ownErs_applyErsList d w.world.erss _ nn w.world.now
    (fun n hc => (reconcileEds_created_iff _ _ _ _ _ _ n hc).2.1)

/-- **no second replica set for a template**: a stale reconcile creates a replica set only when NO own
replica set of the current list carries the hash of the template it read — and then nothing is
deleted by it. -/
theorem RV_stale_creates_only_missing_hash (w : WorldRV) (k : Nat) (nn m : String) (d : EDS) (hi : HistIdent w)
    (hk : w.hist[k]? = some d) (n : NewErs) (hc : (edsWrites (seenWith w.world d) m).created = some n) :
    (∀ e ∈ w.world.own, SMap.get? e.annotations K.templateHashAnnot ≠ some d.templateHash) ∧
    (stepRV w (.reconcileEdsStale k nn m)).world.erss =
      w.world.erss ++ [ersOfNewAt d (newReplicaSetFromInstance d) nn w.world.now] := by
  obtain ⟨hn, hns⟩ := histIdent_get hi hk
  have h1 := C13_create_only_if_none d w.world.erss w.world.pods w.world.nodes w.world.now m n hc
  have h2 := reconcileEds_created_iff d w.world.erss w.world.pods w.world.nodes w.world.now m n hc
  refine ⟨?_, ?_⟩
  · intro e he
    exact h1.2 e (by rw [ownErs_congr d w.world.eds _ hn hns]; exact he)
  · rw [stale_erss_eq w k nn m d hk]
    unfold applyErsList
    have hdel : (edsWrites (seenWith w.world d) m).deletedErs = [] := h2.2.2
    rw [hc, hdel, h2.2.1]
    simp

/-- **what a stale reconcile removes**: a replica set of the current list that the clean-up planned on
the stale object names — an own one that is drained (the four counters sum to zero), not marked
deleted, and neither current nor up to date FOR THE OBJECT READ. -/
theorem RV_stale_removes_only_drained (w : WorldRV) (k : Nat) (nn m : String) (e : ERS) (he : e ∈ w.world.erss)
    (h : ¬ Survives e (stepRV w (.reconcileEdsStale k nn m)).world) :
    ∃ d, w.hist[k]? = some d ∧ e.ns = d.ns ∧
      ∃ u, upToDateOf d (ownErs d w.world.erss) = some u ∧
      ∃ e0 ∈ ownErs d w.world.erss, e0.name = e.name ∧
        e.name ≠ (currentOf d (ownErs d w.world.erss) u w.world.now).1.name ∧ e.name ≠ u.name ∧
        e0.deleted = false ∧
        e0.status.available + e0.status.current + e0.status.desired + e0.status.ready = 0 := by
  cases hk : w.hist[k]? with
  | none => exact absurd (by rw [stepRV_stale_eq, hk]; exact ⟨e, he, rfl⟩) h
  | some d =>
    refine ⟨d, rfl, ?_⟩
    by_cases hdel : e.ns = d.ns ∧ e.name ∈ (edsWrites (seenWith w.world d) m).deletedErs
    · exact ⟨hdel.1, C13_cleanup_safe d w.world.erss w.world.pods w.world.nodes w.world.now m e.name hdel.2⟩
    · refine absurd ⟨e, ?_, rfl⟩ h
      rw [stale_erss_eq w k nn m d hk]
      exact mem_applyErsList_of_not_deleted _ _ _ _ _ _ he (Decidable.not_and_iff_not_or_not.1 hdel)

/-- **the replica sets that are in use FOR THE OBJECT READ survive a stale reconcile**: the one whose
hash matches the template it read and the one it selects as current. -/
theorem RV_stale_keeps_seen_in_use (w : WorldRV) (k : Nat) (nn m : String) (d : EDS) (hk : w.hist[k]? = some d)
    (u : ERS) (hu : upToDateOf d (ownErs d w.world.erss) = some u) :
    Survives u (stepRV w (.reconcileEdsStale k nn m)).world ∧
    Survives (currentOf d (ownErs d w.world.erss) u w.world.now).1 (stepRV w (.reconcileEdsStale k nn m)).world := by
  have hum := (C13_reuse_selects d w.world.erss u hu).1
  have hcm := currentOf_mem d _ u w.world.now hum
  refine ⟨⟨u, ?_, rfl⟩, ⟨(currentOf d (ownErs d w.world.erss) u w.world.now).1, ?_, rfl⟩⟩
  · rw [stale_erss_eq w k nn m d hk]
    exact mem_applyErsList_of_not_deleted _ _ _ _ _ _ (List.mem_filter.1 hum).1
      (Or.inr (C13_uptodate_never_deleted d w.world.erss w.world.pods w.world.nodes w.world.now m u hu))
  · rw [stale_erss_eq w k nn m d hk]
    exact mem_applyErsList_of_not_deleted _ _ _ _ _ _ (List.mem_filter.1 hcm).1
      (Or.inr (C13_current_never_deleted d w.world.erss w.world.pods w.world.nodes w.world.now m u hu))

/-- (FALSE) `L3_uptodate_never_removed` for stale reconciles: "the own replica set whose hash matches
the STORED spec.template survives a stale reconcile". -/
def RV_stale_never_deletes_uptodate : Prop :=
  ∀ (w : WorldRV) (k : Nat) (nn m : String) (e : ERS), HistIdent w → HashesNodup w.world → AnnotGen w.world →
    NamesNodup w.world → e ∈ w.world.own →
    SMap.get? e.annotations K.templateHashAnnot = some w.world.eds.templateHash →
    Survives e (stepRV w (.reconcileEdsStale k nn m)).world

/-- (FALSE) `L3_active_never_removed` for stale reconciles: "the replica set the STORED status names as
active survives a stale reconcile". -/
def RV_stale_never_deletes_active : Prop :=
  ∀ (w : WorldRV) (k : Nat) (nn m : String) (e : ERS), HistIdent w → HashesNodup w.world → AnnotGen w.world →
    NamesNodup w.world → e ∈ w.world.own → e.name = w.world.eds.status.activeReplicaSet →
    Survives e (stepRV w (.reconcileEdsStale k nn m)).world

/-- (FALSE) "a stale reconcile creates no replica set when the stored spec.template has its replica
set". -/
def RV_stale_never_creates : Prop :=
  ∀ (w : WorldRV) (k : Nat) (nn m : String), HistIdent w → HashesNodup w.world → AnnotGen w.world →
    NamesNodup w.world →
    (∃ e ∈ w.world.own, SMap.get? e.annotations K.templateHashAnnot = some w.world.eds.templateHash) →
    ∀ e' ∈ (stepRV w (.reconcileEdsStale k nn m)).world.erss, e' ∈ w.world.erss

/-- **strongest true variant of `RV_stale_never_deletes_uptodate`**: the replica set matching the
stored spec.template survives every stale reconcile that read an object carrying THE SAME template
hash (a stale status, strategy or annotations do not matter). -/
theorem RV_stale_never_deletes_uptodate_partial (w : WorldRV) (k : Nat) (nn m : String) (d0 : EDS)
    (hi : HistIdent w) (hh : HashesNodup w.world) (hk : w.hist[k]? = some d0)
    (hsame : d0.templateHash = w.world.eds.templateHash) (e0 : ERS) (he : e0 ∈ w.world.own)
    (hm : SMap.get? e0.annotations K.templateHashAnnot = some w.world.eds.templateHash) :
    Survives e0 (stepRV w (.reconcileEdsStale k nn m)).world := by
  obtain ⟨hn, hns⟩ := histIdent_get hi hk
  refine Decidable.byContradiction fun hnot => ?_
  obtain ⟨d', hk', _, u, hu, _, _, _, _, hneu, _⟩ := RV_stale_removes_only_drained w k nn m e0 (mem_own he) hnot
  rw [hk] at hk'; cases hk'
  have hum := C13_reuse_selects d0 w.world.erss u hu
  have hh' : hashesNodup d0 w.world.erss := (hashesNodup_congr d0 w.world.eds _ hn hns).2 hh
  have he' : e0 ∈ ownErs d0 w.world.erss := by rw [ownErs_congr d0 w.world.eds _ hn hns]; exact he
  have : e0 = u := C13_at_most_one_per_hash d0 w.world.erss hh' e0 u he' hum.1 (by rw [hm, hum.2, hsame])
  exact hneu (by rw [this])

/-- **strongest true variant of `RV_stale_never_deletes_active`**: when the object read names the same
active replica set as the stored one, that replica set is removed only if the stale reconcile itself
selected ANOTHER replica set — its up-to-date one — as current (a promotion decided on the stale
object, whose status write is then refused: the pattern of `wPromo` in EdsProps/L3.lean). -/
theorem RV_stale_never_deletes_active_partial (w : WorldRV) (k : Nat) (nn m : String) (d0 : EDS)
    (hk : w.hist[k]? = some d0)
    (hsame : d0.status.activeReplicaSet = w.world.eds.status.activeReplicaSet) (e0 : ERS) (he : e0 ∈ w.world.erss)
    (hact : e0.name = w.world.eds.status.activeReplicaSet) :
    Survives e0 (stepRV w (.reconcileEdsStale k nn m)).world ∨
    ∃ u, upToDateOf d0 (ownErs d0 w.world.erss) = some u ∧
      (currentOf d0 (ownErs d0 w.world.erss) u w.world.now).1 = u ∧ u.name ≠ e0.name := by
  by_cases hs : Survives e0 (stepRV w (.reconcileEdsStale k nn m)).world
  · exact Or.inl hs
  · right
    obtain ⟨d', hk', _, u, hu, _, _, _, hnec, hneu, _⟩ := RV_stale_removes_only_drained w k nn m e0 he hs
    rw [hk] at hk'; cases hk'
    refine ⟨u, hu, ?_, fun h => hneu h.symm⟩
    rcases currentOf_cases d0 (ownErs d0 w.world.erss) u w.world.now with hc | ⟨a, ha, hc, _⟩
    · exact hc
    · exfalso
      have := (lastWhere_mem ha).2
      simp only [beq_iff_eq] at this
      exact hnec (by rw [hc, this, hsame, hact])

/-- **strongest true variant of `RV_stale_never_creates`**: a stale reconcile that read an object carrying
THE SAME template hash as the stored one creates nothing when that template has its replica set (in
general — `RV_stale_creates_only_missing_hash` — it creates only for a hash no own replica set carries,
so never a second replica set for one template). -/
theorem RV_stale_never_creates_partial (w : WorldRV) (k : Nat) (nn m : String) (d0 : EDS) (hi : HistIdent w)
    (hk : w.hist[k]? = some d0) (hsame : d0.templateHash = w.world.eds.templateHash)
    (hex : ∃ e ∈ w.world.own, SMap.get? e.annotations K.templateHashAnnot = some w.world.eds.templateHash) :
    ∀ e' ∈ (stepRV w (.reconcileEdsStale k nn m)).world.erss, e' ∈ w.world.erss := by
  intro e' he'
  rw [stale_erss_eq w k nn m d0 hk] at he'
  rcases mem_applyErsList _ _ _ _ _ _ he' with ⟨h, _⟩ | ⟨n, hn, _⟩
  · exact h
  · obtain ⟨e, he, hm⟩ := hex
    exact absurd (by rw [hsame]; exact hm) ((RV_stale_creates_only_missing_hash w k nn m d0 hi hk n hn).1 e he)

/-! ### recovery -/

/-- **recovery (general form)**: after a FRESH reconcile of a defaulted daemonset with a valid spec there
is exactly one own replica set for the template in spec — whatever stale reconciles deleted or created
before (they keep `HashesNodup` and `AnnotGen`). -/
theorem RV_recovery (w : WorldRV) (nn m : String)
    (hd : isDefaulted w.world.eds.strategy w.world.eds.templateName = true)
    (hv : validateSpec w.world.eds.strategy = .ok) (hh : HashesNodup w.world) (hg : AnnotGen w.world) :
    HashesNodup (stepRV w (.fresh (.reconcileEds nn m))).world ∧
    ∃ e ∈ (stepRV w (.fresh (.reconcileEds nn m))).world.own,
      SMap.get? e.annotations K.templateHashAnnot = some (stepRV w (.fresh (.reconcileEds nn m))).world.eds.templateHash ∧
      ∀ e' ∈ (stepRV w (.fresh (.reconcileEds nn m))).world.own,
        SMap.get? e'.annotations K.templateHashAnnot =
          some (stepRV w (.fresh (.reconcileEds nn m))).world.eds.templateHash → e' = e := by
  rw [RV_fresh_is_step]
  have hh' := L3_hashesNodup_step w.world (.reconcileEds nn m) hh
  obtain ⟨e, he, hm⟩ := step_reconcile_has_uptodate w.world nn m hd hv hg
  exact ⟨hh', e, he, hm, fun e' he' hm' => C13_at_most_one_per_hash _ _ hh' e' e he' he (by rw [hm, hm'])⟩

/-- **recovery (the state a stale deletion leaves)**: when no own replica set carries the hash of the
stored spec.template, the next fresh reconcile of a defaulted, valid daemonset writes nothing to the
ExtendedDaemonSet and re-creates exactly one replica set, from the STORED template. -/
theorem RV_recovery_recreates (w : WorldRV) (nn m : String)
    (hd : isDefaulted w.world.eds.strategy w.world.eds.templateName = true)
    (hv : validateSpec w.world.eds.strategy = .ok)
    (hnone : ∀ e ∈ w.world.own, SMap.get? e.annotations K.templateHashAnnot ≠ some w.world.eds.templateHash) :
    (stepRV w (.fresh (.reconcileEds nn m))).world.eds = w.world.eds ∧
    (stepRV w (.fresh (.reconcileEds nn m))).rv = w.rv ∧
    (stepRV w (.fresh (.reconcileEds nn m))).world.erss =
      w.world.erss ++ [ersOfNewAt w.world.eds (newReplicaSetFromInstance w.world.eds) nn w.world.now] ∧
    SMap.get? (ersOfNewAt w.world.eds (newReplicaSetFromInstance w.world.eds) nn w.world.now).annotations
      K.templateHashAnnot = some w.world.eds.templateHash ∧
    (ersOfNewAt w.world.eds (newReplicaSetFromInstance w.world.eds) nn w.world.now).template = w.world.eds.template := by
  have hwr := edsWrites_create w.world hd hv hnone m
  obtain ⟨h1, h2, h3⟩ := execEds_fresh w (edsWrites w.world m) nn
  rw [stepRV_fresh_reconcileEds]
  refine ⟨?_, ?_, ?_, ersOfNewAt_hash _ _ _, rfl⟩
  · rw [h1, hwr]; rfl
  · rw [h3, hwr]; rfl
  · rw [h1, hwr, applyEds_erss]
    unfold applyErsList
    simp

/-- **stale reconcile, then fresh reconcile**: from any world satisfying the hash invariants with a
defaulted, valid stored spec — whatever the stale reconcile deleted or created — one fresh reconcile
later there is exactly one own replica set for the template in spec, and `HashesNodup` holds. -/
theorem RV_stale_then_fresh (w : WorldRV) (k : Nat) (nn m nn' m' : String)
    (hd : isDefaulted w.world.eds.strategy w.world.eds.templateName = true)
    (hv : validateSpec w.world.eds.strategy = .ok) (hh : HashesNodup w.world) (hg : AnnotGen w.world) :
    HashesNodup (runRV w [.reconcileEdsStale k nn m, .fresh (.reconcileEds nn' m')]).world ∧
    ∃ e ∈ (runRV w [.reconcileEdsStale k nn m, .fresh (.reconcileEds nn' m')]).world.own,
      SMap.get? e.annotations K.templateHashAnnot =
        some (runRV w [.reconcileEdsStale k nn m, .fresh (.reconcileEds nn' m')]).world.eds.templateHash ∧
      ∀ e' ∈ (runRV w [.reconcileEdsStale k nn m, .fresh (.reconcileEds nn' m')]).world.own,
        SMap.get? e'.annotations K.templateHashAnnot =
          some (runRV w [.reconcileEdsStale k nn m, .fresh (.reconcileEds nn' m')]).world.eds.templateHash → e' = e := by
  have he := (RV_stale_eds_untouched w k nn m).1
  exact RV_recovery (stepRV w (.reconcileEdsStale k nn m)) nn' m' (by rw [he]; exact hd) (by rw [he]; exact hv)
    (RV_hashesNodup_step w _ hh) (RV_annotGen_step w _ hg)

end Eds

/-! ## 6. Concrete worlds: counterexamples, recovery, non-vacuity -/
namespace Eds.ExL3RV
open Eds Eds.Cluster Eds.ClusterRV Eds.ExReconcile Eds.ExL3 Eds.Spec.C05

/-- the world `w0` of EdsProps/L3.lean (daemonset `ns/ds` at rest on template `h1`: `ds-a` with 3 pods,
the drained `ds-b` of an older template `h2`), its ExtendedDaemonSet at version 7, no recorded past. -/
def v0 : WorldRV := WorldRV.init ExL3.w0 7

def noCanary : Strategy := { strategy with canary := none }

/-- **A** — the user applies template `h3` (canary strategy); the fresh reconcile creates `ds-c`. -/
def opsA : List OpRV := [.fresh (.userSpec "h3" tpl strategy []), .fresh (.reconcileEds "ds-c" "auto")]
def wA : WorldRV := runRV v0 opsA

/-- **B** — the user applies template `h3` WITHOUT canary strategy; the first fresh reconcile creates
`ds-c`, the second makes it active (and collects the drained `ds-b`). -/
def opsB : List OpRV :=
  [.fresh (.userSpec "h3" tpl noCanary []), .fresh (.reconcileEds "ds-c" "auto"), .fresh (.reconcileEds "ds-x" "auto")]
def wB : WorldRV := runRV v0 opsB

/-- **C** — the whole roll-out `ops2` of EdsProps/L3.lean, every read fresh: `ds-c` (template `h3`) is
active and alone, `ds-a` and `ds-b` are gone. -/
def wC : WorldRV := runRV v0 (ops2.map .fresh)

/-- what a world holds: version, (hash, active) of the recorded values, stored hash, stored active,
(name, hash) of the replica sets. -/
def summary (w : WorldRV) :=
  (w.rv, w.hist.map (fun d => (d.templateHash, d.status.activeReplicaSet)), w.world.eds.templateHash,
   w.world.eds.status.activeReplicaSet, w.world.erss.map (fun e => (e.name, e.templateGeneration)))

example : summary wA = (8, [("h1", "ds-a")], "h3", "ds-a", [("ds-a", "h1"), ("ds-b", "h2"), ("ds-c", "h3")]) := by decide +kernel
example : summary wB = (9, [("h3", "ds-a"), ("h1", "ds-a")], "h3", "ds-c", [("ds-a", "h1"), ("ds-c", "h3")]) := by decide +kernel
example : summary wC = (11, [("h3", "ds-c"), ("h3", "ds-a"), ("h3", "ds-a"), ("h1", "ds-a")], "h3", "ds-c", [("ds-c", "h3")]) := by
  decide +kernel

/-! ### counterexamples of §5: a stale reconcile DELETES the replica set of the stored spec.template -/

/-- **A**: the reconcile that still reads the object before the user's edit (`h1`, `ds-a` active and up
to date) sees the just created `ds-c` as "neither current nor up to date", with zero counters: it
deletes it (and the drained `ds-b`).  Nothing else changes: the stored spec still asks for `h3`. -/
example : summary (stepRV wA (.reconcileEdsStale 0 "ds-y" "auto")) = (8, [("h1", "ds-a")], "h3", "ds-a", [("ds-a", "h1")]) := by
  decide +kernel
/-- recovery: the next fresh reconcile re-creates one replica set for `h3`; `HashesNodup` held all along. -/
example : summary (runRV wA [.reconcileEdsStale 0 "ds-y" "auto", .fresh (.reconcileEds "ds-d" "auto")]) =
    (8, [("h1", "ds-a")], "h3", "ds-a", [("ds-a", "h1"), ("ds-d", "h3")]) := by decide +kernel
example : HashesNodup (stepRV wA (.reconcileEdsStale 0 "ds-y" "auto")).world ∧
    HashesNodup (runRV wA [.reconcileEdsStale 0 "ds-y" "auto", .fresh (.reconcileEds "ds-d" "auto")]).world :=
  have hA : HashesNodup wA.world := RV_one_per_template v0 opsA (by decide +kernel)
  ⟨RV_hashesNodup_step wA _ hA, RV_one_per_template wA _ hA⟩

/-- **B**: the reconcile that reads the object two writes back (`h1`, canary strategy, `ds-a` active)
deletes `ds-c`, which the STORED status names as active and which matches the STORED spec.template
(its replica-set reconcile has not run yet: zero counters). -/
example : summary (stepRV wB (.reconcileEdsStale 1 "ds-y" "auto")) =
    (9, [("h3", "ds-a"), ("h1", "ds-a")], "h3", "ds-c", [("ds-a", "h1")]) := by decide +kernel
/-- one write back (`h3`, no canary, `ds-a` active) the reconcile does no harm: `ds-c` is its up-to-date one. -/
example : (stepRV wB (.reconcileEdsStale 0 "ds-y" "auto")).world.erss = wB.world.erss := by decide +kernel
/-- there is no third recorded value: the op does nothing. -/
example : wB.hist[2]? = none ∧ (stepRV wB (.reconcileEdsStale 2 "ds-y" "auto")).world.erss = wB.world.erss := by decide +kernel
/-- recovery: the next fresh reconcile re-creates one replica set for `h3` (the status still names the
deleted `ds-c`), the one after adopts it as active (`C05_adopt_when_missing`). -/
example : summary (runRV wB [.reconcileEdsStale 1 "ds-y" "auto", .fresh (.reconcileEds "ds-d" "auto")]) =
    (9, [("h3", "ds-a"), ("h1", "ds-a")], "h3", "ds-c", [("ds-a", "h1"), ("ds-d", "h3")]) := by decide +kernel
example : summary (runRV wB [.reconcileEdsStale 1 "ds-y" "auto", .fresh (.reconcileEds "ds-d" "auto"),
      .fresh (.reconcileEds "ds-e" "auto")]) =
    (10, [("h3", "ds-c"), ("h3", "ds-a"), ("h1", "ds-a")], "h3", "ds-d", [("ds-a", "h1"), ("ds-d", "h3")]) := by decide +kernel

/-- the replica set `ds-c` of world **B**. -/
def dsC : ERS := wB.world.erss.getLast?.getD default
example : dsC.name = "ds-c" ∧ dsC.templateGeneration = "h3" ∧ dsC ∈ wB.world.own := by decide +kernel

/-- the hypotheses of the three refuted statements hold in **B** and **C**. -/
theorem wB_hyps : HistIdent wB ∧ HashesNodup wB.world ∧ AnnotGen wB.world ∧ NamesNodup wB.world := by decide +kernel
theorem wC_hyps : HistIdent wC ∧ HashesNodup wC.world ∧ AnnotGen wC.world ∧ NamesNodup wC.world :=
  have hw : wC.world = run w0 ops2 := RV_fresh_run v0 ops2
  ⟨RV_histIdent_run v0 _ (histIdent_init w0 7), hw ▸ L3_one_per_template w0 ops2 w0_inv.1,
    hw ▸ L3_annot_gen w0 ops2 w0_inv.2.2.1, hw ▸ L3_names_nodup w0 ops2 w0_inv.2.2.2.1 ops2_fresh⟩
example : HistIdent wB ∧ HashesNodup wB.world ∧ AnnotGen wB.world ∧ NamesNodup wB.world := wB_hyps
example : HistIdent wC ∧ HashesNodup wC.world ∧ AnnotGen wC.world ∧ NamesNodup wC.world := wC_hyps

/-- `ds-c` in **B**: an own replica set, matching the stored spec.template, named active by the stored
status — and removed by the reconcile that reads two writes back. -/
theorem dsC_removed : dsC ∈ wB.world.own ∧
    SMap.get? dsC.annotations K.templateHashAnnot = some wB.world.eds.templateHash ∧
    dsC.name = wB.world.eds.status.activeReplicaSet ∧
    ¬ Survives dsC (stepRV wB (.reconcileEdsStale 1 "ds-y" "auto")).world := by decide +kernel

/-! ### counterexamples of §5: a stale reconcile CREATES a replica set for a template that is no longer in spec -/

/-- **C**: the reconcile that still reads the very first object (`h1`) finds no replica set for `h1`
(`ds-a` was collected after the promotion of `ds-c`) and creates one — a second replica set although
the stored spec.template `h3` has its own.  Not a second one for the SAME template: `HashesNodup` holds. -/
example : summary (stepRV wC (.reconcileEdsStale 3 "ds-z" "auto")) =
    (11, [("h3", "ds-c"), ("h3", "ds-a"), ("h3", "ds-a"), ("h1", "ds-a")], "h3", "ds-c", [("ds-c", "h3"), ("ds-z", "h1")]) := by
  decide +kernel
example : HashesNodup (stepRV wC (.reconcileEdsStale 3 "ds-z" "auto")).world ∧
    NamesNodup (stepRV wC (.reconcileEdsStale 3 "ds-z" "auto")).world := by decide +kernel
/-- a less stale read (`h3`) creates nothing. -/
example : (stepRV wC (.reconcileEdsStale 2 "ds-z" "auto")).world.erss = wC.world.erss := by decide +kernel
/-- recovery: the next fresh reconcile collects the spurious replica set (drained, neither current nor
up to date for the stored object). -/
example : (runRV wC [.reconcileEdsStale 3 "ds-z" "auto", .fresh (.reconcileEds "ds-d" "auto")]).world.erss.map (·.name) =
    ["ds-c"] := by decide +kernel

end Eds.ExL3RV

namespace Eds
open Cluster ClusterRV ExL3RV

/-- **counterexample**: `RV_stale_never_deletes_uptodate` is FALSE (world **B**, two writes back). -/
theorem RV_stale_never_deletes_uptodate_false : ¬ RV_stale_never_deletes_uptodate := fun h =>
  dsC_removed.2.2.2 (h wB 1 "ds-y" "auto" dsC wB_hyps.1 wB_hyps.2.1 wB_hyps.2.2.1 wB_hyps.2.2.2
    dsC_removed.1 dsC_removed.2.1)

/-- **counterexample**: `RV_stale_never_deletes_active` is FALSE (the same world and replica set). -/
theorem RV_stale_never_deletes_active_false : ¬ RV_stale_never_deletes_active := fun h =>
  dsC_removed.2.2.2 (h wB 1 "ds-y" "auto" dsC wB_hyps.1 wB_hyps.2.1 wB_hyps.2.2.1 wB_hyps.2.2.2
    dsC_removed.1 dsC_removed.2.2.1)

/-- **counterexample**: `RV_stale_never_creates` is FALSE (world **C**, four writes back). -/
theorem RV_stale_never_creates_false : ¬ RV_stale_never_creates := fun h =>
  have hC : (∃ e ∈ wC.world.own, SMap.get? e.annotations K.templateHashAnnot = some wC.world.eds.templateHash) ∧
      ¬ ∀ e' ∈ (stepRV wC (.reconcileEdsStale 3 "ds-z" "auto")).world.erss, e' ∈ wC.world.erss := by
    decide +kernel
  hC.2 (h wC 3 "ds-z" "auto" wC_hyps.1 wC_hyps.2.1 wC_hyps.2.2.1 wC_hyps.2.2.2 hC.1)

end Eds

/-! ### non-vacuity of the hypotheses of every theorem above -/
namespace Eds.ExL3RV
open Eds Eds.Cluster Eds.ClusterRV Eds.ExReconcile Eds.ExL3 Eds.Spec.C05

/-- the canary roll-out of EdsProps/L3.lean (`ops1`) with stale reconciles thrown in: two writes back
right after the canary pod was created, one write back after the canary duration elapsed. -/
def opsP : List OpRV :=
  [ .fresh (.userSpec "h3" tpl strategy []),
    .fresh (.reconcileEds "ds-c" "auto"),
    .fresh (.reconcileEds "ds-x" "auto"),
    .fresh (.reconcileErs "ds-c" (fun _ => true) true),
    .reconcileEdsStale 1 "ds-s" "auto",
    .fresh (.tick (11 * 60 * 1000000000)),
    .reconcileEdsStale 0 "ds-t" "auto" ]
def wP : WorldRV := runRV v0 opsP

example : summary wP = (9, [("h3", "ds-a"), ("h1", "ds-a")], "h3", "ds-a", [("ds-a", "h1"), ("ds-c", "h3")]) ∧
    wP.world.eds.status.canary = some ⟨"ds-c", ["n1"]⟩ := by decide +kernel

/-! (2) fresh ops -/
example : (runRV v0 (ops2.map .fresh)).world.erss = (run w0 ops2).erss := by rw [RV_fresh_run]; rfl
example : (stepRV v0 (.fresh (.userSpec "h3" tpl strategy []))).world.eds.templateHash = "h3" ∧
    (step v0.world (.userSpec "h3" tpl strategy [])).eds.templateHash = "h3" := by decide +kernel
/-- bookkeeping: the reconcile that starts the canary writes the status once; the user's edit is a write. -/
example : ((runRV v0 (opsP.take 1)).rv, (runRV v0 (opsP.take 2)).rv, (runRV v0 (opsP.take 3)).rv) = (8, 8, 9) ∧
    (runRV v0 (opsP.take 3)).hist.length = 2 := by decide +kernel
/-- a rollback writes status THEN spec: two versions, two recorded values, the older one the object the
reconcile read (`RV_version_bookkeeping`: `l.getLast? = some w.world.eds`). -/
def wRollback : WorldRV := WorldRV.init { w0 with eds := dCanary, erss := store 1 } 3
example : (stepRV wRollback (.fresh (.reconcileEds "x" "auto"))).rv = 5 ∧
    (stepRV wRollback (.fresh (.reconcileEds "x" "auto"))).hist.map (fun d => (d.templateHash, d.status.state)) =
      [("h2", "Canary Failed"), ("h2", "Canary")] ∧
    (stepRV wRollback (.fresh (.reconcileEds "x" "auto"))).hist.getLast? = some dCanary ∧
    (stepRV wRollback (.fresh (.reconcileEds "x" "auto"))).world.eds.templateHash = "h1" := by decide +kernel
/-- `RV_rv_mono`: a step that changes the object. -/
example : (stepRV wRollback (.fresh (.reconcileEds "x" "auto"))).world.eds ≠ wRollback.world.eds := by decide +kernel

/-! (3) stale reconciles -/

/-- a stale reconcile that reads an existing value, plans writes to the ExtendedDaemonSet (here: the
PROMOTION of `ds-c`, the canary duration having elapsed) and gets them refused: `RV_stale_eds_untouched`,
`RV_promotion_step` (a stale reconcile never promotes). -/
example : (runRV v0 (opsP.take 6)).hist[0]?.isSome = true ∧
    ((edsWrites (seenWith (runRV v0 (opsP.take 6)).world ((runRV v0 (opsP.take 6)).hist[0]?.getD default)) "auto").statusUpdate.map
      (·.activeReplicaSet)) = some "ds-c" ∧
    (stepRV (runRV v0 (opsP.take 6)) (.reconcileEdsStale 0 "ds-t" "auto")).world.eds.status.activeReplicaSet = "ds-a" := by
  decide +kernel
/-- the fresh reconcile at the same point does promote. -/
example : (stepRV wP (.fresh (.reconcileEds "ds-y" "auto"))).world.eds.status.activeReplicaSet = "ds-c" := by decide +kernel
/-- a stale reconcile whose step is not the identity (world **B**): the ExtendedDaemonSet is untouched,
the replica sets are not. -/
example : (stepRV wB (.reconcileEdsStale 1 "ds-y" "auto")).world.erss ≠ wB.world.erss ∧
    (stepRV wB (.reconcileEdsStale 1 "ds-y" "auto")).world.eds = wB.world.eds := by decide +kernel
example : (stepRV wB (.reconcileEdsStale 1 "ds-y" "auto")).world.eds = wB.world.eds :=
  (RV_stale_eds_untouched wB 1 "ds-y" "auto").1
/-- several stale reconciles in a row. -/
example : (runRV wB [.reconcileEdsStale 1 "ds-y" "auto", .reconcileEdsStale 0 "ds-z" "auto"]).world.eds = wB.world.eds :=
  (RV_stale_run_eds_untouched wB _ (by
    intro op hop
    simp only [List.mem_cons, List.mem_nil_iff, or_false] at hop
    rcases hop with rfl | rfl
    · exact ⟨_, _, _, rfl⟩
    · exact ⟨_, _, _, rfl⟩)).1

/-- hypotheses of `RV_promotion_history` on the run with stale reconciles: well-formed start without
recorded past, admissible ops (fresh names for the stale reconciles too), `ds-a` active before, `ds-c`
after the next op. -/
example : HistIdent v0 ∧ WF v0.world ∧ RunOkRV OpOkRV v0 opsP ∧
    (∃ a ∈ wP.world.own, a.name = "ds-a" ∧ wP.world.eds.status.activeReplicaSet = a.name) ∧
    (∃ u ∈ wP.world.own, u.name = "ds-c" ∧
      (runRV v0 (opsP ++ [.fresh (.reconcileEds "ds-y" "auto")])).world.eds.status.activeReplicaSet = u.name) := by decide +kernel
/-- the theorem applied there. -/
example : ∀ a ∈ wP.world.own, ∀ u ∈ wP.world.own, a.name = "ds-a" → u.name = "ds-c" →
    promotionAllowed wP.world.eds.strategy.canary wP.world.eds.annotations u wP.world.now = true :=
  fun a ha u hu han hun =>
    (RV_promotion_history v0 opsP (.fresh (.reconcileEds "ds-y" "auto")) (by decide +kernel) (by decide +kernel) a u ha hu
      (by rw [han]; decide +kernel) (by rw [hun]; decide +kernel) (by rw [han, hun]; decide +kernel)).2
/-- the freshness condition on stale reconciles is needed: a stale `Create` under an existing name. -/
example : ¬ OpOkRV wC (.reconcileEdsStale 3 "ds-c" "auto") ∧
    ¬ NamesNodup (stepRV wC (.reconcileEdsStale 3 "ds-c" "auto")).world := by decide +kernel

/-- canary node list: hypotheses and conclusions on the run with stale reconciles. -/
theorem opsP_request : CanaryNodup v0.world ∧ ((canaryNodesOf v0.world.eds.status).length : Int) ≤ 1 ∧
    RunOkRV (fun w _ => requestOf w.world ≤ 1) v0 opsP := by decide +kernel
example : CanaryNodup v0.world ∧ ((canaryNodesOf v0.world.eds.status).length : Int) ≤ 1 ∧
    RunOkRV (fun w _ => requestOf w.world ≤ 1) v0 opsP := opsP_request
example : CanaryNodup wP.world := RV_canary_nodup v0 opsP opsP_request.1
example : ((canaryNodesOf wP.world.eds.status).length : Int) ≤ 1 := by
  unfold wP; exact RV_canary_bound 1 v0 opsP opsP_request.2.1 opsP_request.2.2
/-- the selected node `n1` is kept by the stale reconciles of the run (one of them read an object whose
status had NO canary block and, had its write been accepted, would have selected anew). -/
example : canaryNodesOf (runRV v0 (opsP.take 4)).world.eds.status = ["n1"] ∧
    canaryNodesOf (runRV v0 (opsP.take 5)).world.eds.status = ["n1"] ∧ canaryNodesOf wP.world.eds.status = ["n1"] ∧
    ((runRV v0 (opsP.take 4)).hist[1]?.map (fun d => d.status.canary)) = some none := by decide +kernel
example : canaryNodesOf (runRV v0 (opsP.take 4 ++ [.reconcileEdsStale 1 "ds-s" "auto"])).world.eds.status =
    canaryNodesOf (runRV v0 (opsP.take 4)).world.eds.status :=
  (RV_canary_nodes_kept_history v0 (opsP.take 4) [.reconcileEdsStale 1 "ds-s" "auto"] (by
    intro op hop
    simp only [List.mem_cons, List.mem_nil_iff, or_false] at hop
    exact ⟨_, _, _, hop⟩)).1

/-! (4) surviving invariants along runs with harmful stale reconciles -/

/-- a run in which stale reconciles delete the replica set of the stored template (**B**) and later
create one for a template no longer in spec. -/
def opsH : List OpRV :=
  opsB ++ [.reconcileEdsStale 1 "ds-y" "auto", .fresh (.reconcileEds "ds-d" "auto"), .fresh (.reconcileEds "ds-e" "auto"),
           .fresh (.reconcileErs "ds-d" (fun _ => true) true), .fresh (.reconcileErs "ds-a" (fun _ => true) true),
           .fresh (.reconcileEds "ds-f" "auto"), .reconcileEdsStale 3 "ds-g" "auto"]
example : summary (runRV v0 opsH) =
    (11, [("h3", "ds-d"), ("h3", "ds-c"), ("h3", "ds-a"), ("h1", "ds-a")], "h3", "ds-d", [("ds-d", "h3"), ("ds-g", "h1")]) := by
  decide +kernel
theorem opsH_hyps : HistIdent v0 ∧ HashesNodup v0.world ∧ AllHashed v0.world ∧ AnnotGen v0.world ∧
    NamesNodup v0.world ∧ RunOkRV OpFreshRV v0 opsH := by decide +kernel
example : HistIdent v0 ∧ HashesNodup v0.world ∧ AllHashed v0.world ∧ AnnotGen v0.world ∧ NamesNodup v0.world ∧
    RunOkRV OpFreshRV v0 opsH := opsH_hyps
example : HashesNodup (runRV v0 opsH).world := RV_one_per_template v0 opsH opsH_hyps.2.1
example : AllHashed (runRV v0 opsH).world ∧ AnnotGen (runRV v0 opsH).world :=
  ⟨RV_all_hashed v0 opsH opsH_hyps.2.2.1, RV_annot_gen v0 opsH opsH_hyps.2.2.2.1⟩
example : NamesNodup (runRV v0 opsH).world := RV_names_nodup v0 opsH opsH_hyps.2.2.2.2.1 opsH_hyps.2.2.2.2.2
example : HistIdent (runRV v0 opsH) := RV_histIdent_run v0 opsH opsH_hyps.1
example : HashesNodup (runRV v0 opsH).world ∧ NamesNodup (runRV v0 opsH).world ∧ HistIdent (runRV v0 opsH) :=
  ⟨RV_one_per_template v0 opsH opsH_hyps.2.1, RV_names_nodup v0 opsH opsH_hyps.2.2.2.2.1 opsH_hyps.2.2.2.2.2,
    RV_histIdent_run v0 opsH opsH_hyps.1⟩
/-- `HistIdent` (used by `RV_stale_own_shape`, `RV_stale_creates_only_missing_hash`,
`RV_stale_never_deletes_uptodate_partial`) holds in every reachable world and is a real hypothesis of
those: with the value of ANOTHER object in the history (not reachable by `stepRV`) the "stale" reconcile
creates a replica set for that other object, which is not an own one.  The invariants of section 4 hold
regardless. -/
def wForeign : WorldRV :=
  { world := w0, rv := 1, hist := [{ dStable with name := "other", templateHash := "h9" }], hist_le := Nat.le_refl _ }
example : ¬ HistIdent wForeign ∧
    (edsWrites (seenWith wForeign.world (wForeign.hist[0]?.getD default)) "auto").created.isSome = true ∧
    (stepRV wForeign (.reconcileEdsStale 0 "o-1" "auto")).world.erss.map (·.name) = ["ds-a", "ds-b", "o-1"] ∧
    (stepRV wForeign (.reconcileEdsStale 0 "o-1" "auto")).world.own = wForeign.world.own := by decide +kernel
example : HashesNodup (stepRV wForeign (.reconcileEdsStale 0 "o-1" "auto")).world :=
  RV_hashesNodup_step wForeign _ (by decide +kernel)

/-! (5) partial variants and recovery -/

/-- `RV_stale_creates_only_missing_hash` in **C**. -/
example : wC.hist[3]?.isSome = true ∧
    (edsWrites (seenWith wC.world (wC.hist[3]?.getD default)) "auto").created.isSome = true := by decide +kernel
/-- `RV_stale_removes_only_drained` in **B**: `ds-c` is in the store and does not survive. -/
example : dsC ∈ wB.world.erss ∧ ¬ Survives dsC (stepRV wB (.reconcileEdsStale 1 "ds-y" "auto")).world := by decide +kernel
/-- `RV_stale_keeps_seen_in_use` in **B**: the object read two writes back has an up-to-date replica set. -/
example : wB.hist[1]?.isSome = true ∧
    ((upToDateOf (wB.hist[1]?.getD default) (ownErs (wB.hist[1]?.getD default) wB.world.erss)).map (·.name)) = some "ds-a" := by
  decide +kernel
/-- `RV_stale_never_deletes_uptodate_partial` in **B**: one write back the object carries the stored
hash; the theorem applied. -/
example : wB.hist[0]? = some (wB.hist[0]?.getD default) ∧
    (wB.hist[0]?.getD default).templateHash = wB.world.eds.templateHash ∧ dsC ∈ wB.world.own ∧
    SMap.get? dsC.annotations K.templateHashAnnot = some wB.world.eds.templateHash := by decide +kernel
example : Survives dsC (stepRV wB (.reconcileEdsStale 0 "ds-y" "auto")).world :=
  RV_stale_never_deletes_uptodate_partial wB 0 "ds-y" "auto" (wB.hist[0]?.getD default) wB_hyps.1 wB_hyps.2.1
    (by decide +kernel) (by decide +kernel) dsC dsC_removed.1 dsC_removed.2.1

/-- `RV_stale_never_creates_partial` in **C**: one write back the object carries the stored hash `h3`, whose
replica set `ds-c` exists. -/
example : HistIdent wC ∧ (wC.hist[0]?.map (·.templateHash)) = some wC.world.eds.templateHash ∧
    (∃ e ∈ wC.world.own, SMap.get? e.annotations K.templateHashAnnot = some wC.world.eds.templateHash) := by decide +kernel

/-- `RV_stale_never_deletes_active_partial`: both alternatives occur.  In **C** one write back the object
names the stored active replica set `ds-c`, which survives.  In `wPromoRV` — the world `wPromo` of
EdsProps/L3.lean after an edit that only adds an annotation — the stale reconcile decides the promotion
of the validated `ds-b` and collects the drained active `ds-a`; its status update is refused, so the
stored status keeps naming the deleted `ds-a`. -/
def wPromoRV : WorldRV :=
  stepRV (WorldRV.init wPromo) (.fresh (.userSpec "h2" tpl strategy [⟨K.canaryValidAnnot, "ds-b"⟩, ⟨"note", "x"⟩]))
example : (wC.hist[0]?.map (·.status.activeReplicaSet)) = some wC.world.eds.status.activeReplicaSet ∧
    (∃ e ∈ wC.world.erss, e.name = wC.world.eds.status.activeReplicaSet ∧
      Survives e (stepRV wC (.reconcileEdsStale 0 "ds-z" "auto")).world) := by decide +kernel
example : (wPromoRV.hist[0]?.map (·.status.activeReplicaSet)) = some wPromoRV.world.eds.status.activeReplicaSet ∧
    wPromoRV.world.eds.status.activeReplicaSet = "ds-a" ∧
    (stepRV wPromoRV (.reconcileEdsStale 0 "x" "auto")).world.eds.status.activeReplicaSet = "ds-a" ∧
    (stepRV wPromoRV (.reconcileEdsStale 0 "x" "auto")).world.erss.map (·.name) = ["ds-b"] := by decide +kernel

/-- recovery: the hypotheses of `RV_recovery` / `RV_recovery_recreates` / `RV_stale_then_fresh` hold in **B**
after the harmful stale reconcile (defaulted, valid stored spec; hash invariants; no replica set for the
stored template). -/
def wBdel : WorldRV := stepRV wB (.reconcileEdsStale 1 "ds-y" "auto")
theorem wBdel_hyps : isDefaulted wBdel.world.eds.strategy wBdel.world.eds.templateName = true ∧
    validateSpec wBdel.world.eds.strategy = .ok ∧ HashesNodup wBdel.world ∧ AnnotGen wBdel.world ∧
    (∀ e ∈ wBdel.world.own, SMap.get? e.annotations K.templateHashAnnot ≠ some wBdel.world.eds.templateHash) := by
  decide +kernel
example : isDefaulted wBdel.world.eds.strategy wBdel.world.eds.templateName = true ∧
    validateSpec wBdel.world.eds.strategy = .ok ∧ HashesNodup wBdel.world ∧ AnnotGen wBdel.world ∧
    (∀ e ∈ wBdel.world.own, SMap.get? e.annotations K.templateHashAnnot ≠ some wBdel.world.eds.templateHash) :=
  wBdel_hyps
example : (stepRV wBdel (.fresh (.reconcileEds "ds-d" "auto"))).world.erss =
    wBdel.world.erss ++ [ersOfNewAt wBdel.world.eds (newReplicaSetFromInstance wBdel.world.eds) "ds-d" wBdel.world.now] :=
  (RV_recovery_recreates wBdel "ds-d" "auto" wBdel_hyps.1 wBdel_hyps.2.1 wBdel_hyps.2.2.2.2).2.2.1
example : HashesNodup (runRV wB [.reconcileEdsStale 1 "ds-y" "auto", .fresh (.reconcileEds "ds-d" "auto")]).world :=
  (RV_stale_then_fresh wB 1 "ds-y" "auto" "ds-d" "auto" (by decide +kernel) (by decide +kernel) wB_hyps.2.1
    wB_hyps.2.2.1).1
/-- the conclusion checked directly: exactly one own replica set for `h3`. -/
example : ((runRV wB [.reconcileEdsStale 1 "ds-y" "auto", .fresh (.reconcileEds "ds-d" "auto")]).world.own.filter
    (fun e => SMap.get? e.annotations K.templateHashAnnot == some "h3")).map (·.name) = ["ds-d"] := by decide +kernel

end Eds.ExL3RV
