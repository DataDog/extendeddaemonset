import EdsProofs.Rolling
import EdsProofs.LimitsBridge
/-
  C03 — Rolling update respects maxUnavailable.

  Quantification: every list of targeted entries `es` (any length, any order = any Go map iteration
  order, any mix of node categories), every strategy (absolute or percent values), every clock.
  `U = unavailableNodes …` is the number of targeted nodes without an available daemon pod, nodes
  whose pod is stuck being tolerated up to maxPodSchedulerFailure.
-/
namespace Eds
open Spec.C03

/-- **Budget.** A successful sync of the active role deletes at most `max 0 (maxUnavailable − U)`
available pods for updating. -/
theorem C03_budget (p : StratParams) (now wall : Time) (cf : Bool) (r : StratResult)
    (h : manageDeployment p now wall cf = .ok r) :
    ∃ ms mu,
      resolveIntOrPercent p.strategy.rollingUpdate.maxPodSchedulerFailure (targeted p).length = some ms ∧
      resolveIntOrPercent p.strategy.rollingUpdate.maxUnavailable (targeted p).length = some mu ∧
      availDeleted r.deleteE ≤ max 0 (mu - unavailableNodes p.ers.templateGeneration wall (targeted p) ms) := by
  obtain ⟨ms, mu, mc, hms, hmu, _, _, hd⟩ := manageDeployment_plan p now wall cf r h
  refine ⟨ms, mu, hms, hmu, ?_⟩
  rw [hd]
  exact plan_budget _ wall (targeted p) _ (countAll_inv _ wall (targeted p)) ms mu mc _ _

/-- **Cap.** It never deletes more than `maxUnavailable` pods for updating in one sync. -/
theorem C03_cap (p : StratParams) (now wall : Time) (cf : Bool) (r : StratResult)
    (h : manageDeployment p now wall cf = .ok r) :
    ∃ mu, resolveIntOrPercent p.strategy.rollingUpdate.maxUnavailable (targeted p).length = some mu ∧
      (r.deleteE.length : Int) ≤ max 0 mu := by
  obtain ⟨ms, mu, mc, _, hmu, _, _, hd⟩ := manageDeployment_plan p now wall cf r h
  exact ⟨mu, hmu, by rw [hd]; exact plan_cap _ _ ms mu mc _ _⟩

/-- **Unavailable first.** An available pod is deleted only if every outdated, non-terminating,
unavailable pod is deleted in the same sync. -/
theorem C03_unavailable_first (p : StratParams) (now wall : Time) (cf : Bool) (r : StratResult)
    (h : manageDeployment p now wall cf = .ok r) (hpos : 0 < availDeleted r.deleteE) :
    (r.deleteE.length : Int) - availDeleted r.deleteE
      ≥ nOutdatedUnavail p.ers.templateGeneration wall (targeted p) := by
  obtain ⟨ms, mu, mc, _, _, _, _, hd⟩ := manageDeployment_plan p now wall cf r h
  rw [hd] at hpos ⊢
  exact plan_unavailable_first _ wall (targeted p) _ (countAll_inv _ wall (targeted p)) ms mu mc _ _ hpos

/-- **Percent.** A percentage resolves against the number of targeted nodes, rounding up. -/
theorem C03_percent (v total : Int) :
    resolveIntOrPercent (some { kind := "pct", val := v }) total = some ((v * total + 99) / 100) := by
  simp [resolveIntOrPercent, ceilDiv100]

/-- the integer ceiling used for percentages is the mathematical one. -/
theorem C03_ceil (a : Int) : 100 * ceilDiv100 a ≥ a ∧ 100 * (ceilDiv100 a - 1) < a := by
  unfold ceilDiv100; omega

/-- **Kernel tie.** The budget arithmetic the theorems use is the translated source of
limits.go (regenerated from /repo on every run). -/
theorem C03_kernel_is_source (p : LimitParams) :
    Generated.Limits.calculatePodToCreateAndDelete (toGen p) = calcLimits p := limits_bridge p

/-- **Paused / frozen.** (shared with C08) no update-deletion while paused or frozen. -/
theorem C03_paused_no_delete (c : Counts) (N ms mu mc : Int) (paused frozen : Bool)
    (h : paused = true ∨ frozen = true) : (rollingPlan c N ms mu mc paused frozen).2 = [] := by
  rw [rollingPlan_delete]; rcases h with h | h <;> simp [h]

def exNode (n : String) : NodeItem := { node := { name := n, labels := [], annotations := [], taints := [] }, setting := none }
def exPod (n : String) : Pod :=
  { name := "p-" ++ n, ns := "d", labels := [], annotations := [⟨K.templateHashAnnot, "old"⟩], owners := [],
    creation := 0, deletion := none, gracePeriod := none, nodeName := n, affOther := "", affRequired := none,
    tolerations := [], containers := [], phase := "Running", startTime := none,
    conds := [⟨"Ready", "True", "", 0⟩], cstats := [] }
def exParams : StratParams :=
  { edsName := "d", edsAnnotations := [],
    strategy := { rollingUpdate := { maxUnavailable := some ⟨"int", 1⟩, maxPodSchedulerFailure := some ⟨"int", 0⟩,
                                      maxParallelPodCreation := some 250, slowStartInterval := some minute,
                                      slowStartAdditiveIncrease := some ⟨"int", 1⟩ },
                  canary := none, reconcileFrequency := some (10 * sec) },
    ers := { name := "d-new", ns := "d", uid := "u", labels := [], annotations := [], creation := 0, deleted := false,
             ownerEds := some "d", selector := none, templateGeneration := "new",
             template := { labels := [], annotations := [], nodeSelector := [], affOther := "", affRequired := none,
                           tolerations := [], containers := [] },
             status := { status := "", desired := 0, current := 0, ready := 0, available := 0, ignored := 0, conds := [] } },
    newStatus := { status := "", desired := 0, current := 0, ready := 0, available := 0, ignored := 0, conds := [] },
    canaryNodes := [],
    byNode := [(exNode "a", some (exPod "a")), (exNode "b", some (exPod "b")), (exNode "c", some (exPod "c"))],
    toCleanUp := [], unscheduled := [] }

/-- Non-vacuity: a concrete sync where the hypotheses hold and the budget is tight
(3 nodes, maxUnavailable 1, all pods outdated and available ⇒ exactly one available pod deleted). -/
example : ∃ r, manageDeployment exParams 100 100 false = .ok r ∧ availDeleted r.deleteE = 1 ∧
    unavailableNodes "new" 100 (targeted exParams) 0 = 0 := by
  refine ⟨_, rfl, ?_, ?_⟩ <;> decide +kernel

end Eds
