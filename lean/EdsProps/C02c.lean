import EdsProps.C02b
import EdsProps.C01b
import EdsProofs.C02cConds
import EdsProofs.C02cFilter
/-
  C02c — C02 at STORE level: the cooperative round on `ErsStore` refines the abstract round of C02, hence
  repeated reconciliation of the active replica set (no canary in progress) converges.

  EdsProps/C02.lean proves convergence of the abstract round `absRound mu mc ⟨e, o⟩`; EdsProps/C02b.lean
  links it to `rollingPlan (countAll …)` on cooperative ENTRY LISTS with `mu`, `mc` fixed.  This file
  closes the gap (DESIGN §14.7) down to the store-level sync `reconcileErs`:

    pods in a store → `ersPods` → `filterAndMap` → entries → `manageDeployment` (with the slow-start cap
    `calculateMaxCreation` recomputed from the clock and the stored status at EVERY round) → the three time
    gates of `Reconcile` (LastFullSync / PodDeletion / PodCreation) → pod writes → API server → kubelet,
    with the replica-set status the sync wrote carried forward into the next round.

  Definitions
    `CoopSetup d rs aff`        static hypotheses on the EDS and its active replica set
    `StratOk d N`               the rolling-update parameters parse on `N` nodes: maxUnavailable ≥ 1, additive
                                increase ≥ 1, maxParallelPodCreation ≥ 1, maxPodSchedulerFailure ≥ 0
                                (`StratOk.of_spec`: from positive spec values, numbers or percentages)
    `CoopStore d rs gen items st`   the cooperative store predicate
    `storeEntries`, `emptyNodes`, `outdatedNodes`, `storeAbs`    entries and abstract counters of a store
    `GateFree d rs now`         no gate can fire at `now` (all stored conditions older than the frequency)
    `kubeletReady`, `nameCreates`, `coopRoundStore`, `nextErs`, `coopRound`, `coopRun`   the cooperative round
  Theorems
    `C02c_filter`       `filterAndMap` on a cooperative store = `storeEntries`, nothing to clean up;
                        `storeEntries_coop`, `storeEntries_abs`: a C02b-cooperative entry list with
                        `absOf = storeAbs` (and distinct node names, `fitItems_names_nodup`)
    `C02c_sync`         one ungated sync: creation cap `mcOf … ≥ 1` for every clock value, creates on the first
                        `min e mc` empty nodes, deletes the first `min o (mu − e)` outdated pods, no clean-up,
                        stored status stamped ≤ now
    `C02c_refines`      the round preserves `CoopStore` and `storeAbs' = absRound mu mc storeAbs`
    `C02c_converged`, `C02c_fixpoint`   the converged store; a sync there — at any instant, gated or not —
                        creates / deletes / cleans up nothing
    `coopRun_inv`, `C02_converges_store`, `C02_converges_store_within`   convergence within
                        `2·outdated + empty` rounds, and stability

  Simplifications (all explicit hypotheses, none silent):
    * settings absent: every listed `NodeItem.setting = none` (`CoopStore.noSetting`); node override
      annotations are ALLOWED (the node hash is part of the pod comparison; C10 `hA` is `CoopStore.hashOk`);
    * no DaemonSet migration in progress (`CoopSetup.noOldDs`); no canary (`noCanary`), not paused / frozen;
    * pods are classified by the controller's own comparison `comparePod`: "up to date" = it succeeds, "outdated"
      = it fails (a pod stamped with another template hash is outdated by `C10_detects_template`; so is a pod
      with a stale node hash).  This is more general than "stamped with `rs.templateGeneration` or not";
    * deletions are by pod name (`applyPodWritesHard` of C01b), so the store predicate asks that pod names
      identify the node (`nameNode`) and the API server's `generateName` is modelled by an injective function
      `gen` of the node name that does not collide with pods of other nodes (`genFresh`, `hinj`);
    * label patches (canary label removal) are not applied to the store: they do not touch any field read here;
    * the kubelet is cooperative and instantaneous ("hard"): deleted pods are gone, every created pod is bound
      to its node, Running and Ready before the next round; nodes, EDS object and settings do not change;
    * the back-off oracle of a round is `fun _ => false` (no pod is ever Failed; `C02c_sync`, `C02c_fixpoint`
      hold for every oracle);
    * rounds are at least `max 0 reconcileFrequency` apart and the first one is `GateFree` — otherwise a gate
      may fire and the round makes no progress (it is then a stutter step; not modelled).
  Not covered: canary phases and the EDS controller (promotion / rollback reduce to this phase, C05 / C07),
  pods that never become Ready, node churn.
-/
namespace Eds
open Spec.C03

/-- what is asked of the EDS `d` and of its active replica set `rs` (nothing here depends on
`rs.status`, on the pods or on the clock). -/
structure CoopSetup (d : EDS) (rs : ERS) (aff : Bool) : Prop where
  defaulted : isDefaulted d.strategy d.templateName = true
  /-- `rs` is the active replica set … -/
  active : d.status.activeReplicaSet = rs.name
  named : rs.name ≠ ""
  /-- … and no canary is in progress -/
  noCanary : d.status.canary = none
  notPaused : isRollingUpdatePaused d.annotations = false
  notFrozen : isRolloutFrozen d.annotations = false
  /-- no DaemonSet is being migrated (the controller would list its pods as well) -/
  noOldDs : SMap.get? d.annotations K.oldDaemonsetAnnot = none
  /-- the replica set carries its owner's name label (it is copied onto the pods) -/
  label : SMap.get? rs.labels K.edsNameLabel = some d.name
  /-- affinity mode: the template's required node affinity is not the empty term list (C10) -/
  affOk : aff = true → rs.template.affRequired ≠ some []

/-- the eligible nodes: listed for the replica set and fit for its template. -/
def fitItems (rs : ERS) (items : List NodeItem) : List NodeItem := candidates rs.template items []

/-- `maxUnavailable` resolved on `N` nodes (0 when it does not parse). -/
def muOf (d : EDS) (N : Nat) : Nat :=
  ((resolveIntOrPercent d.strategy.rollingUpdate.maxUnavailable N).getD 0).toNat

/-- the creation cap `calculateMaxCreation` yields for replica set `rs` at instant `now`
(0 when it fails). -/
def mcOf (d : EDS) (rs : ERS) (N : Nat) (now : Time) : Nat :=
  match calculateMaxCreation d.strategy.rollingUpdate.slowStartAdditiveIncrease
      d.strategy.rollingUpdate.slowStartInterval d.strategy.rollingUpdate.maxParallelPodCreation
      N (rollingUpdateStartTime rs.status now) now with
  | .ok mc => mc.toNat
  | _ => 0

/-- the rolling-update parameters parse on `N` nodes, with maxUnavailable ≥ 1, additive increase ≥ 1,
maxParallelPodCreation ≥ 1 and maxPodSchedulerFailure ≥ 0. -/
structure StratOk (d : EDS) (N : Nat) : Prop where
  mu : 1 ≤ muOf d N
  inc : 1 ≤ (resolveIntOrPercent d.strategy.rollingUpdate.slowStartAdditiveIncrease N).getD 0
  mp : 1 ≤ d.strategy.rollingUpdate.maxParallelPodCreation.getD 0
  ms : ∃ ms, resolveIntOrPercent d.strategy.rollingUpdate.maxPodSchedulerFailure N = some ms ∧ 0 ≤ ms

/-- the pods of the EDS in the store (what `getPodList` selects). -/
def edsPodsOf (d : EDS) (st : ErsStore) : List Pod := st.pods.filter (isEdsPod d)

/-- **The cooperative store.**  `items` is the node listing of the replica set (`getNodeList`), without
settings; `gen` is the API server's name generator for created pods (a function of the node name). -/
structure CoopStore (d : EDS) (rs : ERS) (gen : String → String) (items : List NodeItem) (st : ErsStore) :
    Prop where
  owner : ersOwner rs st = some d
  hitems : ersNodeItems d rs st = some items
  /-- simplification: no ExtendedDaemonsetSetting applies to any listed node -/
  noSetting : ∀ ni ∈ items, ni.setting = none
  nodesNodup : (st.nodes.map (·.name)).Nodup
  nodeNamed : ∀ ni ∈ items, ni.node.name ≠ ""
  /-- C10 `hA`: on a node without override annotations the template does not carry a node hash itself -/
  hashOk : ∀ ni ∈ items, ni.node.resHash = "" →
    (SMap.get? rs.template.annotations K.nodeHashAnnot).getD "" = ""
  /-- every pod of the EDS is live, Running and Ready, and sits on an eligible node -/
  settled : ∀ p ∈ edsPodsOf d st, p.deletion = none ∧ p.phase = "Running" ∧ p.ready = true ∧
    ∃ ni ∈ fitItems rs items, p.nodeName = ni.node.name
  onePer : OnePerNode (edsPodsOf d st)
  /-- pod names identify the node (deletions are by name) -/
  nameNode : ∀ p ∈ edsPodsOf d st, ∀ q ∈ edsPodsOf d st, p.name = q.name → p.nodeName = q.nodeName
  /-- the generator does not collide with a pod of another node -/
  genFresh : ∀ q ∈ edsPodsOf d st, ∀ m, gen m = q.name → m = q.nodeName

/-- the per-node entries of the store: each eligible node with the pod of the EDS on it. -/
def storeEntries (rs : ERS) (items : List NodeItem) (E : List Pod) : List Entry :=
  (fitItems rs items).map (fun ni => (ni, podOn E ni.node.name))

/-- eligible nodes without a pod of the EDS. -/
def emptyNodes (rs : ERS) (items : List NodeItem) (E : List Pod) : Nat :=
  (fitItems rs items).countP (fun ni => (podOn E ni.node.name).isNone)

/-- eligible nodes whose pod is outdated (`compareCurrentPodWithNewPod` fails: another template hash,
or a stale node hash). -/
def outdatedNodes (rs : ERS) (items : List NodeItem) (E : List Pod) : Nat :=
  (fitItems rs items).countP (fun ni =>
    match podOn E ni.node.name with
    | some p => !comparePod rs.templateGeneration p ni
    | none => false)

/-- the abstract state (C02.lean) of a store. -/
def storeAbs (d : EDS) (rs : ERS) (items : List NodeItem) (st : ErsStore) : Abs :=
  ⟨emptyNodes rs items (edsPodsOf d st), outdatedNodes rs items (edsPodsOf d st)⟩

theorem fitItems_sub {rs : ERS} {items : List NodeItem} {ni : NodeItem} (h : ni ∈ fitItems rs items) :
    ni ∈ items := (List.mem_filter.mp h).1

theorem items_names_nodup {d : EDS} {rs : ERS} {gen : String → String} {items : List NodeItem} {st : ErsStore}
    (S : CoopStore d rs gen items st) : (items.map (·.node.name)).Nodup :=
  List.Nodup.sublist (ersNodeItems_names_sublist d rs st items S.hitems) S.nodesNodup

theorem fitItems_names_nodup {d : EDS} {rs : ERS} {gen : String → String} {items : List NodeItem} {st : ErsStore}
    (S : CoopStore d rs gen items st) : ((fitItems rs items).map (·.node.name)).Nodup :=
  List.Nodup.sublist (List.filter_sublist.map _) (items_names_nodup S)

theorem storeEntries_names (rs : ERS) (items : List NodeItem) (E : List Pod) :
    (storeEntries rs items E).map (·.1.node.name) = (fitItems rs items).map (·.node.name) := by
  unfold storeEntries
  rw [List.map_map]
  rfl

theorem storeEntries_length (rs : ERS) (items : List NodeItem) (E : List Pod) :
    (storeEntries rs items E).length = (fitItems rs items).length := by
  simp [storeEntries]

section Entries
variable {d : EDS} {rs : ERS} {gen : String → String} {items : List NodeItem} {st : ErsStore}

theorem CoopStore.bound (S : CoopStore d rs gen items st) {p : Pod} (hp : p ∈ edsPodsOf d st) :
    p.nodeName ≠ "" := by
  obtain ⟨_, _, _, ni, hni, hn⟩ := S.settled p hp
  rw [hn]; exact S.nodeNamed ni (fitItems_sub hni)

theorem classify_storeEntry (S : CoopStore d rs gen items st) (wall : Time) (ni : NodeItem) {p : Pod}
    (hp : podOn (edsPodsOf d st) ni.node.name = some p) :
    classify rs.templateGeneration wall (ni, some p) =
      if comparePod rs.templateGeneration p ni then .upToDate true true else .outdated true := by
  obtain ⟨hpE, _⟩ := podOn_some hp
  obtain ⟨hd, _, hr, _⟩ := S.settled p hpE
  exact classify_settled rs.templateGeneration wall ni p (S.bound hpE) hd hr

/-- the entries of a cooperative store: each is an empty node, an outdated available pod or an
up-to-date ready pod. -/
theorem storeEntries_coop (S : CoopStore d rs gen items st) (wall : Time) :
    coop rs.templateGeneration wall (storeEntries rs items (edsPodsOf d st)) = true := by
  unfold coop storeEntries
  rw [List.all_map, List.all_eq_true]
  intro ni _
  simp only [Function.comp]
  cases hp : podOn (edsPodsOf d st) ni.node.name with
  | none => rfl
  | some p =>
    unfold coopEntry isOldE isCurE
    rw [classify_storeEntry S wall ni hp]
    cases comparePod rs.templateGeneration p ni <;> rfl

/-- the abstract state of the entry list is (eligible nodes without pod, eligible nodes with an
outdated pod). -/
theorem storeEntries_abs (S : CoopStore d rs gen items st) (wall : Time) :
    absOf rs.templateGeneration wall (storeEntries rs items (edsPodsOf d st)) = storeAbs d rs items st := by
  unfold absOf storeAbs coopE coopO storeEntries emptyNodes outdatedNodes
  rw [List.countP_map, List.countP_map]
  congr 1
  apply List.countP_congr
  intro ni _
  simp only [Function.comp]
  cases hp : podOn (edsPodsOf d st) ni.node.name with
  | none => simp [isOldE, classify_none]
  | some p =>
    unfold isOldE
    rw [classify_storeEntry S wall ni hp]
    cases hcp : comparePod rs.templateGeneration p ni <;> simp [hcp]

theorem ersPods_eq (C : CoopSetup d rs aff) : ersPods d st = edsPodsOf d st :=
  ersPods_of_no_old d st C.noOldDs

theorem ersRole_active (C : CoopSetup d rs aff) : ersRole d rs.name = "active" :=
  (ersRole_active_iff d rs.name).mpr ⟨by rw [C.active]; exact C.named, C.active⟩

/-- On a cooperative store `FilterAndMapPodsByNode` yields, for every back-off oracle,
the entry list `storeEntries` — a cooperative entry list in the sense of C02b (`storeEntries_coop`), over the
eligible nodes, with distinct node names, whose abstract state is `storeAbs` (`storeEntries_abs`) — and
hands nothing to the clean-up. -/
theorem C02c_filter (C : CoopSetup d rs aff) (S : CoopStore d rs gen items st) (released : String → Bool) :
    (filterAndMap released rs.template items (ersPods d st) (ersIgnore d rs)).byNode
      = storeEntries rs items (edsPodsOf d st) ∧
    (filterAndMap released rs.template items (ersPods d st) (ersIgnore d rs)).toDelete = [] := by
  rw [ersPods_eq C, ersIgnore_of_no_canary rs C.noCanary]
  refine filterAndMap_settled released rs.template items (edsPodsOf d st) (fun p hp => ?_) S.onePer
  obtain ⟨_, hph, _, ni, hni, hn⟩ := S.settled p hp
  exact ⟨S.bound hp, hph, List.mem_map.mpr ⟨ni, hni, hn.symm⟩⟩

theorem targeted_ersParams (C : CoopSetup d rs aff) (S : CoopStore d rs gen items st) (released : String → Bool)
    (now : Time) :
    targeted (ersParams released d rs items (ersPods d st) now) = storeEntries rs items (edsPodsOf d st) := by
  unfold targeted
  rw [ersParams_canaryNodes, ersCanaryNodes_of_no_canary C.noCanary, dropCanaryNodes_nil, ersParams_byNode,
    (C02c_filter C S released).1]

theorem toCleanUp_ersParams (C : CoopSetup d rs aff) (S : CoopStore d rs gen items st) (released : String → Bool)
    (now : Time) : (ersParams released d rs items (ersPods d st) now).toCleanUp = [] := by
  rw [ersParams_toCleanUp]; exact (C02c_filter C S released).2

end Entries

/-- **No gate fires at `now`**: every condition of the stored status was last updated at least
`max 0 reconcileFrequency` before `now` (in particular `now ≥ lastUpdate + reconcileFrequency` for
LastFullSync, PodDeletion and PodCreation) and last switched at or before `now` (in particular the
rolling update did not start in the future). -/
def GateFree (d : EDS) (rs : ERS) (now : Time) : Prop :=
  ∀ c ∈ rs.status.conds, c.lastUpdate + max 0 (ersFreq d) ≤ now ∧ c.lastTransition ≤ now

theorem GateFree.condsLe {d : EDS} {rs : ERS} {now : Time} (G : GateFree d rs now) : CondsLe now rs.status.conds :=
  fun c hc => ⟨by have := (G c hc).1; omega, (G c hc).2⟩

section Sync
variable {d : EDS} {rs : ERS} {aff : Bool} {gen : String → String} {items : List NodeItem} {st : ErsStore}

theorem StratOk.resolved {N : Nat} (hK : StratOk d N) (hdef : isDefaulted d.strategy d.templateName = true) :
    ∃ ms mu inc iv mp : Int,
      resolveIntOrPercent d.strategy.rollingUpdate.maxPodSchedulerFailure N = some ms ∧ 0 ≤ ms ∧
      resolveIntOrPercent d.strategy.rollingUpdate.maxUnavailable N = some mu ∧ 1 ≤ mu ∧ mu.toNat = muOf d N ∧
      resolveIntOrPercent d.strategy.rollingUpdate.slowStartAdditiveIncrease N = some inc ∧ 1 ≤ inc ∧
      d.strategy.rollingUpdate.slowStartInterval = some iv ∧
      d.strategy.rollingUpdate.maxParallelPodCreation = some mp ∧ 1 ≤ mp := by
  -- an option whose default-0 value is at least 1 is set
  have hpos : ∀ {x : Option Int}, 1 ≤ x.getD 0 → ∃ v, x = some v ∧ 1 ≤ v := fun {x} h => by
    cases x with
    | none => exact absurd h (by decide)
    | some v => exact ⟨v, rfl, h⟩
  obtain ⟨ms, hms, hms0⟩ := hK.ms
  obtain ⟨mu, hmu, hmu1⟩ : ∃ v, resolveIntOrPercent d.strategy.rollingUpdate.maxUnavailable N = some v ∧ 1 ≤ v :=
    hpos (by have := hK.mu; unfold muOf at this; omega)
  obtain ⟨inc, hinc, hinc1⟩ := hpos hK.inc
  obtain ⟨mp, hmp, hmp1⟩ := hpos hK.mp
  cases hiv : d.strategy.rollingUpdate.slowStartInterval with
  | none =>
    unfold isDefaulted isDefaultedRolling at hdef
    rw [hiv] at hdef
    simp at hdef
  | some iv =>
    refine ⟨ms, mu, inc, iv, mp, hms, hms0, hmu, hmu1, ?_, hinc, hinc1, rfl, hmp, hmp1⟩
    unfold muOf; rw [hmu]; rfl

theorem ersGated_false (G : GateFree d rs now) : ersGated d rs now = false := by
  unfold ersGated
  split
  · rename_i c hc
    have := (G c (List.mem_of_find?_eq_some hc)).1
    simp only [decide_eq_false_iff_not]
    omega
  · rfl

/-- **One sync of the active replica set on a cooperative store, no gate firing.**  With
`es = storeEntries …`, `e = coopE es` empty nodes and `o = coopO … es` outdated ones, the sync

  * uses a creation cap `mcOf d rs N now ≥ 1` (whatever the clock) and `muOf d N`,
  * creates the pods of the first `min e mc` empty eligible nodes,
  * deletes the first `min o (mu − e)` outdated pods (by name),
  * cleans up nothing,
  * and stores a status all of whose conditions are stamped at or before `now`. -/
theorem C02c_sync (C : CoopSetup d rs aff) (S : CoopStore d rs gen items st)
    (hK : StratOk d (fitItems rs items).length) (now : Time) (G : GateFree d rs now) (released : String → Bool) :
    1 ≤ mcOf d rs (fitItems rs items).length now ∧
    (reconcileErs rs st released aff now).creates =
      ((createCands (storeEntries rs items (edsPodsOf d st))).take
        (min (coopE (storeEntries rs items (edsPodsOf d st))) (mcOf d rs (fitItems rs items).length now))).map
        (createdFor rs aff) ∧
    (reconcileErs rs st released aff now).deletes =
      ((oldCands rs.templateGeneration now (storeEntries rs items (edsPodsOf d st))).take
        (min (coopO rs.templateGeneration now (storeEntries rs items (edsPodsOf d st)))
          (muOf d (fitItems rs items).length - coopE (storeEntries rs items (edsPodsOf d st))))).map (·.2.name) ∧
    (reconcileErs rs st released aff now).cleanupDeletes = [] ∧
    CondsLe now (((reconcileErs rs st released aff now).statusUpdate).getD rs.status).conds := by
  have hcoop := storeEntries_coop S now
  have htarget := targeted_ersParams C S released now
  have hclean := toCleanUp_ersParams C S released now
  have hpa : isRollingUpdatePaused (ersParams released d rs items (ersPods d st) now).edsAnnotations = false :=
    C.notPaused
  have hfr : isRolloutFrozen (ersParams released d rs items (ersPods d st) now).edsAnnotations = false :=
    C.notFrozen
  obtain ⟨ms, mu, inc, iv, mp, hms, hms0, hmu, hmu1, hmuN, hinc, hinc1, hiv, hmp, hmp1⟩ := hK.resolved C.defaulted
  have hlen : ((targeted (ersParams released d rs items (ersPods d st) now)).length : Int)
      = ((fitItems rs items).length : Nat) := by
    rw [htarget, storeEntries_length]
  -- the creation cap
  have hle := G.condsLe
  obtain ⟨mc, hmc, hmc1, _⟩ := calculateMaxCreation_ok d.strategy.rollingUpdate.slowStartAdditiveIncrease iv mp
    ((fitItems rs items).length : Nat) (rollingUpdateStartTime rs.status now) now inc hinc hinc1 hmp1
    (rollingUpdateStartTime_le rs.status now hle)
  have hmcN : mcOf d rs (fitItems rs items).length now = mc.toNat := by
    unfold mcOf
    rw [hiv, hmp, hmc]
  -- `ManageDeployment` succeeds with the plan on the counters of the store's entries
  obtain ⟨r, st0, hmd, hst0, hconds, hcre, hdele, hcl⟩ :=
    manageDeployment_ok (ersParams released d rs items (ersPods d st) now) now now false ms mu mc
      (by rw [hlen]; exact hms) (by rw [hlen]; exact hmu)
      (by rw [hlen]; show calculateMaxCreation d.strategy.rollingUpdate.slowStartAdditiveIncrease
            d.strategy.rollingUpdate.slowStartInterval d.strategy.rollingUpdate.maxParallelPodCreation _
            (rollingUpdateStartTime rs.status now) now = _
          rw [hiv, hmp]; exact hmc)
  have hplan := rollingPlan_coop_int rs.templateGeneration now _ hcoop ms mu mc hms0
  rw [htarget, hpa, hfr] at hcre hdele
  replace hcre := hcre.trans (congrArg Prod.fst hplan)
  replace hdele := hdele.trans (congrArg Prod.snd hplan)
  dsimp only at hcre hdele
  -- the sync is `ersFinish` of this result
  obtain ⟨removes, hrun⟩ : ∃ removes, reconcileErs rs st released aff now =
      ersFinish rs "active" (ersFreq d) (ersParams released d rs items (ersPods d st) now) r [] removes false st0
        aff now := by
    refine ⟨if now - rollingUpdateStartTime rs.status now < 5 * minute
      then (canaryLabelled d.name rs st).map (·.name) else [], ?_⟩
    rw [reconcileErs_eq rs st released aff now d S.owner]
    unfold ersBody
    simp only [C.defaulted, ersGated_false G, S.hitems, Bool.not_true, Bool.false_eq_true, if_false]
    unfold ersRun
    rw [ersRole_active C]
    unfold ersStrategy
    simp only [beq_self_eq_true, if_true, hmd, hst0]
  generalize ersParams released d rs items (ersPods d st) now = sp at hclean hcl hrun
  -- neither the deletion gate nor the creation gate fires
  have hfc : ∀ t, t ∉ ["RollingUpdatePaused", "RolloutFrozen", "Active", "PodsCleanupDone"] ++
      ["Canary", "Canary-Paused", "Canary-Failed", "Active"] →
      ∀ c, findCond st0.conds t = some c → c.lastUpdate + ersFreq d ≤ now := by
    intro t ht c hc
    rw [hconds, (deploymentConds_updated _ now now false).findCond_eq fun h => ht (List.mem_append_left _ h)] at hc
    have hc' : findCond (preConds (ersRole d rs.name) rs.status.conds now) t = some c := hc
    rw [(preConds_updated _ _ now).findCond_eq fun h => ht (List.mem_append_right _ h)] at hc'
    have := (G c (List.mem_of_find?_eq_some hc')).1
    omega
  obtain ⟨hD, hCr⟩ := ersFinish_ungated rs "active" (ersFreq d) sp r [] removes false st0 aff now
    (hfc "PodDeletion" (by decide)) (hfc "PodCreation" (by decide))
  refine ⟨by rw [hmcN]; omega, ?_, ?_, ?_, ?_⟩
  · rw [hrun, hCr, hcre, hmcN, toNat_min_natCast]
    rfl
  · rw [hrun, hD, hdele, ← hmuN, Int.toNat_sub', List.take_eq_take_min (i := mu.toNat - _), oldCands_length,
      Nat.min_comm]
  · rw [hrun, ersFinish_cleanupDeletes, hcl, hclean]; rfl
  · rw [hrun]
    apply ersFinish_status_condsLe
    rw [hconds]
    exact (deploymentConds_updated _ now now false).condsLe (by simp)
      ((preConds_updated _ _ now).condsLe (by simp) hle)

end Sync

/-- **The cooperative kubelet** on one pod: a pod that is not terminating is bound to the node it asks
for (`spec.nodeName`, or else the node-name affinity), leaves the Pending phase and becomes Ready.
Pods that are already bound, Running and Ready are left as they are. -/
def kubeletReady (now : Time) (p : Pod) : Pod :=
  if p.deletion.isSome then p else
  { p with nodeName := p.nodeOf.getD p.nodeName,
           phase := if p.phase == "" || p.phase == "Pending" then "Running" else p.phase,
           conds := if p.ready then p.conds else ⟨"Ready", "True", "", now⟩ :: p.conds }

/-- the API server stores each created pod under the name `gen node` (`generateName`). -/
def nameCreates (gen : String → String) (w : ErsWrites) : ErsWrites :=
  { w with creates := w.creates.map (fun x => (x.1, { x.2 with name := gen x.1 })) }

/-- **One cooperative round on the store**: (i) one sync of replica set `rs` at `now` (back-off
oracle: no node is released — irrelevant here, no pod is Failed); (ii) its pod writes applied "hard"
(`applyPodWritesHard` of C01b: deleted pods disappear, created pods exist, each under its generated
name); (iii) the cooperative kubelet.  Label patches are not applied (they only touch the canary label).
Nodes, EDS objects and settings stay as they are. -/
def coopRoundStore (rs : ERS) (aff : Bool) (gen : String → String) (now : Time) (st : ErsStore) : ErsStore :=
  let w := nameCreates gen (reconcileErs rs st (fun _ => false) aff now)
  { st with pods := (applyPodWritesHard w st.pods).map (kubeletReady now) }

/-- the replica set after the sync: the status it wrote, if any, is carried forward. -/
def nextErs (rs : ERS) (aff : Bool) (now : Time) (st : ErsStore) : ERS :=
  { rs with status := ((reconcileErs rs st (fun _ => false) aff now).statusUpdate).getD rs.status }

/-- the pod a cooperative round leaves on an eligible node it created for. -/
def coopPodFor (rs : ERS) (aff : Bool) (gen : String → String) (now : Time) (ni : NodeItem) : Pod :=
  kubeletReady now { (createPod rs (some ni.node) ni.setting aff).pod with name := gen ni.node.name }

theorem kubeletReady_isEdsPod (d : EDS) (now : Time) (p : Pod) :
    isEdsPod d (kubeletReady now p) = isEdsPod d p := by
  unfold kubeletReady
  split <;> rfl

theorem kubeletReady_settled (now : Time) (p : Pod) (hb : p.nodeName ≠ "") (hd : p.deletion = none)
    (hph : p.phase = "Running") (hr : p.ready = true) : kubeletReady now p = p := by
  -- the pod is not being deleted, and each of the three fields the kubelet writes already has the value written
  have h0 : ¬ p.deletion.isSome = true := by rw [hd]; exact Bool.false_ne_true
  have h1 : p.nodeOf.getD p.nodeName = p.nodeName := by rw [nodeOf_of_bound hb]; rfl
  have h2 : (if p.phase == "" || p.phase == "Pending" then "Running" else p.phase) = p.phase := by
    rw [hph]; decide
  have h3 : (if p.ready then p.conds else ⟨"Ready", "True", "", now⟩ :: p.conds) = p.conds := by rw [hr]; rfl
  unfold kubeletReady
  rw [if_neg h0, h1, h2, h3]

theorem comparePod_congr (tg : String) (p q : Pod) (ni : NodeItem) (ha : p.annotations = q.annotations)
    (hc : p.containers = q.containers) : comparePod tg p ni = comparePod tg q ni := by
  unfold comparePod compareSpecTemplateHash compareSettingOverwrite compareNodeHash
  rw [ha, hc]

/-- the pod left on a created node: bound to it, live, Running, Ready, a pod of the EDS, named by the
generator and up to date. -/
theorem coopPodFor_props {d : EDS} {rs : ERS} {aff : Bool} (C : CoopSetup d rs aff) (hns : d.ns = rs.ns)
    (gen : String → String) (now : Time) (ni : NodeItem) (hn : ni.node.name ≠ "") (hs : ni.setting = none)
    (hA : ni.node.resHash = "" → (SMap.get? rs.template.annotations K.nodeHashAnnot).getD "" = "") :
    (coopPodFor rs aff gen now ni).nodeName = ni.node.name ∧
    (coopPodFor rs aff gen now ni).name = gen ni.node.name ∧
    (coopPodFor rs aff gen now ni).deletion = none ∧
    (coopPodFor rs aff gen now ni).phase = "Running" ∧
    (coopPodFor rs aff gen now ni).ready = true ∧
    isEdsPod d (coopPodFor rs aff gen now ni) = true ∧
    comparePod rs.templateGeneration (coopPodFor rs aff gen now ni) ni = true := by
  have hnodeOf : (createPod rs (some ni.node) ni.setting aff).pod.nodeOf = some ni.node.name := by
    cases aff with
    | true => exact C10_nodeOf_affinity rs ni.node ni.setting (C.affOk rfl) hn
    | false => exact C10_nodeOf_nodeName rs ni.node ni.setting hn
  have hnodeOf' : ({ (createPod rs (some ni.node) ni.setting aff).pod with name := gen ni.node.name } : Pod).nodeOf
      = some ni.node.name := hnodeOf
  have heds := createPod_isEdsPod hns C.label (some ni.node) ni.setting aff
  have hcmp : comparePod rs.templateGeneration (createPod rs (some ni.node) ni.setting aff).pod ni = true := by
    have := C10_roundtrip rs ni.node ni.setting aff (fun s h => by rw [hs] at h; cases h)
      (fun s h => by rw [hs] at h; cases h) (fun s h => by rw [hs] at h; cases h) hA
    exact this
  have hdel : ({ (createPod rs (some ni.node) ni.setting aff).pod with name := gen ni.node.name } : Pod).deletion
      = none := rfl
  have hk : coopPodFor rs aff gen now ni =
      { (createPod rs (some ni.node) ni.setting aff).pod with
        name := gen ni.node.name, nodeName := ni.node.name, phase := "Running",
        conds := [⟨"Ready", "True", "", now⟩] } := by
    unfold coopPodFor kubeletReady
    rw [hdel, hnodeOf']
    simp only [Option.isSome_none, Bool.false_eq_true, if_false, Option.getD_some]
    rfl
  rw [hk]
  refine ⟨rfl, rfl, rfl, rfl, rfl, ?_, ?_⟩
  · rw [← heds]; rfl
  · rw [← hcmp]
    exact comparePod_congr _ _ _ _ rfl rfl

section ListStep
variable (cands : List NodeItem) (E : List Pod) (gen : String → String) (mk : NodeItem → Pod)
  (Ci : List NodeItem) (Dp : List (NodeItem × Pod))

/-- the pods of the EDS after the round: survivors of the by-name deletion, then the created pods. -/
def stepPods : List Pod :=
  E.filter (fun p => !(Dp.map (·.2.name)).contains p.name) ++ Ci.map mk

variable (hnd : (cands.map (·.node.name)).Nodup)
  (hone : OnePerNode E)
  (hname : ∀ p ∈ E, ∀ q ∈ E, p.name = q.name → p.nodeName = q.nodeName)
  (hfresh : ∀ q ∈ E, ∀ m, gen m = q.name → m = q.nodeName)
  (hinj : ∀ a b, gen a = gen b → a = b)
  (hmkNode : ∀ ni ∈ cands, (mk ni).nodeName = ni.node.name)
  (hmkName : ∀ ni ∈ cands, (mk ni).name = gen ni.node.name)
  (hC : ∀ ni ∈ Ci, ni ∈ cands ∧ podOn E ni.node.name = none)
  (hCnd : (Ci.map (·.node.name)).Nodup)
  (hD : ∀ x ∈ Dp, x.1 ∈ cands ∧ podOn E x.1.node.name = some x.2)

include hone hname hD in
theorem keep_iff {p : Pod} (hp : p ∈ E) :
    (!(Dp.map (·.2.name)).contains p.name) = true ↔ p.nodeName ∉ Dp.map (·.1.node.name) := by
  simp only [Bool.not_eq_true', List.contains_eq_mem, decide_eq_false_iff_not]
  constructor
  · intro hk hmem
    obtain ⟨x, hx, hxn⟩ := List.mem_map.mp hmem
    obtain ⟨hx2, hx2n⟩ := podOn_some (hD x hx).2
    have : x.2 = p := hone.unique hx2 hp (by rw [hx2n, hxn])
    exact hk (List.mem_map.mpr ⟨x, hx, by rw [this]⟩)
  · intro hk hmem
    obtain ⟨x, hx, hxn⟩ := List.mem_map.mp hmem
    obtain ⟨hx2, hx2n⟩ := podOn_some (hD x hx).2
    have := hname x.2 hx2 p hp hxn
    exact hk (List.mem_map.mpr ⟨x, hx, by rw [← this, hx2n]⟩)

include hone hname hD in
theorem mem_stepPods {p : Pod} :
    p ∈ stepPods E mk Ci Dp ↔ (p ∈ E ∧ p.nodeName ∉ Dp.map (·.1.node.name)) ∨ ∃ ni ∈ Ci, p = mk ni := by
  unfold stepPods
  rw [List.mem_append, List.mem_filter, List.mem_map]
  exact or_congr (and_congr_right fun hp => keep_iff cands E Dp hone hname hD hp)
    (exists_congr fun ni => and_congr_right fun _ => eq_comm)

include hone hmkNode hC hCnd in
theorem stepPods_onePer : OnePerNode (stepPods E mk Ci Dp) := by
  intro n
  unfold stepPods
  rw [List.filter_append, List.length_append]
  -- the survivors on `n` are pods of `E` on `n`, the created pods on `n` were created for `n`
  have h1 := (List.filter_sublist.filter (fun p : Pod => p.nodeName == n)
    (l₁ := E.filter (fun p => !(Dp.map (·.2.name)).contains p.name)) (l₂ := E)).length_le
  have h2 : ((Ci.map mk).filter (fun p => p.nodeName == n)).length
      ≤ (Ci.filter (fun ni => ni.node.name == n)).length :=
    filter_map_length_le _ _ _ _ (fun a ha hq => by rwa [hmkNode a (hC a ha).1] at hq)
  have h3 := nodup_filter_eq_length_le (fun ni : NodeItem => ni.node.name) n Ci hCnd
  have h4 := hone n
  -- and a node that gets a creation carried no pod of `E`
  by_cases hn : n ∈ Ci.map (·.node.name)
  · obtain ⟨ni, hni, hnin⟩ := List.mem_map.mp hn
    have h0 : E.filter (fun p => p.nodeName == n) = [] :=
      List.filter_eq_nil_iff.mpr (fun p hp hpn =>
        podOn_none_iff.mp (hC ni hni).2 p hp (by rw [hnin]; exact beq_iff_eq.mp hpn))
    rw [h0, List.length_nil] at h1
    omega
  · have h0 : Ci.filter (fun ni => ni.node.name == n) = [] :=
      List.filter_eq_nil_iff.mpr (fun ni hni hnn => hn (List.mem_map.mpr ⟨ni, hni, beq_iff_eq.mp hnn⟩))
    rw [h0, List.length_nil] at h2
    omega

include hone hname hfresh hinj hmkNode hmkName hC hD in
theorem stepPods_nameNode : ∀ p ∈ stepPods E mk Ci Dp, ∀ q ∈ stepPods E mk Ci Dp,
    p.name = q.name → p.nodeName = q.nodeName := by
  intro p hp q hq hpq
  rcases (mem_stepPods cands E mk Ci Dp hone hname hD).mp hp with ⟨hp, _⟩ | ⟨ni, hni, rfl⟩ <;>
    rcases (mem_stepPods cands E mk Ci Dp hone hname hD).mp hq with ⟨hq, _⟩ | ⟨nj, hnj, rfl⟩
  · exact hname p hp q hq hpq
  · rw [hmkName nj (hC nj hnj).1] at hpq
    rw [hmkNode nj (hC nj hnj).1]
    exact (hfresh p hp nj.node.name hpq.symm).symm
  · rw [hmkName ni (hC ni hni).1] at hpq
    rw [hmkNode ni (hC ni hni).1]
    exact hfresh q hq ni.node.name hpq
  · rw [hmkName ni (hC ni hni).1, hmkName nj (hC nj hnj).1] at hpq
    rw [hmkNode ni (hC ni hni).1, hmkNode nj (hC nj hnj).1]
    exact hinj _ _ hpq

include hone hname hfresh hinj hmkNode hmkName hC hD in
theorem stepPods_genFresh : ∀ q ∈ stepPods E mk Ci Dp, ∀ m, gen m = q.name → m = q.nodeName := by
  intro q hq m hm
  rcases (mem_stepPods cands E mk Ci Dp hone hname hD).mp hq with ⟨hq, _⟩ | ⟨nj, hnj, rfl⟩
  · exact hfresh q hq m hm
  · rw [hmkName nj (hC nj hnj).1] at hm
    rw [hmkNode nj (hC nj hnj).1]
    exact hinj _ _ hm

include hnd hone hname hmkNode hC hCnd hD in
/-- node by node, the pod on an eligible node after the round is what the cooperative successor of
C02b (`coopUpd`) says. -/
theorem stepPods_entry {ni : NodeItem} (hni : ni ∈ cands) :
    (ni, podOn (stepPods E mk Ci Dp) ni.node.name) =
      coopUpd mk (Ci.map (·.node.name)) (Dp.map (·.1.node.name)) (ni, podOn E ni.node.name) := by
  have hone' := stepPods_onePer cands E mk Ci Dp hone hmkNode hC hCnd
  have hmem := @mem_stepPods cands E mk Ci Dp hone hname hD
  unfold coopUpd
  simp only []
  by_cases h1 : ni.node.name ∈ Ci.map (·.node.name)
  · rw [if_pos h1]
    obtain ⟨nj, hnj, hnjn⟩ := List.mem_map.mp h1
    have : nj = ni := eq_of_nodup_map _ hnd (hC nj hnj).1 hni hnjn
    subst this
    rw [podOn_eq_some hone' (hmem.mpr (Or.inr ⟨nj, hnj, rfl⟩)) (hmkNode nj hni)]
  · rw [if_neg h1]
    have hcre : ∀ nj ∈ Ci, (mk nj).nodeName ≠ ni.node.name := by
      intro nj hnj heq
      rw [hmkNode nj (hC nj hnj).1] at heq
      exact h1 (List.mem_map.mpr ⟨nj, hnj, heq⟩)
    by_cases h2 : ni.node.name ∈ Dp.map (·.1.node.name)
    · rw [if_pos h2]
      have : podOn (stepPods E mk Ci Dp) ni.node.name = none := by
        rw [podOn_none_iff]
        intro p hp hpn
        rcases hmem.mp hp with ⟨_, hk⟩ | ⟨nj, hnj, rfl⟩
        · exact hk (hpn ▸ h2)
        · exact hcre nj hnj hpn
      rw [this]
    · rw [if_neg h2]
      cases hp : podOn E ni.node.name with
      | none =>
        have : podOn (stepPods E mk Ci Dp) ni.node.name = none := by
          rw [podOn_none_iff]
          intro p hp' hpn
          rcases hmem.mp hp' with ⟨hpE, _⟩ | ⟨nj, hnj, rfl⟩
          · exact podOn_none_iff.mp hp p hpE hpn
          · exact hcre nj hnj hpn
        rw [this]
      | some p =>
        obtain ⟨hpE, hpn⟩ := podOn_some hp
        rw [podOn_eq_some hone' (hmem.mpr (Or.inl ⟨hpE, by rw [hpn]; exact h2⟩)) hpn]

end ListStep

theorem mem_createCands_storeEntries {rs : ERS} {items : List NodeItem} {E : List Pod} {ni : NodeItem}
    (h : ni ∈ createCands (storeEntries rs items E)) :
    ni ∈ fitItems rs items ∧ podOn E ni.node.name = none := by
  unfold createCands storeEntries at h
  simp only [List.mem_map, List.mem_filter] at h
  obtain ⟨e, ⟨⟨nj, hnj, rfl⟩, he⟩, rfl⟩ := h
  simp only [isEmptyE, Option.isNone_iff_eq_none] at he
  exact ⟨hnj, he⟩

theorem mem_oldCands_storeEntries {rs : ERS} {items : List NodeItem} {E : List Pod} {tg : String} {wall : Time}
    {x : NodeItem × Pod} (h : x ∈ oldCands tg wall (storeEntries rs items E)) :
    x.1 ∈ fitItems rs items ∧ podOn E x.1.node.name = some x.2 := by
  unfold oldCands storeEntries at h
  simp only [List.mem_filterMap, List.mem_map] at h
  obtain ⟨e, ⟨nj, hnj, rfl⟩, he⟩ := h
  simp only [] at he
  split at he
  · rename_i p hp
    split at he
    · simp only [Option.some.injEq] at he
      rw [← he]
      exact ⟨hnj, hp⟩
    · cases he
  · cases he

/-- a deletion candidate of a cooperative store sits on an eligible node, is the pod of the EDS on it,
and is OUTDATED: the controller's pod comparison fails. -/
theorem mem_oldCands_storeEntries_old {d : EDS} {rs : ERS} {gen : String → String} {items : List NodeItem}
    {st : ErsStore} (S : CoopStore d rs gen items st) {wall : Time} {x : NodeItem × Pod}
    (h : x ∈ oldCands rs.templateGeneration wall (storeEntries rs items (edsPodsOf d st))) :
    x.1 ∈ fitItems rs items ∧ podOn (edsPodsOf d st) x.1.node.name = some x.2 ∧
    comparePod rs.templateGeneration x.2 x.1 = false := by
  obtain ⟨h1, h2⟩ := mem_oldCands_storeEntries h
  refine ⟨h1, h2, ?_⟩
  unfold oldCands at h
  obtain ⟨e, he, hx⟩ := List.mem_filterMap.mp h
  split at hx
  · rename_i p hp
    split at hx
    · rename_i hold
      cases hx
      have hpo : podOn (edsPodsOf d st) e.1.node.name = some p := h2
      rw [isOldE, show e = (e.1, some p) from Prod.ext rfl hp, classify_storeEntry S wall e.1 hpo] at hold
      cases hcp : comparePod rs.templateGeneration p e.1 with
      | false => rfl
      | true => rw [hcp] at hold; cases hold
    · cases hx
  · cases hx

section Counts
variable {d : EDS} {rs : ERS} {gen : String → String} {items : List NodeItem} {st : ErsStore}

/-- **The counters after ANY step of the cooperative kind.**  `Ci`: eligible nodes without a pod of the EDS that
receive the (up-to-date) pod `mk ni`; `Dp`: outdated pods of the EDS, on eligible nodes, that are removed; both
without repetition (sub-lists of the eligible nodes by name).  Then

    empty' + |Ci| = empty + |Dp|        outdated' + |Dp| = outdated. -/
theorem stepPods_counts (S : CoopStore d rs gen items st) (mk : NodeItem → Pod) (Ci : List NodeItem)
    (Dp : List (NodeItem × Pod))
    (hmkNode : ∀ ni ∈ fitItems rs items, (mk ni).nodeName = ni.node.name)
    (hmkCur : ∀ ni ∈ fitItems rs items, comparePod rs.templateGeneration (mk ni) ni = true)
    (hC : ∀ ni ∈ Ci, ni ∈ fitItems rs items ∧ podOn (edsPodsOf d st) ni.node.name = none)
    (hCs : (Ci.map (·.node.name)).Sublist ((fitItems rs items).map (·.node.name)))
    (hD : ∀ x ∈ Dp, x.1 ∈ fitItems rs items ∧ podOn (edsPodsOf d st) x.1.node.name = some x.2 ∧
      comparePod rs.templateGeneration x.2 x.1 = false)
    (hDs : (Dp.map (·.1.node.name)).Sublist ((fitItems rs items).map (·.node.name))) :
    emptyNodes rs items (stepPods (edsPodsOf d st) mk Ci Dp) + Ci.length =
      emptyNodes rs items (edsPodsOf d st) + Dp.length ∧
    outdatedNodes rs items (stepPods (edsPodsOf d st) mk Ci Dp) + Dp.length =
      outdatedNodes rs items (edsPodsOf d st) := by
  have hnd := fitItems_names_nodup S
  have hCnd : (Ci.map (·.node.name)).Nodup := List.Nodup.sublist hCs hnd
  -- node by node, the pod after the step is the cooperative successor's
  have hentry : ∀ ni ∈ fitItems rs items, podOn (stepPods (edsPodsOf d st) mk Ci Dp) ni.node.name =
      (coopUpd mk (Ci.map (·.node.name)) (Dp.map (·.1.node.name)) (ni, podOn (edsPodsOf d st) ni.node.name)).2 :=
    fun ni hni => congrArg Prod.snd (stepPods_entry (fitItems rs items) (edsPodsOf d st) mk Ci Dp hnd S.onePer
      S.nameNode hmkNode hC hCnd (fun x hx => ⟨(hD x hx).1, (hD x hx).2.1⟩) hni)
  unfold emptyNodes outdatedNodes
  rw [← List.length_map (f := (·.node.name)) (as := Ci), ← List.length_map (f := (·.1.node.name)) (as := Dp)]
  refine countP_update (fun ni : NodeItem => ni.node.name) (fitItems rs items) _ _ hnd hCnd
    (List.Nodup.sublist hDs hnd) (fun a ha => hCs.subset ha) (fun b hb => hDs.subset hb) _ _ _ _ ?_ ?_ ?_
  · -- a node that is created on is empty before and carries the up-to-date `mk ni` afterwards
    intro ni hni hm
    obtain ⟨nj, hnj, hn⟩ := List.mem_map.mp hm
    have he : podOn (edsPodsOf d st) ni.node.name = none := hn ▸ (hC nj hnj).2
    have hu := hentry ni hni
    simp only [coopUpd, if_pos hm] at hu
    simp only [he, hu, hmkCur ni hni, Option.isNone_none, Option.isNone_some, Bool.not_true, and_self]
  · -- the node of a deleted pod carries that outdated pod before and nothing afterwards
    intro ni hni hm
    obtain ⟨x, hx, hn⟩ := List.mem_map.mp hm
    obtain ⟨h1, h2, h3⟩ := hD x hx
    obtain rfl : x.1 = ni := eq_of_nodup_map _ hnd h1 hni hn
    have hnc : x.1.node.name ∉ Ci.map (·.node.name) := fun hc => by
      obtain ⟨nj, hnj, hn'⟩ := List.mem_map.mp hc
      have := (hC nj hnj).2
      rw [hn', h2] at this
      cases this
    have hu := hentry x.1 hni
    simp only [coopUpd, if_neg hnc, if_pos hm] at hu
    simp only [h2, hu, h3, Option.isNone_none, Option.isNone_some, Bool.not_false, and_self]
  · intro ni hni h1 h2
    have hu := hentry ni hni
    simp only [coopUpd, if_neg h1, if_neg h2] at hu
    rw [hu]
    exact ⟨rfl, rfl⟩

end Counts

section StoreStep
variable {d : EDS} {rs : ERS} {aff : Bool} {gen : String → String} {items : List NodeItem} {st : ErsStore}

theorem coopRound_edsPods (C : CoopSetup d rs aff) (S : CoopStore d rs gen items st)
    (hK : StratOk d (fitItems rs items).length) (now : Time) (G : GateFree d rs now) :
    edsPodsOf d (coopRoundStore rs aff gen now st) =
      stepPods (edsPodsOf d st) (coopPodFor rs aff gen now)
        ((createCands (storeEntries rs items (edsPodsOf d st))).take
          (min (coopE (storeEntries rs items (edsPodsOf d st))) (mcOf d rs (fitItems rs items).length now)))
        ((oldCands rs.templateGeneration now (storeEntries rs items (edsPodsOf d st))).take
          (min (coopO rs.templateGeneration now (storeEntries rs items (edsPodsOf d st)))
            (muOf d (fitItems rs items).length - coopE (storeEntries rs items (edsPodsOf d st))))) := by
  obtain ⟨_, hcre, hdel, hclean, _⟩ := C02c_sync C S hK now G (fun _ => false)
  have hns : d.ns = rs.ns := (ersOwner_some S.owner).2.1
  have hC : ∀ ni ∈ (createCands (storeEntries rs items (edsPodsOf d st))).take
      (min (coopE (storeEntries rs items (edsPodsOf d st))) (mcOf d rs (fitItems rs items).length now)),
      ni ∈ items := fun ni hni => fitItems_sub (mem_createCands_storeEntries (List.mem_of_mem_take hni)).1
  generalize (createCands _).take _ = Ci at hcre hC ⊢
  generalize (oldCands _ _ _).take _ = Dp at hdel ⊢
  have hpods : (coopRoundStore rs aff gen now st).pods =
      (st.pods.filter (fun p => !(Dp.map (·.2.name)).contains p.name)).map (kubeletReady now) ++
        Ci.map (coopPodFor rs aff gen now) := by
    unfold coopRoundStore applyPodWritesHard nameCreates
    simp only [hcre, hdel, hclean, List.append_nil, List.map_append, List.map_map]
    rfl
  -- the kubelet leaves the settled pods alone; the created pods are pods of the EDS
  have hold : ((st.pods.filter (fun p => !(Dp.map (·.2.name)).contains p.name)).map (kubeletReady now)).filter
      (isEdsPod d) = (edsPodsOf d st).filter (fun p => !(Dp.map (·.2.name)).contains p.name) := by
    rw [filter_map_fix (kubeletReady now) (isEdsPod d) _ (fun a _ => kubeletReady_isEdsPod d now a)]
    · exact filter_swap _ _ _
    · intro p hp he
      have hpE : p ∈ edsPodsOf d st := List.mem_filter.mpr ⟨(List.mem_filter.mp hp).1, he⟩
      obtain ⟨hd, hph, hr, _⟩ := S.settled p hpE
      exact kubeletReady_settled now p (S.bound hpE) hd hph hr
  have hnew : (Ci.map (coopPodFor rs aff gen now)).filter (isEdsPod d) = Ci.map (coopPodFor rs aff gen now) := by
    rw [List.filter_eq_self]
    intro p hp
    obtain ⟨ni, hni, rfl⟩ := List.mem_map.mp hp
    have hit := hC ni hni
    exact (coopPodFor_props C hns gen now ni (S.nodeNamed ni hit) (S.noSetting ni hit) (S.hashOk ni hit)).2.2.2.2.2.1
  show (coopRoundStore rs aff gen now st).pods.filter (isEdsPod d) = _
  rw [hpods, List.filter_append, hold, hnew]
  rfl

/-- A store whose pods of the EDS are those of the cooperative store `st` after creations `cs` on empty eligible
nodes (distinct ones) and deletions `ds` of the pods standing on eligible nodes, and which has the owner, the node
items and the nodes of `st`, is cooperative: the created pods are settled, sit alone on their nodes and carry
generated names. -/
theorem CoopStore.step (C : CoopSetup d rs aff) (S : CoopStore d rs gen items st)
    (hinj : ∀ a b, gen a = gen b → a = b) (now : Time) {cs : List NodeItem} {ds : List (NodeItem × Pod)}
    (hC : ∀ ni ∈ cs, ni ∈ fitItems rs items ∧ podOn (edsPodsOf d st) ni.node.name = none)
    (hCnd : (cs.map (·.node.name)).Nodup)
    (hD : ∀ x ∈ ds, x.1 ∈ fitItems rs items ∧ podOn (edsPodsOf d st) x.1.node.name = some x.2)
    {st' : ErsStore} (hE' : edsPodsOf d st' = stepPods (edsPodsOf d st) (coopPodFor rs aff gen now) cs ds)
    (howner : ersOwner rs st' = some d) (hitems : ersNodeItems d rs st' = some items)
    (hnodes : (st'.nodes.map (·.name)).Nodup) : CoopStore d rs gen items st' := by
  have hns : d.ns = rs.ns := (ersOwner_some S.owner).2.1
  have hprops : ∀ ni ∈ fitItems rs items, _ := fun ni hni =>
    coopPodFor_props C hns gen now ni (S.nodeNamed ni (fitItems_sub hni)) (S.noSetting ni (fitItems_sub hni))
      (S.hashOk ni (fitItems_sub hni))
  have hmkNode : ∀ ni ∈ fitItems rs items, (coopPodFor rs aff gen now ni).nodeName = ni.node.name :=
    fun ni hni => (hprops ni hni).1
  have hmkName : ∀ ni ∈ fitItems rs items, (coopPodFor rs aff gen now ni).name = gen ni.node.name :=
    fun ni hni => (hprops ni hni).2.1
  refine { owner := howner, hitems := hitems, noSetting := S.noSetting, nodesNodup := hnodes,
           nodeNamed := S.nodeNamed, hashOk := S.hashOk, settled := ?_, onePer := ?_, nameNode := ?_,
           genFresh := ?_ }
  · rw [hE']
    intro p hp
    rcases (mem_stepPods _ _ _ _ _ S.onePer S.nameNode hD).mp hp with ⟨hpE, _⟩ | ⟨ni, hni, rfl⟩
    · exact S.settled p hpE
    · have := hprops ni (hC ni hni).1
      exact ⟨this.2.2.1, this.2.2.2.1, this.2.2.2.2.1, ni, (hC ni hni).1, this.1⟩
  · rw [hE']; exact stepPods_onePer _ _ _ _ _ S.onePer hmkNode hC hCnd
  · rw [hE']; exact stepPods_nameNode _ _ gen _ _ _ S.onePer S.nameNode S.genFresh hinj hmkNode hmkName hC hD
  · rw [hE']; exact stepPods_genFresh _ _ gen _ _ _ S.onePer S.nameNode S.genFresh hinj hmkNode hmkName hC hD

/-- **Refinement.**  One cooperative round keeps the store cooperative, and acts on the
abstract counters (eligible nodes without pod, eligible nodes with an outdated pod) exactly as the
abstract round `absRound` of C02 with the `mu` and the creation cap `mc ≥ 1` the sync used. -/
theorem C02c_refines (C : CoopSetup d rs aff) (S : CoopStore d rs gen items st)
    (hK : StratOk d (fitItems rs items).length) (hinj : ∀ a b, gen a = gen b → a = b)
    (now : Time) (G : GateFree d rs now) :
    CoopStore d rs gen items (coopRoundStore rs aff gen now st) ∧
    1 ≤ mcOf d rs (fitItems rs items).length now ∧
    storeAbs d rs items (coopRoundStore rs aff gen now st) =
      absRound (muOf d (fitItems rs items).length) (mcOf d rs (fitItems rs items).length now)
        (storeAbs d rs items st) := by
  have hE' := coopRound_edsPods C S hK now G
  have hmc1 := (C02c_sync C S hK now G (fun _ => false)).1
  have hns : d.ns = rs.ns := (ersOwner_some S.owner).2.1
  generalize hnc : min (coopE (storeEntries rs items (edsPodsOf d st))) (mcOf d rs (fitItems rs items).length now)
    = nc at hE'
  generalize hndl : min (coopO rs.templateGeneration now (storeEntries rs items (edsPodsOf d st)))
    (muOf d (fitItems rs items).length - coopE (storeEntries rs items (edsPodsOf d st))) = nd at hE'
  have hprops : ∀ ni ∈ fitItems rs items, _ := fun ni hni =>
    coopPodFor_props C hns gen now ni (S.nodeNamed ni (fitItems_sub hni)) (S.noSetting ni (fitItems_sub hni))
      (S.hashOk ni (fitItems_sub hni))
  have hmkNode : ∀ ni ∈ fitItems rs items, (coopPodFor rs aff gen now ni).nodeName = ni.node.name :=
    fun ni hni => (hprops ni hni).1
  have hC : ∀ ni ∈ (createCands (storeEntries rs items (edsPodsOf d st))).take nc,
      ni ∈ fitItems rs items ∧ podOn (edsPodsOf d st) ni.node.name = none :=
    fun ni hni => mem_createCands_storeEntries (List.mem_of_mem_take hni)
  have hD : ∀ x ∈ (oldCands rs.templateGeneration now (storeEntries rs items (edsPodsOf d st))).take nd,
      x.1 ∈ fitItems rs items ∧ podOn (edsPodsOf d st) x.1.node.name = some x.2 :=
    fun x hx => mem_oldCands_storeEntries (List.mem_of_mem_take hx)
  have hnd := fitItems_names_nodup S
  have hCnd : (((createCands (storeEntries rs items (edsPodsOf d st))).take nc).map (·.node.name)).Nodup := by
    apply List.Nodup.sublist (createCands_names_sublist _ nc)
    rw [storeEntries_names]; exact hnd
  have S' : CoopStore d rs gen items (coopRoundStore rs aff gen now st) :=
    S.step C hinj now hC hCnd hD hE' S.owner S.hitems S.nodesNodup
  refine ⟨S', hmc1, ?_⟩
  -- the counters of the entry list are those of the store
  have habs := storeEntries_abs S now
  unfold absOf storeAbs at habs
  obtain ⟨hE0, hO0⟩ := Abs.mk.inj habs
  have hCs : (((createCands (storeEntries rs items (edsPodsOf d st))).take nc).map (·.node.name)).Sublist
      ((fitItems rs items).map (·.node.name)) :=
    storeEntries_names rs items (edsPodsOf d st) ▸ createCands_names_sublist _ nc
  have hDs : (((oldCands rs.templateGeneration now (storeEntries rs items (edsPodsOf d st))).take nd).map
      (·.1.node.name)).Sublist ((fitItems rs items).map (·.node.name)) := by
    rw [← storeEntries_names rs items (edsPodsOf d st), List.map_take, oldCands_names]
    exact (List.take_sublist _ _).trans (List.filter_sublist.map _)
  have hcnt := stepPods_counts S (coopPodFor rs aff gen now) _ _ hmkNode
    (fun ni hni => (hprops ni hni).2.2.2.2.2.2) hC hCs
    (fun x hx => mem_oldCands_storeEntries_old S (List.mem_of_mem_take hx)) hDs
  subst hnc hndl
  rw [List.length_take, List.length_take, createCands_length, oldCands_length,
    Nat.min_eq_left (Nat.min_le_left _ _), Nat.min_eq_left (Nat.min_le_left _ _), hE0, hO0] at hcnt
  unfold storeAbs
  rw [hE', hE0, hO0]
  exact absRound_of_counts hcnt.1 hcnt.2

end StoreStep

section Fixpoint
variable {d : EDS} {rs : ERS} {aff : Bool} {gen : String → String} {items : List NodeItem} {st : ErsStore}

/-- **The converged store.**  A cooperative store without empty eligible node and without outdated
pod: every eligible node carries exactly one pod of the EDS — live, Running, Ready, stamped with the
replica set's template generation (and passing the whole pod comparison) — and the EDS has no other pod. -/
theorem C02c_converged (S : CoopStore d rs gen items st)
    (he : emptyNodes rs items (edsPodsOf d st) = 0) (ho : outdatedNodes rs items (edsPodsOf d st) = 0) :
    (∀ ni ∈ fitItems rs items, ∃ p,
      (edsPodsOf d st).filter (fun q => q.nodeName == ni.node.name) = [p] ∧
      p.deletion = none ∧ p.phase = "Running" ∧ p.ready = true ∧
      SMap.get? p.annotations K.templateHashAnnot = some rs.templateGeneration ∧
      comparePod rs.templateGeneration p ni = true) ∧
    (∀ p ∈ edsPodsOf d st, ∃ ni ∈ fitItems rs items, p.nodeName = ni.node.name) := by
  constructor
  · intro ni hni
    unfold emptyNodes at he
    unfold outdatedNodes at ho
    rw [List.countP_eq_zero] at he ho
    have h1 := he ni hni
    have h2 := ho ni hni
    cases hp : podOn (edsPodsOf d st) ni.node.name with
    | none => rw [hp] at h1; simp at h1
    | some p =>
      rw [hp] at h2
      simp only [Bool.not_eq_true', Bool.not_eq_false] at h2
      have h2 : comparePod rs.templateGeneration p ni = true := by simpa using h2
      obtain ⟨hpE, hpn⟩ := podOn_some hp
      obtain ⟨hd, hph, hr, _⟩ := S.settled p hpE
      refine ⟨p, ?_, hd, hph, hr, ?_, h2⟩
      · apply eq_singleton_of_mem_of_length_le_one
        · exact List.mem_filter.mpr ⟨hpE, by simp [hpn]⟩
        · exact S.onePer ni.node.name
      · unfold comparePod compareSpecTemplateHash at h2
        simp only [Bool.and_eq_true, beq_iff_eq] at h2
        exact h2.1.1
  · intro p hp
    exact (S.settled p hp).2.2.2

/-- **Fixpoint.**  At a converged cooperative store a sync of the replica set — at ANY instant, with
any back-off oracle, whatever its stored status (gates firing or not) — creates nothing, deletes
nothing for updating and cleans up nothing. -/
theorem C02c_fixpoint (C : CoopSetup d rs aff) (S : CoopStore d rs gen items st)
    (he : emptyNodes rs items (edsPodsOf d st) = 0) (ho : outdatedNodes rs items (edsPodsOf d st) = 0)
    (now : Time) (released : String → Bool) :
    (reconcileErs rs st released aff now).creates = [] ∧
    (reconcileErs rs st released aff now).deletes = [] ∧
    (reconcileErs rs st released aff now).cleanupDeletes = [] := by
  rcases reconcileErs_active_cases rs st released aff now d S.owner (ersRole_active C) with
    hno | ⟨items', r, adds, removes, se, st0, F, hm⟩
  · exact ⟨hno.2.2.2.2, hno.2.2.2.1, hno.1⟩
  · obtain rfl : items = items' := Option.some.inj (S.hitems.symm.trans F.hitems)
    have habs := storeEntries_abs S now
    unfold absOf storeAbs at habs
    simp only [Abs.mk.injEq] at habs
    have hall := coop_zero_all_current rs.templateGeneration now _ (storeEntries_coop S now)
      (by rw [habs.1, he]) (by rw [habs.2, ho])
    obtain ⟨hc, hdl⟩ := C02_fixpoint _ now now false r hm (by
      rw [targeted_ersParams C S released now]
      exact fun e hmem => ⟨true, true, hall e hmem⟩)
    refine ⟨List.eq_nil_iff_forall_not_mem.mpr fun x hx => ?_, List.eq_nil_iff_forall_not_mem.mpr fun x hx => ?_, ?_⟩
    · obtain ⟨ni, hni, -⟩ := F.mem_creates hx
      exact mem_nil_elim hc hni
    · obtain ⟨y, hy, -⟩ := F.mem_deletes hx
      exact mem_nil_elim hdl hy
    · rw [F.cleanupDeletes_eq, manageDeployment_cleanup _ now now false r hm, toCleanUp_ersParams C S released now]
      rfl

end Fixpoint

/-- one cooperative round on (replica set, store): the store after the round, and the replica set
with the status the sync wrote. -/
def coopRound (aff : Bool) (gen : String → String) (now : Time) (s : ERS × ErsStore) : ERS × ErsStore :=
  (nextErs s.1 aff now s.2, coopRoundStore s.1 aff gen now s.2)

/-- `k` cooperative rounds, round `i` (from 0) running at instant `clock i`. -/
def coopRun (aff : Bool) (gen : String → String) (clock : Nat → Time) : Nat → ERS × ErsStore → ERS × ErsStore
  | 0, s => s
  | k + 1, s => coopRound aff gen (clock k) (coopRun aff gen clock k s)

/-- the hypotheses do not read the replica set's status. -/
theorem CoopSetup.withStatus {d : EDS} {rs : ERS} {aff : Bool} (C : CoopSetup d rs aff) (s : ERSStatus) :
    CoopSetup d { rs with status := s } aff :=
  { defaulted := C.defaulted, active := C.active, named := C.named, noCanary := C.noCanary,
    notPaused := C.notPaused, notFrozen := C.notFrozen, noOldDs := C.noOldDs, label := C.label, affOk := C.affOk }

theorem CoopStore.withStatus {d : EDS} {rs : ERS} {gen : String → String} {items : List NodeItem} {st : ErsStore}
    (S : CoopStore d rs gen items st) (s : ERSStatus) : CoopStore d { rs with status := s } gen items st :=
  { owner := S.owner, hitems := S.hitems, noSetting := S.noSetting, nodesNodup := S.nodesNodup,
    nodeNamed := S.nodeNamed, hashOk := S.hashOk, settled := S.settled, onePer := S.onePer,
    nameNode := S.nameNode, genFresh := S.genFresh }

theorem CoopStore.ofStatus {d : EDS} {rs : ERS} {gen : String → String} {items : List NodeItem} {st : ErsStore}
    (s : ERSStatus) (S : CoopStore d { rs with status := s } gen items st) : CoopStore d rs gen items st :=
  S.withStatus rs.status

section Run
variable {d : EDS} {rs : ERS} {aff : Bool} {gen : String → String} {items : List NodeItem} {st : ErsStore}

/-- the invariant of the run: after `k` rounds the replica set is `rs` with a newer status, the store
is cooperative, no gate can fire at `clock k`, and the variant `2·outdated + empty` has dropped by at
least `k` (or reached 0). -/
theorem coopRun_inv (C : CoopSetup d rs aff) (S : CoopStore d rs gen items st)
    (hK : StratOk d (fitItems rs items).length) (hinj : ∀ a b, gen a = gen b → a = b)
    (clock : Nat → Time) (hclock : ∀ k, clock k + max 0 (ersFreq d) ≤ clock (k + 1))
    (G : GateFree d rs (clock 0)) (k : Nat) :
    (∃ s, (coopRun aff gen clock k (rs, st)).1 = { rs with status := s }) ∧
    CoopStore d rs gen items (coopRun aff gen clock k (rs, st)).2 ∧
    GateFree d (coopRun aff gen clock k (rs, st)).1 (clock k) ∧
    variant (storeAbs d rs items (coopRun aff gen clock k (rs, st)).2) ≤ variant (storeAbs d rs items st) - k := by
  induction k with
  | zero => exact ⟨⟨rs.status, rfl⟩, S, G, by simp [coopRun]⟩
  | succ k ih =>
    obtain ⟨⟨s, hs⟩, Sk, Gk, hv⟩ := ih
    have hrun : coopRun aff gen clock (k + 1) (rs, st) =
        coopRound aff gen (clock k) (coopRun aff gen clock k (rs, st)) := rfl
    rw [hrun]
    unfold coopRound
    simp only []
    generalize coopRun aff gen clock k (rs, st) = cur at hs Sk Gk hv
    obtain ⟨rsk, stk⟩ := cur
    simp only [] at hs Sk Gk hv ⊢
    subst hs
    have Ck := C.withStatus s
    have Sk' := Sk.withStatus s
    obtain ⟨S', hmc1, habs⟩ := C02c_refines Ck Sk' hK hinj (clock k) Gk
    have hle := (C02c_sync Ck Sk' hK (clock k) Gk (fun _ => false)).2.2.2.2
    refine ⟨⟨_, rfl⟩, CoopStore.ofStatus s S', ?_, ?_⟩
    · intro c hc
      have := hle c hc
      have := hclock k
      omega
    · rw [show storeAbs d rs items (coopRoundStore { rs with status := s } aff gen (clock k) stk) = _ from habs]
      exact Nat.le_trans (variant_absRound_le _ _ hK.mu hmc1 _) (Nat.sub_le_sub_right hv 1)

/-- **C02 at store level (`C02_converges_store`).**  `rs` is the active replica set of EDS `d`, no
canary in progress, not paused, not frozen (`CoopSetup`); the strategy parses with maxUnavailable ≥ 1,
additive increase ≥ 1, maxParallelPodCreation ≥ 1 (`StratOk`); the store is cooperative (`CoopStore`);
the API server names created pods injectively (`hinj`); successive rounds are at least
`max 0 reconcileFrequency` apart (`hclock`) and no gate can fire at the first one (`G`).

Then after any number `k ≥ 2·outdated + empty` of cooperative rounds (sync of `reconcileErs`, hard
application of its pod writes, cooperative kubelet; the replica-set status carried forward, the
slow-start cap recomputed from the clock at every round):

  * the store is still cooperative, no eligible node is empty, no pod is outdated;
  * every eligible node carries exactly one pod of the EDS — live, Running, Ready, stamped with
    `rs.templateGeneration` — and the EDS has no other pod;
  * a further sync, at any instant and with any back-off oracle, creates nothing, deletes nothing and
    cleans up nothing. -/
theorem C02_converges_store (C : CoopSetup d rs aff) (S : CoopStore d rs gen items st)
    (hK : StratOk d (fitItems rs items).length) (hinj : ∀ a b, gen a = gen b → a = b)
    (clock : Nat → Time) (hclock : ∀ k, clock k + max 0 (ersFreq d) ≤ clock (k + 1))
    (G : GateFree d rs (clock 0)) (k : Nat)
    (hk : 2 * outdatedNodes rs items (edsPodsOf d st) + emptyNodes rs items (edsPodsOf d st) ≤ k) :
    CoopStore d rs gen items (coopRun aff gen clock k (rs, st)).2 ∧
    emptyNodes rs items (edsPodsOf d (coopRun aff gen clock k (rs, st)).2) = 0 ∧
    outdatedNodes rs items (edsPodsOf d (coopRun aff gen clock k (rs, st)).2) = 0 ∧
    (∀ ni ∈ fitItems rs items, ∃ p,
      (edsPodsOf d (coopRun aff gen clock k (rs, st)).2).filter (fun q => q.nodeName == ni.node.name) = [p] ∧
      p.deletion = none ∧ p.phase = "Running" ∧ p.ready = true ∧
      SMap.get? p.annotations K.templateHashAnnot = some rs.templateGeneration ∧
      comparePod rs.templateGeneration p ni = true) ∧
    (∀ p ∈ edsPodsOf d (coopRun aff gen clock k (rs, st)).2, ∃ ni ∈ fitItems rs items, p.nodeName = ni.node.name) ∧
    (∀ (now : Time) (released : String → Bool),
      (reconcileErs (coopRun aff gen clock k (rs, st)).1 (coopRun aff gen clock k (rs, st)).2 released aff now).creates = [] ∧
      (reconcileErs (coopRun aff gen clock k (rs, st)).1 (coopRun aff gen clock k (rs, st)).2 released aff now).deletes = [] ∧
      (reconcileErs (coopRun aff gen clock k (rs, st)).1 (coopRun aff gen clock k (rs, st)).2 released aff now).cleanupDeletes = []) := by
  obtain ⟨⟨s, hs⟩, Sk, _, hv⟩ := coopRun_inv C S hK hinj clock hclock G k
  obtain ⟨he, ho⟩ := variant_eq_zero hv hk
  obtain ⟨h1, h2⟩ := C02c_converged Sk he ho
  refine ⟨Sk, he, ho, h1, h2, ?_⟩
  intro now released
  rw [hs]
  exact C02c_fixpoint (C.withStatus s) (Sk.withStatus s) he ho now released

/-- the "within" form: some number of rounds `k ≤ 2·outdated + empty` reaches the converged store. -/
theorem C02_converges_store_within (C : CoopSetup d rs aff) (S : CoopStore d rs gen items st)
    (hK : StratOk d (fitItems rs items).length) (hinj : ∀ a b, gen a = gen b → a = b)
    (clock : Nat → Time) (hclock : ∀ k, clock k + max 0 (ersFreq d) ≤ clock (k + 1))
    (G : GateFree d rs (clock 0)) :
    ∃ k, k ≤ 2 * outdatedNodes rs items (edsPodsOf d st) + emptyNodes rs items (edsPodsOf d st) ∧
      emptyNodes rs items (edsPodsOf d (coopRun aff gen clock k (rs, st)).2) = 0 ∧
      outdatedNodes rs items (edsPodsOf d (coopRun aff gen clock k (rs, st)).2) = 0 :=
  ⟨_, Nat.le_refl _, (C02_converges_store C S hK hinj clock hclock G _ (Nat.le_refl _)).2.1,
    (C02_converges_store C S hK hinj clock hclock G _ (Nat.le_refl _)).2.2.1⟩

end Run

/-- a non-negative number or percentage. -/
def nonnegBudget (x : Option IntOrStr) : Bool :=
  match x with
  | some v => (v.kind == "int" || v.kind == "pct") && decide (0 ≤ v.val)
  | none => false

theorem resolve_of_nonneg (x : Option IntOrStr) (N : Int) (hx : nonnegBudget x = true) (hN : 0 ≤ N) :
    ∃ ms, resolveIntOrPercent x N = some ms ∧ 0 ≤ ms := by
  cases x with
  | none => simp [nonnegBudget] at hx
  | some v =>
    simp only [nonnegBudget, Bool.and_eq_true, Bool.or_eq_true, beq_iff_eq, decide_eq_true_eq] at hx
    unfold resolveIntOrPercent
    simp only []
    by_cases h' : v.kind = "int"
    · exact ⟨v.val, by simp [h'], hx.2⟩
    · have hp : v.kind = "pct" := by
        rcases hx.1 with h | h
        · exact absurd h h'
        · exact h
      refine ⟨ceilDiv100 (v.val * N), by simp [hp], ?_⟩
      unfold ceilDiv100
      have := Int.mul_nonneg hx.2 hN
      omega

theorem resolve_of_positive (x : Option IntOrStr) (N : Int) (hx : Spec.C02.positiveBudget x = true) (hN : 1 ≤ N) :
    ∃ mu, resolveIntOrPercent x N = some mu ∧ 1 ≤ mu := by
  have hx0 : nonnegBudget x = true := by
    cases x with
    | none => exact hx
    | some v =>
      simp only [Spec.C02.positiveBudget, nonnegBudget, Bool.and_eq_true, decide_eq_true_eq] at hx ⊢
      exact ⟨hx.1, by omega⟩
  obtain ⟨mu, hmu, _⟩ := resolve_of_nonneg x N hx0 (by omega)
  exact ⟨mu, hmu, C02_budget_positive x N mu hx hN hmu⟩

/-- **`StratOk` from the spec**: on at least one eligible node, a positive `maxUnavailable` (number or
percentage), a positive `slowStartAdditiveIncrease`, `maxParallelPodCreation ≥ 1` and a non-negative
`maxPodSchedulerFailure` satisfy the strategy hypotheses.  (With `"int"` values `N` plays no role.) -/
theorem StratOk.of_spec (d : EDS) (N : Nat) (hN : 1 ≤ N)
    (hmu : Spec.C02.positiveBudget d.strategy.rollingUpdate.maxUnavailable = true)
    (hinc : Spec.C02.positiveBudget d.strategy.rollingUpdate.slowStartAdditiveIncrease = true)
    (hmp : 1 ≤ d.strategy.rollingUpdate.maxParallelPodCreation.getD 0)
    (hms : nonnegBudget d.strategy.rollingUpdate.maxPodSchedulerFailure = true) : StratOk d N := by
  obtain ⟨mu, h1, h2⟩ := resolve_of_positive _ (N : Int) hmu (by omega)
  obtain ⟨inc, h3, h4⟩ := resolve_of_positive _ (N : Int) hinc (by omega)
  refine { mu := ?_, inc := ?_, mp := hmp, ms := resolve_of_nonneg _ (N : Int) hms (by omega) }
  · unfold muOf; rw [h1]; simp only [Option.getD_some]; omega
  · rw [h3]; exact h4

/-! ### Non-vacuity: a two-node store, three rounds

EDS `d` (namespace `ns`, defaulted, reconcile frequency 10 s, maxUnavailable 1, slow start 5 / minute,
at most 250 parallel creations), no canary, active replica set `d-new` (template generation `new`);
eligible nodes `n1`, `n2`; `n1` runs the Ready pod `old-1` of generation `old`, `n2` is empty:
`outdated = 1`, `empty = 1`, bound `2·1 + 1 = 3`.  Affinity mode; rounds 10 s apart. -/

def exEds02c : EDS := exEds04 false
def exRs02c : ERS := exErs04 "d-new" "new"
def exSt02c : ErsStore := exStore04 [exPod04 "old-1" "n1" "d-old" "old"] false
def exItems02c : List NodeItem := [exNode01 "n1", exNode01 "n2"]
def exGen02c (n : String) : String := "d-new-" ++ n
def exClock02c (k : Nat) : Time := (k : Int) * (10 * sec)

theorem exGen02c_inj : ∀ a b, exGen02c a = exGen02c b → a = b :=
  fun _ _ h => (String.append_right_inj "d-new-").mp h

theorem onePerNode_of_nodup {E : List Pod} (h : (E.map (·.nodeName)).Nodup) : OnePerNode E :=
  fun n => nodup_filter_eq_length_le (fun p : Pod => p.nodeName) n E h

theorem exSetup02c : CoopSetup exEds02c exRs02c true where
  defaulted := by decide +kernel
  active := by decide +kernel
  named := by decide +kernel
  noCanary := by decide +kernel
  notPaused := by decide +kernel
  notFrozen := by decide +kernel
  noOldDs := by decide +kernel
  label := by decide +kernel
  affOk := by decide +kernel

theorem exStratOk02c : StratOk exEds02c (fitItems exRs02c exItems02c).length :=
  StratOk.of_spec _ _ (by decide +kernel) (by decide +kernel) (by decide +kernel) (by decide +kernel) (by decide +kernel)

theorem exPods02c : edsPodsOf exEds02c exSt02c = [exPod04 "old-1" "n1" "d-old" "old"] := by decide +kernel

theorem exStore02c : CoopStore exEds02c exRs02c exGen02c exItems02c exSt02c where
  owner := by decide +kernel
  hitems := by decide +kernel
  noSetting := by decide +kernel
  nodesNodup := by decide +kernel
  nodeNamed := by decide +kernel
  hashOk := by decide +kernel
  settled := by rw [exPods02c]; decide +kernel
  onePer := by rw [exPods02c]; exact onePerNode_of_nodup (by decide +kernel)
  nameNode := by rw [exPods02c]; decide +kernel
  genFresh := by
    rw [exPods02c]
    intro q hq m hm
    rw [List.mem_singleton.mp hq] at hm ⊢
    exfalso
    have h2 := congrArg String.toList hm
    unfold exGen02c at h2
    rw [String.toList_append] at h2
    have h3 := congrArg List.head? h2
    have e1 : "d-new-".toList = ['d', '-', 'n', 'e', 'w', '-'] := by decide +kernel
    have e2 : (exPod04 "old-1" "n1" "d-old" "old").name.toList = ['o', 'l', 'd', '-', '1'] := by decide +kernel
    rw [e1, e2] at h3
    simp at h3

theorem exClock02c_ok : ∀ k, exClock02c k + max 0 (ersFreq exEds02c) ≤ exClock02c (k + 1) := by
  intro k
  have : ersFreq exEds02c = 10 * sec := by decide +kernel
  rw [this]
  unfold exClock02c sec
  push_cast
  omega

theorem exGate02c : GateFree exEds02c exRs02c (exClock02c 0) := by
  intro c hc
  cases hc

/-- the hypotheses of `C02_converges_store` hold for the example; its conclusion after 3 rounds. -/
example :
    emptyNodes exRs02c exItems02c (edsPodsOf exEds02c (coopRun true exGen02c exClock02c 3 (exRs02c, exSt02c)).2) = 0 ∧
    outdatedNodes exRs02c exItems02c (edsPodsOf exEds02c (coopRun true exGen02c exClock02c 3 (exRs02c, exSt02c)).2) = 0 :=
  let h := C02_converges_store exSetup02c exStore02c exStratOk02c exGen02c_inj exClock02c exClock02c_ok exGate02c 3
    (by decide +kernel)
  ⟨h.2.1, h.2.2.1⟩

/-- the abstract counters of the example: one outdated node, one empty node. -/
example : storeAbs exEds02c exRs02c exItems02c exSt02c = ⟨1, 1⟩ := by decide +kernel

/-- pods of the store as (name, node, template hash, Ready). -/
def podView02c (s : ERS × ErsStore) : List (String × String × Option String × Bool) :=
  s.2.pods.map (fun p => (p.name, p.nodeName, SMap.get? p.annotations K.templateHashAnnot, p.ready))

/-- a checked run: round 1 creates on `n2` (maxUnavailable 1 is used up by the empty node, no deletion),
round 2 deletes `old-1`, round 3 creates on `n1`; round 4 changes nothing. -/
example : podView02c (coopRun true exGen02c exClock02c 1 (exRs02c, exSt02c)) =
    [("old-1", "n1", some "old", true), ("d-new-n2", "n2", some "new", true)] := by decide +kernel
example : podView02c (coopRun true exGen02c exClock02c 2 (exRs02c, exSt02c)) =
    [("d-new-n2", "n2", some "new", true)] := by decide +kernel

example : podView02c (coopRun true exGen02c exClock02c 3 (exRs02c, exSt02c)) =
    [("d-new-n2", "n2", some "new", true), ("d-new-n1", "n1", some "new", true)] := by decide +kernel
example : podView02c (coopRun true exGen02c exClock02c 4 (exRs02c, exSt02c)) =
    podView02c (coopRun true exGen02c exClock02c 3 (exRs02c, exSt02c)) := by decide +kernel
/-- the bound is attained: after 2 rounds the store has not converged yet. -/
example : storeAbs exEds02c exRs02c exItems02c (coopRun true exGen02c exClock02c 2 (exRs02c, exSt02c)).2 = ⟨1, 0⟩ := by
  decide +kernel
/-- node-name mode converges to the same pods. -/
example : podView02c (coopRun false exGen02c exClock02c 3 (exRs02c, exSt02c)) =
    [("d-new-n2", "n2", some "new", true), ("d-new-n1", "n1", some "new", true)] := by decide +kernel
/-- at the converged store the sync writes no pod (here at the next round's instant and 1 ns later). -/
example : (reconcileErs (coopRun true exGen02c exClock02c 3 (exRs02c, exSt02c)).1
      (coopRun true exGen02c exClock02c 3 (exRs02c, exSt02c)).2 (fun _ => false) true (exClock02c 3)).noPodWrite ∧
    (reconcileErs (coopRun true exGen02c exClock02c 3 (exRs02c, exSt02c)).1
      (coopRun true exGen02c exClock02c 3 (exRs02c, exSt02c)).2 (fun _ => true) true (exClock02c 3 + 1)).noPodWrite := by
  decide +kernel
/-- why the clock matters: run the second round only 1 s after the first — the LastFullSync gate fires,
the round writes nothing and the store stays where it was. -/
example : podView02c (coopRound true exGen02c (1 * sec) (coopRun true exGen02c exClock02c 1 (exRs02c, exSt02c))) =
    podView02c (coopRun true exGen02c exClock02c 1 (exRs02c, exSt02c)) := by decide +kernel

end Eds
