import EdsModel
import EdsProofs.CanaryS
import EdsProofs.ErsRun
import EdsProps.C04
/-
  C07 (replica-set side) — the failure mark of a canary replica set is not lost by the replica-set
  controller once the replica set has left the canary role.

  Subject: `reconcileErs` (EdsModel/ReconcileErs.lean); decomposition and inversion lemmas in
  EdsProofs/ReconcileErs.lean; condition-list lemmas `CondsUpdated` (EdsProofs/CanaryS.lean).

  After the EDS controller has rolled a failed canary back, `status.canary` is gone, so the failed
  replica set is neither active nor canary: its role is "unknown".  `cleanupReplicaSet` (C07_retention)
  and the EDS controller's `Canary-Failed` test read the mark from the replica set's status, which the
  replica-set controller keeps rewriting.  Every status it writes in that role still carries the mark:

    * `preConds_failed_kept`, `ersFinish_failed_kept`, `ersNotDefaulted_failed_kept`
      (from `preConds_updated_nonactive`, `ersFinish_findCond` of EdsProofs/ErsRun.lean)  — the pieces;
    * `C07_failed_mark_kept`                                   — the statement, at full strength;
    * `C07_failed_mark_kept_read`                              — the same for the status the next sync
                                                                 reads (written, or left as it was);
    * `C07_failed_mark_kept_canary`                            — it also holds in the canary role
                                                                 PROVIDED the strategy itself keeps it
                                                                 (hypothesis on `manageCanaryStatus`);
    * `C07_failed_mark_cleared_active`                         — contrast: the active role clears it
                                                                 (`preConds` writes Canary-Failed=False).

  Conditions touched in the unknown role (all of a type other than "Canary-Failed"):
    not-defaulted path   ReconcileError
    full run             Canary, Active (`preConds`), Unschedule, PodDeletion?, PodCreation?,
                         ReconcileError, LastFullSync    [PodsCleanupDone is canary-role only;
                         `manageUnknown` creates and deletes nothing, so PodDeletion / PodCreation are
                         in fact never touched either, but the proof does not need that]
-/
namespace Eds

theorem preConds_failed_kept (role : String) (cs : List Cond) (now : Time) (hra : role ≠ "active") :
    isCondTrue (preConds role cs now) "Canary-Failed" = isCondTrue cs "Canary-Failed" :=
  (preConds_updated_nonactive role cs now hra).isCondTrue_eq (by simp)

/-- whatever the role and the strategy result, the tail of the sync (`ersFinish`) does not touch
Canary-Failed: the status it compares with the stored one has the strategy status's mark. -/
theorem ersFinish_failed_kept (rs : ERS) (role : String) (freq : Dur) (sp : StratParams) (r : StratResult)
    (adds removes : List String) (se : Bool) (st0 : ERSStatus) (aff : Bool) (now : Time)
    (s : ERSStatus) (hs : (ersFinish rs role freq sp r adds removes se st0 aff now).statusUpdate = some s) :
    isCondTrue s.conds "Canary-Failed" = isCondTrue st0.conds "Canary-Failed" := by
  have := ersFinish_findCond rs role freq sp r adds removes se st0 aff now "Canary-Failed" (by simp)
  rw [hs] at this
  exact isCondTrue_congr this

theorem ersNotDefaulted_failed_kept (rs : ERS) (now : Time) (s : ERSStatus)
    (hs : (ersNotDefaulted rs now).statusUpdate = some s) :
    isCondTrue s.conds "Canary-Failed" = isCondTrue rs.status.conds "Canary-Failed" := by
  have := ersNotDefaulted_findCond rs now "Canary-Failed" (by simp)
  rw [hs] at this
  exact isCondTrue_congr this

section
variable (rs : ERS) (st : ErsStore) (released : String → Bool) (aff : Bool) (now : Time) (d : EDS)

/-- in the unknown role a written status has exactly the stored Canary-Failed truth value. -/
theorem C07_failed_mark_unchanged (h : ersOwner rs st = some d) (hr : ersRole d rs.name = "unknown")
    (s : ERSStatus) (hs : (reconcileErs rs st released aff now).statusUpdate = some s) :
    isCondTrue s.conds "Canary-Failed" = isCondTrue rs.status.conds "Canary-Failed" := by
  rcases reconcileErs_status_cases rs st released aff now d h hs with
    ⟨_, hs'⟩ | ⟨items, r, adds, removes, se, st0, F⟩
  · exact ersNotDefaulted_failed_kept rs now s hs'
  · rw [F.eq] at hs
    rw [ersFinish_failed_kept _ _ _ _ _ _ _ _ _ _ _ s hs, manageUnknown_conds _ _ _ ((F.unknown hr).1 ▸ F.status)]
    exact preConds_failed_kept _ _ now (by rw [hr]; simp)

/-- **The failure mark survives the unknown role.** A replica set that is neither active nor canary
and carries Canary-Failed=True still carries it in whatever status its sync writes. -/
theorem C07_failed_mark_kept (rs : ERS) (st : ErsStore) (released : String → Bool) (aff : Bool) (now : Time)
    (d : EDS) (h : ersOwner rs st = some d) (hr : ersRole d rs.name = "unknown")
    (hf : isCondTrue rs.status.conds "Canary-Failed" = true)
    (s : ERSStatus) (hs : (reconcileErs rs st released aff now).statusUpdate = some s) :
    isCondTrue s.conds "Canary-Failed" = true := by
  rw [C07_failed_mark_unchanged rs st released aff now d h hr s hs]
  exact hf

/-- the same for the status the next sync reads: the one written, or the stored one when none is. -/
theorem C07_failed_mark_kept_read (h : ersOwner rs st = some d) (hr : ersRole d rs.name = "unknown")
    (hf : isCondTrue rs.status.conds "Canary-Failed" = true) :
    isCondTrue ((reconcileErs rs st released aff now).statusUpdate.getD rs.status).conds "Canary-Failed" = true := by
  cases hs : (reconcileErs rs st released aff now).statusUpdate with
  | none => exact hf
  | some s => exact C07_failed_mark_kept rs st released aff now d h hr hf s hs

/-- canary role: the controller's own condition updates (Canary, Active, PodsCleanupDone, Unschedule,
PodDeletion, PodCreation, ReconcileError, LastFullSync) keep the mark; whether it is kept then depends
on the canary strategy alone (`hkeep`). -/
theorem C07_failed_mark_kept_canary (h : ersOwner rs st = some d) (hr : ersRole d rs.name = "canary")
    (hf : isCondTrue rs.status.conds "Canary-Failed" = true)
    (hkeep : ∀ (p : StratParams) (r0 : StratResult) (st0 : ERSStatus),
      manageCanaryStatus p now = some r0 → r0.newStatus = some st0 →
      isCondTrue p.newStatus.conds "Canary-Failed" = true → isCondTrue st0.conds "Canary-Failed" = true)
    (s : ERSStatus) (hs : (reconcileErs rs st released aff now).statusUpdate = some s) :
    isCondTrue s.conds "Canary-Failed" = true := by
  rcases reconcileErs_status_cases rs st released aff now d h hs with
    ⟨_, hs'⟩ | ⟨items, r, adds, removes, se, st0, F⟩
  · rw [ersNotDefaulted_failed_kept rs now s hs']; exact hf
  · rw [F.eq] at hs
    rw [ersFinish_failed_kept _ _ _ _ _ _ _ _ _ _ _ s hs]
    obtain ⟨r0, hm, rfl, _⟩ := F.canary hr
    refine hkeep _ r0 st0 hm F.status ?_
    show isCondTrue (preConds (ersRole d rs.name) rs.status.conds now) "Canary-Failed" = true
    rw [hr, preConds_failed_kept "canary" _ now (by simp)]
    exact hf

/-- contrast — the active role: the status handed to the rolling-update strategy has the mark cleared. -/
theorem C07_failed_mark_cleared_active (items : List NodeItem) (pods : List Pod)
    (hr : ersRole d rs.name = "active") :
    isCondTrue (ersParams released d rs items pods now).newStatus.conds "Canary-Failed" = false := by
  show isCondTrue (preConds (ersRole d rs.name) rs.status.conds now) "Canary-Failed" = false
  rw [hr]
  unfold preConds
  simp only [beq_self_eq_true, if_true]
  exact isCondTrue_updateCond_same _ now "Canary-Failed" false "" "" false false

end

/-! ### Non-vacuity (store of EdsProps/C04.lean; `d-x` is neither the active `d-old` nor the canary `d-new`) -/

/-- a stored Canary-Failed=True condition, set at instant 50. -/
def exFailed07 : Cond :=
  { type := "Canary-Failed", status := "True", lastTransition := 50, lastUpdate := 50, reason := "", message := "" }

/-- the hypotheses of `C07_failed_mark_kept` hold, a status IS written (full run through
`manageUnknown`), and it carries the mark. -/
example : ersOwner (exErs04 "d-x" "x" [exFailed07]) exStore04 = some exEds04 ∧
    ersRole exEds04 (exErs04 "d-x" "x" [exFailed07]).name = "unknown" ∧
    isCondTrue (exErs04 "d-x" "x" [exFailed07]).status.conds "Canary-Failed" = true ∧
    isDefaulted (exEds04).strategy (exEds04).templateName = true ∧
    ((reconcileErs (exErs04 "d-x" "x" [exFailed07]) exStore04 (fun _ => true) true 100).statusUpdate).isSome = true ∧
    (((reconcileErs (exErs04 "d-x" "x" [exFailed07]) exStore04 (fun _ => true) true 100).statusUpdate).getD default
      ).conds.map (fun c => (c.type, c.status)) =
      [("Canary-Failed", "True"), ("LastFullSync", "True")] := by
  decide +kernel

/-- a stored condition of type `t`, status `s`, set at instant 50. -/
def exCond07 (t s : String) : Cond :=
  { type := t, status := s, lastTransition := 50, lastUpdate := 50, reason := "", message := "" }

/-- with the conditions of its canary time still stored around the mark (Canary=True before it,
ReconcileError=True after it) the sync rewrites both neighbours and leaves the mark. -/
example :
    ((reconcileErs (exErs04 "d-x" "x" [exCond07 "Canary" "True", exFailed07, exCond07 "ReconcileError" "True"])
        exStore04 (fun _ => true) true 100).statusUpdate.getD default).conds.map (fun c => (c.type, c.status)) =
      [("Canary", "False"), ("Canary-Failed", "True"), ("ReconcileError", "False"), ("LastFullSync", "True")] := by
  decide +kernel

/-- the not-defaulted path (owner with a template name set, hence `isDefaulted = false`) writes a status
too, with ReconcileError appended after the mark. -/
example :
    let d : EDS := { exEds04 with templateName := "tpl" }
    let st : ErsStore := { exStore04 with edss := [d] }
    ersOwner (exErs04 "d-x" "x" [exFailed07]) st = some d ∧
    ersRole d "d-x" = "unknown" ∧ isDefaulted d.strategy d.templateName = false ∧
    ((reconcileErs (exErs04 "d-x" "x" [exFailed07]) st (fun _ => true) true 100).statusUpdate.getD default
      ).conds.map (fun c => (c.type, c.status)) = [("Canary-Failed", "True"), ("ReconcileError", "True")] := by
  decide +kernel

end Eds
