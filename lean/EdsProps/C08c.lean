import EdsProofs.ReconcileErs
import EdsProofs.ErsRun
import EdsProps.C04
import EdsProps.C08
/-
  C08c — pause / freeze at the level of the whole sync of the replica-set controller, active role.

  Subject: `reconcileErs` (EdsModel/ReconcileErs.lean), through the inversions `reconcileErs_cases` /
  `ersBody_cases` (EdsProofs/ReconcileErs.lean), `C08_sync` (EdsProps/C08.lean, the statement about
  `manageDeployment` alone) and the condition lemmas of EdsProofs/ErsRun.lean.
  `isRollingUpdatePaused ann` / `isRolloutFrozen ann` (EdsModel/Rolling.lean) = "the annotation
  rolling-update-paused / rollout-frozen is present with the value `true`" (`C08_flags`).

  Quantification: every replica set, store, back-off oracle `released`, affinity mode and instant; every
  outcome of the sync.  Only `ersOwner rs st = some d` and the role are assumed unless stated.

    `C08_sync_paused_no_update_delete`  paused or frozen ⇒ `deletes = []`                         [full]
    `C08_sync_frozen_no_create`         frozen ⇒ `creates = []`                                   [full]
    `C08_sync_flags_partial`            [hyp ADDED: the owner is defaulted] a written status has
                                        RollingUpdatePaused / RolloutFrozen / Active True *iff* the
                                        ExtendedDaemonSet's own annotation says so (an equality of Booleans,
                                        stronger than "only if")
      — the statement without the hypothesis is FALSE: a sync whose owner is not defaulted writes the stored
        status with only ReconcileError updated, so a stale RollingUpdatePaused=True is written back although
        the annotation is gone (`cxStore08`, checked by `decide`); `C08_sync_flags_not_defaulted` says that this
        is all that happens there: the two conditions are the stored ones, untouched.
    `C08_sync_ers_annotations_irrelevant`  annotations carried by the replica set object never pause or freeze:
                                        the whole plan is the plan for the replica set with any other
                                        annotations (every role; + example `exErsAnnotated08`)            [full]
    `C08_sync_annotations_frame`        the active sync reads the ExtendedDaemonSet's annotations only through
                                        the paused flag, the frozen flag and the old-daemonset annotation
    `C08_sync_resume`, `C08_sync_resume_frozen`   annotation absent or ≠ "true" ⇒ the whole plan
                                        (`ErsWrites`: every write list, status, requeue) equals the plan for the
                                        same store with the annotation removed from the ExtendedDaemonSet [full]
-/
namespace Eds

theorem isCondTrue_rollingConds (p : StratParams) (now : Time) :
    isCondTrue (rollingConds p now) "RollingUpdatePaused" = isRollingUpdatePaused p.edsAnnotations ∧
    isCondTrue (rollingConds p now) "RolloutFrozen" = isRolloutFrozen p.edsAnnotations ∧
    isCondTrue (rollingConds p now) "Active" =
      (!isRollingUpdatePaused p.edsAnnotations && !isRolloutFrozen p.edsAnnotations) := by
  unfold rollingConds
  simp only []
  refine ⟨?_, ?_, ?_⟩
  · rw [isCondTrue_updateCond_other _ _ _ _ _ _ _ _ _ (by simp),
      isCondTrue_updateCond_other _ _ _ _ _ _ _ _ _ (by simp), isCondTrue_updateCond_same]
  · rw [isCondTrue_updateCond_other _ _ _ _ _ _ _ _ _ (by simp), isCondTrue_updateCond_same]
  · rw [isCondTrue_updateCond_same]

theorem isCondTrue_deploymentConds (p : StratParams) (now wall : Time) (cf : Bool) :
    isCondTrue (deploymentConds p now wall cf) "RollingUpdatePaused" = isRollingUpdatePaused p.edsAnnotations ∧
    isCondTrue (deploymentConds p now wall cf) "RolloutFrozen" = isRolloutFrozen p.edsAnnotations ∧
    isCondTrue (deploymentConds p now wall cf) "Active" =
      (!isRollingUpdatePaused p.edsAnnotations && !isRolloutFrozen p.edsAnnotations) := by
  unfold deploymentConds
  split
  · exact isCondTrue_rollingConds p now
  · rw [isCondTrue_updateCond_other _ _ _ _ _ _ _ _ _ (by simp),
      isCondTrue_updateCond_other _ _ _ _ _ _ _ _ _ (by simp),
      isCondTrue_updateCond_other _ _ _ _ _ _ _ _ _ (by simp)]
    exact isCondTrue_rollingConds p now

section Sync
variable (rs : ERS) (st : ErsStore) (released : String → Bool) (aff : Bool) (now : Time) (d : EDS)

/-- **Paused or frozen ⇒ no pod is deleted for updating**, whatever the sync does otherwise. -/
theorem C08_sync_paused_no_update_delete (h : ersOwner rs st = some d) (hr : ersRole d rs.name = "active")
    (hpf : isRollingUpdatePaused d.annotations = true ∨ isRolloutFrozen d.annotations = true) :
    (reconcileErs rs st released aff now).deletes = [] := by
  rcases reconcileErs_active_cases rs st released aff now d h hr with
    hno | ⟨items, r, adds, removes, se, st0, F, hm⟩
  · exact hno.2.2.2.1
  · refine List.eq_nil_iff_forall_not_mem.mpr fun name hn => ?_
    obtain ⟨x, hx, -⟩ := F.mem_deletes hn
    exact mem_nil_elim ((C08_sync _ now now false r hm).1 hpf) hx

/-- **Frozen ⇒ no pod is created.** -/
theorem C08_sync_frozen_no_create (h : ersOwner rs st = some d) (hr : ersRole d rs.name = "active")
    (hf : isRolloutFrozen d.annotations = true) :
    (reconcileErs rs st released aff now).creates = [] := by
  rcases reconcileErs_active_cases rs st released aff now d h hr with
    hno | ⟨items, r, adds, removes, se, st0, F, hm⟩
  · exact hno.2.2.2.2
  · refine List.eq_nil_iff_forall_not_mem.mpr fun x hx => ?_
    obtain ⟨ni, hni, -⟩ := F.mem_creates hx
    exact mem_nil_elim ((C08_sync _ now now false r hm).2 hf) hni

/-- **Flags.**  With a defaulted owner, a status written by the active role has
RollingUpdatePaused (RolloutFrozen) True exactly when the ExtendedDaemonSet's own current annotation is
`true`; Active is True exactly when neither is.  Nothing else enters: not the stored conditions, not the
replica set's own annotations. -/
theorem C08_sync_flags_partial (h : ersOwner rs st = some d) (hr : ersRole d rs.name = "active")
    (hd : isDefaulted d.strategy d.templateName = true)
    (s : ERSStatus) (hs : (reconcileErs rs st released aff now).statusUpdate = some s) :
    isCondTrue s.conds "RollingUpdatePaused" = isRollingUpdatePaused d.annotations ∧
    isCondTrue s.conds "RolloutFrozen" = isRolloutFrozen d.annotations ∧
    isCondTrue s.conds "Active" = (!isRollingUpdatePaused d.annotations && !isRolloutFrozen d.annotations) := by
  rcases reconcileErs_status_cases rs st released aff now d h hs with
    ⟨he, _⟩ | ⟨items, r, adds, removes, se, st0, F⟩
  · rw [hd] at he; cases he
  · -- the tail of the sync leaves these three condition types as the strategy returned them
    have key : ∀ t, t ∉ ["LastFullSync", "PodsCleanupDone", "Unschedule", "PodDeletion", "PodCreation",
        "ReconcileError"] → isCondTrue s.conds t = isCondTrue st0.conds t := by
      intro t ht
      have := ersFinish_findCond rs (ersRole d rs.name) (ersFreq d)
        (ersParams released d rs items (ersPods d st) now) r adds removes se st0 aff now t ht
      rw [← F.eq, hs] at this
      exact isCondTrue_congr this
    rw [key _ (by simp), key _ (by simp), key _ (by simp)]
    rcases F.active hr with ⟨hm, -⟩ | ⟨-, hre, -⟩
    · rw [manageDeployment_conds _ now now false r st0 hm F.status]
      exact isCondTrue_deploymentConds (ersParams released d rs items (ersPods d st) now) now now false
    · rw [ersErrResult_conds (hre ▸ F.status)]
      exact isCondTrue_rollingConds (ersParams released d rs items (ersPods d st) now) now

/-- the "only if" half of `C08_sync_flags_partial` as two implications: a written condition is True only if the
annotation is set to "true". -/
theorem C08_sync_flags_partial_only_if (h : ersOwner rs st = some d) (hr : ersRole d rs.name = "active")
    (hd : isDefaulted d.strategy d.templateName = true)
    (s : ERSStatus) (hs : (reconcileErs rs st released aff now).statusUpdate = some s) :
    (isCondTrue s.conds "RollingUpdatePaused" = true →
      SMap.get? d.annotations K.rollingUpdatePausedAnnot = some "true") ∧
    (isCondTrue s.conds "RolloutFrozen" = true →
      SMap.get? d.annotations K.rolloutFrozenAnnot = some "true") := by
  obtain ⟨f1, f2, -⟩ := C08_sync_flags_partial rs st released aff now d h hr hd s hs
  rw [f1, f2, (C08_flags d.annotations).1, (C08_flags d.annotations).2]
  exact ⟨fun h => by simpa using h, fun h => by simpa using h⟩

/-- the sync of a replica set whose owner is **not** defaulted: the status it writes is the stored one with
ReconcileError set; the two conditions are the *stored* ones (this is why `C08_sync_flags_partial` needs `hd`). -/
theorem C08_sync_flags_not_defaulted (h : ersOwner rs st = some d)
    (hd : isDefaulted d.strategy d.templateName = false)
    (s : ERSStatus) (hs : (reconcileErs rs st released aff now).statusUpdate = some s) :
    isCondTrue s.conds "RollingUpdatePaused" = isCondTrue rs.status.conds "RollingUpdatePaused" ∧
    isCondTrue s.conds "RolloutFrozen" = isCondTrue rs.status.conds "RolloutFrozen" := by
  rw [reconcileErs_eq rs st released aff now d h] at hs
  rw [ersBody_not_defaulted released aff hd] at hs
  have key : ∀ t, "ReconcileError" ≠ t → isCondTrue s.conds t = isCondTrue rs.status.conds t := by
    intro t ht
    have := ersNotDefaulted_findCond rs now t ht
    rw [hs] at this
    exact isCondTrue_congr this
  exact ⟨key _ (by simp), key _ (by simp)⟩

end Sync

theorem manageDeployment_congr_ann (p : StratParams) (ann : SMap) (now wall : Time) (cf : Bool)
    (hp : isRollingUpdatePaused ann = isRollingUpdatePaused p.edsAnnotations)
    (hf : isRolloutFrozen ann = isRolloutFrozen p.edsAnnotations) :
    manageDeployment { p with edsAnnotations := ann } now wall cf = manageDeployment p now wall cf := by
  unfold manageDeployment
  simp only [hp, hf]

theorem rollingConds_congr_ann (p : StratParams) (ann : SMap) (now : Time)
    (hp : isRollingUpdatePaused ann = isRollingUpdatePaused p.edsAnnotations)
    (hf : isRolloutFrozen ann = isRolloutFrozen p.edsAnnotations) :
    rollingConds { p with edsAnnotations := ann } now = rollingConds p now := by
  unfold rollingConds
  simp only [hp, hf]

theorem ersStrategy_active_congr_ann (rs : ERS) (labelled : List String) (p : StratParams) (ann : SMap) (now : Time)
    (hp : isRollingUpdatePaused ann = isRollingUpdatePaused p.edsAnnotations)
    (hf : isRolloutFrozen ann = isRolloutFrozen p.edsAnnotations) :
    ersStrategy rs labelled "active" { p with edsAnnotations := ann } now = ersStrategy rs labelled "active" p now := by
  unfold ersStrategy
  simp only [beq_self_eq_true, if_true]
  rw [manageDeployment_congr_ann p ann now now false hp hf, rollingConds_congr_ann p ann now hp hf]

theorem ersFinish_congr_ann (rs : ERS) (role : String) (freq : Dur) (sp : StratParams) (ann : SMap) (r : StratResult)
    (adds removes : List String) (se : Bool) (st0 : ERSStatus) (aff : Bool) (now : Time) :
    ersFinish rs role freq { sp with edsAnnotations := ann } r adds removes se st0 aff now =
      ersFinish rs role freq sp r adds removes se st0 aff now := by
  rfl

/-- the run once the node list is known: the active role reads the owner's annotations through the two
flags only. -/
theorem ersRun_congr_ann (d : EDS) (rs : ERS) (pods : List Pod) (labelled : List String) (released : String → Bool)
    (aff : Bool) (now : Time) (items : List NodeItem) (ann : SMap) (hr : ersRole d rs.name = "active")
    (hp : isRollingUpdatePaused ann = isRollingUpdatePaused d.annotations)
    (hf : isRolloutFrozen ann = isRolloutFrozen d.annotations) :
    ersRun { d with annotations := ann } rs pods labelled released aff now items =
      ersRun d rs pods labelled released aff now items := by
  have hrole : ersRole { d with annotations := ann } rs.name = ersRole d rs.name := rfl
  have hsp : ersParams released { d with annotations := ann } rs items pods now =
      { ersParams released d rs items pods now with edsAnnotations := ann } := rfl
  have hfreq : ersFreq { d with annotations := ann } = ersFreq d := rfl
  unfold ersRun
  rw [hrole, hsp, hfreq, hr,
    ersStrategy_active_congr_ann rs labelled (ersParams released d rs items pods now) ann now hp hf]
  cases ersStrategy rs labelled "active" (ersParams released d rs items pods now) now with
  | none => rfl
  | some q =>
    obtain ⟨r, adds, removes, se⟩ := q
    simp only []
    cases r.newStatus with
    | none => rfl
    | some st0 => rfl

theorem ersPods_congr_ann (d : EDS) (st st' : ErsStore) (ann : SMap)
    (hpods : st'.pods = st.pods) (hds : st'.daemonsets = st.daemonsets)
    (ho : SMap.get? ann K.oldDaemonsetAnnot = SMap.get? d.annotations K.oldDaemonsetAnnot) :
    ersPods { d with annotations := ann } st' = ersPods d st := by
  unfold ersPods
  simp only [ho, hpods, hds]

theorem ersNodeItems_congr_ann (d : EDS) (rs : ERS) (st st' : ErsStore) (ann : SMap)
    (hnodes : st'.nodes = st.nodes) (hset : st'.settings = st.settings) :
    ersNodeItems { d with annotations := ann } rs st' = ersNodeItems d rs st := by
  unfold ersNodeItems
  simp only [hnodes, hset]

theorem canaryLabelled_congr_store (n : String) (rs : ERS) (st st' : ErsStore) (hpods : st'.pods = st.pods) :
    canaryLabelled n rs st' = canaryLabelled n rs st := by
  unfold canaryLabelled
  rw [hpods]

/-- two stores that differ at most in their ExtendedDaemonSet objects. -/
def ErsStore.sameButEdss (st st' : ErsStore) : Prop :=
  st'.nodes = st.nodes ∧ st'.pods = st.pods ∧ st'.settings = st.settings ∧ st'.daemonsets = st.daemonsets

/-- **Frame.**  The sync of the active replica set reads the annotations of its ExtendedDaemonSet through
exactly three things: the paused flag, the frozen flag and the old-daemonset annotation.  Two stores that
differ only in the owner's annotations, with these three equal, produce the same plan (all of `ErsWrites`). -/
theorem C08_sync_annotations_frame (rs : ERS) (st st' : ErsStore) (released : String → Bool) (aff : Bool)
    (now : Time) (d : EDS) (ann : SMap)
    (h : ersOwner rs st = some d) (hr : ersRole d rs.name = "active")
    (h' : ersOwner rs st' = some { d with annotations := ann }) (hst : st.sameButEdss st')
    (hp : isRollingUpdatePaused ann = isRollingUpdatePaused d.annotations)
    (hf : isRolloutFrozen ann = isRolloutFrozen d.annotations)
    (ho : SMap.get? ann K.oldDaemonsetAnnot = SMap.get? d.annotations K.oldDaemonsetAnnot) :
    reconcileErs rs st' released aff now = reconcileErs rs st released aff now := by
  obtain ⟨hnodes, hpods, hset, hds⟩ := hst
  rw [reconcileErs_eq rs st released aff now d h, reconcileErs_eq rs st' released aff now _ h']
  unfold ersBody
  have hdef : isDefaulted ({ d with annotations := ann } : EDS).strategy ({ d with annotations := ann } : EDS).templateName
      = isDefaulted d.strategy d.templateName := rfl
  have hgate : ersGated { d with annotations := ann } rs now = ersGated d rs now := rfl
  have hwait : ersGateWait { d with annotations := ann } rs now = ersGateWait d rs now := rfl
  have hname : ({ d with annotations := ann } : EDS).name = d.name := rfl
  rw [hdef, hgate, hwait, ersNodeItems_congr_ann d rs st st' ann hnodes hset,
    ersPods_congr_ann d st st' ann hpods hds ho, hname, canaryLabelled_congr_store d.name rs st st' hpods]
  split
  · rfl
  · split
    · rfl
    · cases ersNodeItems d rs st with
      | none => rfl
      | some items =>
        simp only []
        exact ersRun_congr_ann d rs _ _ released aff now items ann hr hp hf

/-- **Resume (paused).**  If the rolling-update-paused annotation is absent or has a value other than
`true`, the sync plans exactly what it plans for the same store with the annotation removed from the
ExtendedDaemonSet: creations, deletions, clean-up, label patches, status, requeue. -/
theorem C08_sync_resume (rs : ERS) (st st' : ErsStore) (released : String → Bool) (aff : Bool)
    (now : Time) (d : EDS)
    (h : ersOwner rs st = some d) (hr : ersRole d rs.name = "active")
    (h' : ersOwner rs st' =
      some { d with annotations := SMap.erase d.annotations K.rollingUpdatePausedAnnot })
    (hst : st.sameButEdss st')
    (hnp : isRollingUpdatePaused d.annotations = false) :
    reconcileErs rs st released aff now = reconcileErs rs st' released aff now := by
  refine (C08_sync_annotations_frame rs st st' released aff now d _ h hr h' hst ?_ ?_ ?_).symm
  · rw [hnp]
    unfold isRollingUpdatePaused SMap.getD
    rw [SMap.get?_erase_self]
    rfl
  · unfold isRolloutFrozen SMap.getD
    rw [SMap.get?_erase_other _ _ _ (by simp [K.rolloutFrozenAnnot, K.rollingUpdatePausedAnnot])]
  · exact SMap.get?_erase_other _ _ _ (by simp [K.oldDaemonsetAnnot, K.rollingUpdatePausedAnnot])

/-- **Resume (frozen).**  Same for the rollout-frozen annotation. -/
theorem C08_sync_resume_frozen (rs : ERS) (st st' : ErsStore) (released : String → Bool) (aff : Bool)
    (now : Time) (d : EDS)
    (h : ersOwner rs st = some d) (hr : ersRole d rs.name = "active")
    (h' : ersOwner rs st' =
      some { d with annotations := SMap.erase d.annotations K.rolloutFrozenAnnot })
    (hst : st.sameButEdss st')
    (hnf : isRolloutFrozen d.annotations = false) :
    reconcileErs rs st released aff now = reconcileErs rs st' released aff now := by
  refine (C08_sync_annotations_frame rs st st' released aff now d _ h hr h' hst ?_ ?_ ?_).symm
  · unfold isRollingUpdatePaused SMap.getD
    rw [SMap.get?_erase_other _ _ _ (by simp [K.rolloutFrozenAnnot, K.rollingUpdatePausedAnnot])]
  · rw [hnf]
    unfold isRolloutFrozen SMap.getD
    rw [SMap.get?_erase_self]
    rfl
  · exact SMap.get?_erase_other _ _ _ (by simp [K.oldDaemonsetAnnot, K.rolloutFrozenAnnot])

/-- **The replica set's own annotations are never read**: the whole plan of the sync is the same for the
replica set with any other annotations — in particular a rolling-update-paused / rollout-frozen annotation
carried by the replica set object neither pauses nor freezes anything (every role). -/
theorem C08_sync_ers_annotations_irrelevant (rs : ERS) (a : SMap) (st : ErsStore) (released : String → Bool)
    (aff : Bool) (now : Time) :
    reconcileErs { rs with annotations := a } st released aff now = reconcileErs rs st released aff now := by
  rfl

/-! ### Non-vacuity and the counterexample.  The store of EdsProps/C04.lean with the canary over: EDS `d`
(defaulted, maxUnavailable 1), active replica set `d-new`, nodes `n1`, `n2`. -/

def exEds08 (ann : SMap) : EDS := { exEds04 false with annotations := ann }
def exStore08 (ann : SMap) (pods : List Pod) : ErsStore := { exStore04 pods false with edss := [exEds08 ann] }

/-- both nodes run the old generation.  Not paused: one pod is replaced.  Paused, or frozen: none
(`C08_sync_paused_no_update_delete`); the hypotheses (owner, role) hold, the sync is a full one and the
written status carries the flag (`C08_sync_flags_partial`). -/
example : (reconcileErs (exErs04 "d-new" "new") (exStore08 [] exPodsOld04) (fun _ => true) true 100).deletes
    = ["old-1"] := by decide +kernel
example : ersOwner (exErs04 "d-new" "new") (exStore08 [⟨K.rollingUpdatePausedAnnot, "true"⟩] exPodsOld04)
      = some (exEds08 [⟨K.rollingUpdatePausedAnnot, "true"⟩]) ∧
    ersRole (exEds08 [⟨K.rollingUpdatePausedAnnot, "true"⟩]) "d-new" = "active" ∧
    isDefaulted (exEds08 [⟨K.rollingUpdatePausedAnnot, "true"⟩]).strategy
      (exEds08 [⟨K.rollingUpdatePausedAnnot, "true"⟩]).templateName = true ∧
    isRollingUpdatePaused (exEds08 [⟨K.rollingUpdatePausedAnnot, "true"⟩]).annotations = true ∧
    (reconcileErs (exErs04 "d-new" "new") (exStore08 [⟨K.rollingUpdatePausedAnnot, "true"⟩] exPodsOld04)
      (fun _ => true) true 100).deletes = [] ∧
    (reconcileErs (exErs04 "d-new" "new") (exStore08 [⟨K.rollingUpdatePausedAnnot, "true"⟩] exPodsOld04)
      (fun _ => true) true 100).earlyErr = false ∧
    (reconcileErs (exErs04 "d-new" "new") (exStore08 [⟨K.rollingUpdatePausedAnnot, "true"⟩] exPodsOld04)
      (fun _ => true) true 100).statusUpdate.map
        (fun s => (isCondTrue s.conds "RollingUpdatePaused", isCondTrue s.conds "RolloutFrozen",
                   isCondTrue s.conds "Active")) = some (true, false, false) := by decide +kernel
example : (reconcileErs (exErs04 "d-new" "new") (exStore08 [⟨K.rolloutFrozenAnnot, "true"⟩] exPodsOld04)
      (fun _ => true) true 100).deletes = [] := by decide +kernel

/-- no pod yet.  Not frozen (even paused): both nodes get a pod.  Frozen: none (`C08_sync_frozen_no_create`). -/
example : (reconcileErs (exErs04 "d-new" "new") (exStore08 [⟨K.rollingUpdatePausedAnnot, "true"⟩] [])
      (fun _ => true) true 100).creates.map (·.1) = ["n1", "n2"] := by decide +kernel
example : isRolloutFrozen (exEds08 [⟨K.rolloutFrozenAnnot, "true"⟩]).annotations = true ∧
    (reconcileErs (exErs04 "d-new" "new") (exStore08 [⟨K.rolloutFrozenAnnot, "true"⟩] [])
      (fun _ => true) true 100).creates = [] ∧
    (reconcileErs (exErs04 "d-new" "new") (exStore08 [⟨K.rolloutFrozenAnnot, "true"⟩] [])
      (fun _ => true) true 100).statusUpdate.map
        (fun s => (isCondTrue s.conds "RollingUpdatePaused", isCondTrue s.conds "RolloutFrozen",
                   isCondTrue s.conds "Active")) = some (false, true, false) := by decide +kernel

/-- **annotations carried by the replica set object never pause or freeze**: the replica set carries both
annotations with the value `true`, its ExtendedDaemonSet none — the rolling update goes on and the written
status says not paused, not frozen, active. -/
def exErsAnnotated08 : ERS :=
  { exErs04 "d-new" "new" with
    annotations := [⟨K.rollingUpdatePausedAnnot, "true"⟩, ⟨K.rolloutFrozenAnnot, "true"⟩] }
example : (reconcileErs exErsAnnotated08 (exStore08 [] exPodsOld04) (fun _ => true) true 100).deletes = ["old-1"] ∧
    (reconcileErs exErsAnnotated08 (exStore08 [] []) (fun _ => true) true 100).creates.map (·.1) = ["n1", "n2"] ∧
    (reconcileErs exErsAnnotated08 (exStore08 [] exPodsOld04) (fun _ => true) true 100).statusUpdate.map
        (fun s => (isCondTrue s.conds "RollingUpdatePaused", isCondTrue s.conds "RolloutFrozen",
                   isCondTrue s.conds "Active")) = some (false, false, true) := by decide +kernel

/-- resume: the annotation is present with the value `false`; the hypotheses of `C08_sync_resume` hold for
the store without it (and the sync does replace a pod). -/
example : ersOwner (exErs04 "d-new" "new") (exStore08 [⟨K.rollingUpdatePausedAnnot, "false"⟩] exPodsOld04)
      = some (exEds08 [⟨K.rollingUpdatePausedAnnot, "false"⟩]) ∧
    ersOwner (exErs04 "d-new" "new") (exStore08 [] exPodsOld04)
      = some { exEds08 [⟨K.rollingUpdatePausedAnnot, "false"⟩] with
               annotations := SMap.erase (exEds08 [⟨K.rollingUpdatePausedAnnot, "false"⟩]).annotations
                 K.rollingUpdatePausedAnnot } ∧
    isRollingUpdatePaused (exEds08 [⟨K.rollingUpdatePausedAnnot, "false"⟩]).annotations = false ∧
    (reconcileErs (exErs04 "d-new" "new") (exStore08 [⟨K.rollingUpdatePausedAnnot, "false"⟩] exPodsOld04)
      (fun _ => true) true 100).deletes = ["old-1"] := by decide +kernel
example : (exStore08 [⟨K.rollingUpdatePausedAnnot, "false"⟩] exPodsOld04).sameButEdss (exStore08 [] exPodsOld04) :=
  ⟨rfl, rfl, rfl, rfl⟩

/-! #### Why `hd` in `C08_sync_flags_partial`.  The owner is **not** defaulted (no reconcile frequency) and
carries no annotation; the replica set's stored status still says RollingUpdatePaused=True from an earlier
pause.  The sync writes that status back with only ReconcileError added: every hypothesis of the
unrestricted statement holds (owner, active role, a status is written) and its conclusion fails. -/

def cxEds08 : EDS := { exEds04 false with strategy := { exStrategy04 with reconcileFrequency := none } }
def cxErs08 : ERS := exErs04 "d-new" "new" [⟨"RollingUpdatePaused", "True", 1, 1, "", ""⟩]
def cxStore08 : ErsStore := { exStore04 [] false with edss := [cxEds08] }

example : ersOwner cxErs08 cxStore08 = some cxEds08 ∧ ersRole cxEds08 cxErs08.name = "active" ∧
    isDefaulted cxEds08.strategy cxEds08.templateName = false ∧
    isRollingUpdatePaused cxEds08.annotations = false ∧
    SMap.get? cxEds08.annotations K.rollingUpdatePausedAnnot = none ∧
    (reconcileErs cxErs08 cxStore08 (fun _ => true) true 100).statusUpdate.map
      (fun s => isCondTrue s.conds "RollingUpdatePaused") = some true := by decide +kernel

/-- the unrestricted statement, refuted. -/
example : ¬ (∀ (rs : ERS) (st : ErsStore) (released : String → Bool) (aff : Bool) (now : Time) (d : EDS),
    ersOwner rs st = some d → ersRole d rs.name = "active" →
    ∀ s, (reconcileErs rs st released aff now).statusUpdate = some s →
      isCondTrue s.conds "RollingUpdatePaused" = true → isRollingUpdatePaused d.annotations = true) := by
  intro hall
  have h1 : ersOwner cxErs08 cxStore08 = some cxEds08 := by decide +kernel
  have h2 : ersRole cxEds08 cxErs08.name = "active" := by decide +kernel
  have h3 : ∃ s, (reconcileErs cxErs08 cxStore08 (fun _ => true) true 100).statusUpdate = some s ∧
      isCondTrue s.conds "RollingUpdatePaused" = true := by
    cases hs : (reconcileErs cxErs08 cxStore08 (fun _ => true) true 100).statusUpdate with
    | none => exact absurd hs (by decide +kernel)
    | some s =>
      refine ⟨s, rfl, ?_⟩
      have : (reconcileErs cxErs08 cxStore08 (fun _ => true) true 100).statusUpdate.map
          (fun s => isCondTrue s.conds "RollingUpdatePaused") = some true := by decide +kernel
      rw [hs] at this
      exact Option.some.inj this
  obtain ⟨s, hs, ht⟩ := h3
  have := hall cxErs08 cxStore08 (fun _ => true) true 100 cxEds08 h1 h2 s hs ht
  exact absurd this (by decide +kernel)

end Eds
