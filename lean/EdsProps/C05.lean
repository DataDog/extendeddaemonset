import EdsModel
import EdsSpec.C05
/-
  C05 — A new version becomes active only when the promotion rule allows it.
  Quantification: every canary strategy (absent / auto / manual, any durations), every annotation map,
  every replica-set status (conditions, creation time), every clock value.
-/
namespace Eds
open Spec.C05

/-- with a duration set, the canary has ended when the larger of the two pending delays (since the
last recorded restart, since creation) is negative; that delay is what is returned. -/
theorem isCanaryEnded_some (c : Canary) (u : ERS) (now : Time) (d : Dur) (hd : c.duration = some d) :
    isCanaryEnded (some c) u now =
      (decide (max (pendingNoRestart c d u now) (u.creation + d - now) < 0),
        max (pendingNoRestart c d u now) (u.creation + d - now)) := by
  unfold isCanaryEnded
  simp only [hd]
  generalize pendingNoRestart c d u now = pnr
  have hm : (if pnr > u.creation + d - now then pnr else u.creation + d - now) =
      max pnr (u.creation + d - now) := by
    rw [Int.max_def]; split <;> split <;> omega
  rw [hm]
  split <;> simp <;> omega

/-- the code's "ended" implies the statement's two time conditions (the code is slightly stronger:
without a recorded restart it needs `0 < duration` as well). -/
theorem C05_ended_implies (c : Canary) (u : ERS) (now : Time)
    (h : (isCanaryEnded (some c) u now).1 = true) :
    durationElapsed c u now = true ∧ noRecentRestart c u now = true := by
  cases hd : c.duration with
  | none => simp [isCanaryEnded, hd] at h
  | some d =>
    rw [isCanaryEnded_some c u now d hd, decide_eq_true_iff] at h
    unfold durationElapsed noRecentRestart
    simp only [hd, decide_eq_true_iff]
    refine ⟨by omega, ?_⟩
    have h2 : pendingNoRestart c d u now < 0 := by omega
    cases hnr : c.noRestartsDuration with
    | none => rfl
    | some nr =>
      cases hrc : findCond u.status.conds "PodRestarting" with
      | none => rfl
      | some rc =>
        simp only [pendingNoRestart, lastRestartTime, hnr, hrc] at h2
        by_cases hz : isZeroTime rc.lastUpdate = true
        · simp [hz]
        · simp [hz] at h2 ⊢
          omega

/-- **Only-if.** If the selection switches away from an existing, different active replica set,
the promotion rule of the statement holds — for every spec that passed the schema (mode is auto or
manual) and validation (no duration in manual mode). -/
theorem C05_only_if (canary : Option Canary) (ann : SMap) (a u : ERS) (now : Time) (rq : Dur)
    (hmodes : ∀ c, canary = some c → c.validationMode = "auto" ∨ c.validationMode = "manual")
    (hmanual : ∀ c, canary = some c → c.validationMode = "manual" → c.duration = none)
    (h : selectCurrent canary ann (some a) u false now = (.upToDate, rq)) :
    promotionAllowed canary ann u now = true := by
  unfold selectCurrent at h
  cases hc : canary with
  | none => simp [promotionAllowed]
  | some c =>
    simp only [hc] at h
    unfold promotionAllowed
    by_cases hv : isCanaryValid ann u.name = true
    · simp [hv]
    · simp only [Bool.not_eq_true] at hv
      simp only [hv, Bool.false_or] at h ⊢
      by_cases hcond : (!(isCanaryPaused ann (some u)).1 && !isCanaryFailed (some u) && (isCanaryEnded (some c) u now).1) = true
      · simp only [Bool.and_eq_true, Bool.not_eq_true'] at hcond
        obtain ⟨⟨hp, hf⟩, he⟩ := hcond
        have ⟨h1, h2⟩ := C05_ended_implies c u now he
        have hdur : c.duration ≠ none := by
          intro hn; simp [durationElapsed, hn] at h1
        have hauto : c.validationMode = "auto" :=
          (hmodes c hc).resolve_right (fun hm => hdur (hmanual c hc hm))
        simp [h1, h2, hp, hf, hauto]
      · simp [hcond] at h

/-- **Failed is never promoted by elapsed time.** -/
theorem C05_failed_never_by_time (c : Canary) (ann : SMap) (a u : ERS) (now : Time)
    (hf : isCanaryFailed (some u) = true) (hv : isCanaryValid ann u.name = false) :
    (selectCurrent (some c) ann (some a) u false now).1 = .active := by
  simp [selectCurrent, hf, hv]

/-- **Manual mode: elapsed time alone never promotes.** -/
theorem C05_manual_never_by_time (c : Canary) (ann : SMap) (a u : ERS) (now : Time)
    (hd : c.duration = none) (hv : isCanaryValid ann u.name = false) :
    (selectCurrent (some c) ann (some a) u false now).1 = .active := by
  simp [selectCurrent, isCanaryEnded, hd, hv]

/-- **Paused is never promoted by elapsed time** (shared with C08). -/
theorem C05_paused_never_by_time (c : Canary) (ann : SMap) (a u : ERS) (now : Time)
    (hp : (isCanaryPaused ann (some u)).1 = true) (hv : isCanaryValid ann u.name = false) :
    (selectCurrent (some c) ann (some a) u false now).1 = .active := by
  simp [selectCurrent, hp, hv]

/-- **Explicit validation promotes**, whatever the pause / failed / time state. -/
theorem C05_valid_promotes (c : Canary) (ann : SMap) (a u : ERS) (now : Time)
    (hv : isCanaryValid ann u.name = true) :
    (selectCurrent (some c) ann (some a) u false now).1 = .upToDate := by
  simp [selectCurrent, hv]

/-- **Adoption.** If the recorded active replica set no longer exists, the matching one is adopted. -/
theorem C05_adopt_when_missing (canary : Option Canary) (ann : SMap) (u : ERS) (now : Time) :
    (selectCurrent canary ann none u false now).1 = .upToDate := by
  simp [selectCurrent]

/-- **No canary strategy**: the new replica set becomes active at once. -/
theorem C05_no_canary (ann : SMap) (a u : ERS) (now : Time) :
    (selectCurrent none ann (some a) u false now).1 = .upToDate := by
  simp [selectCurrent]

/-- **Wake-up.** While the canary has not ended, the returned requeue delay is the remaining time:
non-negative, and at `now + delay + 1ns` the duration condition of the rule holds. -/
theorem C05_requeue (c : Canary) (u : ERS) (now : Time) (d : Dur) (hd : c.duration = some d)
    (h : (isCanaryEnded (some c) u now).1 = false) :
    0 ≤ (isCanaryEnded (some c) u now).2 ∧ u.creation + d ≤ now + (isCanaryEnded (some c) u now).2 := by
  rw [isCanaryEnded_some c u now d hd] at h ⊢
  simp only [decide_eq_false_iff_not] at h
  omega

/-- Non-vacuity: an auto canary whose duration elapsed, neither paused nor failed, is promoted,
and the rule's hypotheses are satisfiable. -/
def exCanary : Canary :=
  { replicas := some ⟨"int", 1⟩, duration := some (10 * minute), nodeSelector := some ⟨[], []⟩,
    antiAffinityKeys := [], autoPause := none, autoFail := none, noRestartsDuration := some (5 * minute),
    validationMode := "auto" }
def exErs (name : String) (creation : Time) (conds : List Cond) : ERS :=
  { name := name, ns := "d", uid := name, labels := [], annotations := [], creation := creation, deleted := false,
    ownerEds := some "d", selector := none, templateGeneration := name,
    template := { labels := [], annotations := [], nodeSelector := [], affOther := "", affRequired := none,
                  tolerations := [], containers := [] },
    status := { status := "", desired := 0, current := 0, ready := 0, available := 0, ignored := 0, conds := conds } }

example : selectCurrent (some exCanary) [] (some (exErs "old" 0 [])) (exErs "new" 0 []) false (11 * minute)
    = (.upToDate, -minute) := by decide +kernel
example : (selectCurrent (some exCanary) [] (some (exErs "old" 0 [])) (exErs "new" 0 []) false (9 * minute)).1
    = .active := by decide +kernel
example : (selectCurrent (some exCanary) [] (some (exErs "old" 0 []))
    (exErs "new" 0 [⟨"Canary-Failed", "True", 0, 0, "", ""⟩]) false (11 * minute)).1 = .active := by decide +kernel

end Eds
