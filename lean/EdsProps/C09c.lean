import EdsProps.C09b
import EdsProofs.ErsRun
/-
  C09 (history level) — write-issuing syncs of one replica set are spaced by at least
  `spec.strategy.reconcileFrequency`, over ARBITRARY runs.

  Subject: `reconcileErs` iterated over a list of syncs of one replica set (`Sync`, `stepErs`, `runErs`
  of EdsProofs/ErsRun.lean): each sync's status write is applied before the next sync (`statusUpdate`,
  or the status unchanged when the sync wrote none); the store (EDS objects and their status, nodes,
  pods, settings, daemonsets), the back-off oracle and the affinity mode are arbitrary per sync.

  "Issues a write" is `ErsWrites.issuesPodWrite`: at least one pod creation, deletion for update,
  clean-up deletion, canary-label addition or removal — a superset of "creates or deletes a pod".

  Time resolution.  The model keeps instants as unbounded integers (nanoseconds) and persists
  `lastUpdate` exactly as written (`statusUpdate` carries the conditions verbatim, `stepErs` applies it
  verbatim): there is NO truncation to seconds in the model, so none is accounted for in 1–3.  What a
  store that truncates `metav1.Time` to seconds does to the bound is theorem 4.

    1  `C09_spacing_history`        — [hyps as in the task: every owner EDS read has
                                      `reconcileFrequency = some freq`, `0 ≤ freq`, clock non-decreasing]
                                      `List.Pairwise (fun tᵢ tⱼ => tᵢ + freq ≤ tⱼ)` on the instants of the
                                      write-issuing syncs of the run (`writeTimes`);
    2  `C09_spacing_history_strong` — the same from `0 ≤ freq` OR a non-decreasing clock: either one suffices.
                                      "Defaulted parent" is not needed as a hypothesis: a write-issuing sync
                                      is a full run, and a full run has checked it.  With neither (negative
                                      frequency and a clock running backwards) the statement fails: last
                                      `example`.
    3  `C09_spacing_split`          — positional form: in `pre ++ sᵢ :: mid ++ sⱼ :: post`, if `sᵢ` and `sⱼ`
                                      issue a write then `sᵢ.now + freq ≤ sⱼ.now`.
    4  `C09_spacing_history_persist`, `C09_spacing_history_seconds` — NOT in the model, added for the real
                                      API server: the run where every written status goes through a
                                      truncation `f` of its timestamps (monotone, idempotent, `f t ≤ t`)
                                      before it is stored: `f tᵢ + freq ≤ tⱼ`; for whole seconds the spacing is
                                      `> freq − 1 s`, and that bound is tight (example).  1–2 are the case
                                      `persist = id` of it (`persists_id`).

-/
namespace Eds

instance (w : ErsWrites) : Decidable w.issuesPodWrite :=
  inferInstanceAs (Decidable (w.cleanupDeletes ≠ [] ∨ w.labelAdds ≠ [] ∨ w.labelRemoves ≠ [] ∨ w.deletes ≠ [] ∨
    w.creates ≠ []))

/-- the clock values of the syncs of a run that issue at least one pod write, in order. -/
def writeTimes (rs : ERS) : List Sync → List Time
  | [] => []
  | s :: ss => (if (s.run rs).issuesPodWrite then [s.now] else []) ++ writeTimes (stepErs rs s) ss

/-- the stored LastFullSync stamp exists and is at least `T`. -/
def StampGE (rs : ERS) (T : Time) : Prop :=
  ∃ c, findCond rs.status.conds "LastFullSync" = some c ∧ T ≤ c.lastUpdate

/-- every owner EDS the sync may read has `reconcileFrequency = some freq`. -/
def Sync.hasFreq (s : Sync) (rs : ERS) (freq : Dur) : Prop :=
  ∀ d, ersOwner rs s.st = some d → d.strategy.reconcileFrequency = some freq

theorem hasFreq_stepErs {s : Sync} {rs : ERS} {freq : Dur} (s0 : Sync) (h : s.hasFreq rs freq) :
    s.hasFreq (stepErs rs s0) freq := h

theorem hasFreq_runErs {s : Sync} {rs : ERS} {freq : Dur} (ss : List Sync) (h : s.hasFreq rs freq) :
    s.hasFreq (runErs rs ss) freq := by
  intro d hd
  rw [ersOwner_runErs] at hd
  exact h d hd

theorem stamp_of_write (rs : ERS) (s : Sync) (hw : (s.run rs).issuesPodWrite) : StampGE (stepErs rs s) s.now := by
  cases ho : ersOwner rs s.st with
  | none =>
    exact absurd hw (ErsWrites.noPodWrite_not_issues
      (reconcileErs_noPodWrite_of_no_owner rs s.st s.released s.aff s.now ho))
  | some d =>
    obtain ⟨items, r, adds, removes, se, st0, F⟩ := reconcileErs_full_of_write rs s.st s.released s.aff s.now d ho hw
    obtain ⟨c, hc, hu, _⟩ := fullRun_stamp rs s.st s.released s.aff s.now d F
    exact ⟨c, hc, by rw [hu]; exact Int.le_refl _⟩

theorem write_after_stamp (rs : ERS) (s : Sync) (freq : Dur) (T : Time) (h : StampGE rs T)
    (hf : s.hasFreq rs freq) (hw : (s.run rs).issuesPodWrite) : T + freq ≤ s.now := by
  obtain ⟨c, hc, hT⟩ := h
  cases ho : ersOwner rs s.st with
  | none =>
    exact absurd hw (ErsWrites.noPodWrite_not_issues
      (reconcileErs_noPodWrite_of_no_owner rs s.st s.released s.aff s.now ho))
  | some d =>
    have := C09_spacing_read rs s.st s.released s.aff s.now d ho hw c hc
    rw [hf d ho] at this
    simp only [Option.getD_some] at this
    omega

/-- one step keeps `StampGE rs T`, provided the sync does not run before `T` or the frequency is not negative. -/
theorem stamp_step (rs : ERS) (s : Sync) (freq : Dur) (T : Time) (h : StampGE rs T) (hf : s.hasFreq rs freq)
    (hm : 0 ≤ freq ∨ T ≤ s.now) : StampGE (stepErs rs s) T := by
  rcases stepErs_cases rs s with he | ⟨d, _, _, he⟩ | ⟨d, items, r, adds, removes, se, st0, ho, F⟩
  · unfold StampGE; rw [he]; exact h
  · unfold StampGE
    rw [he, ersNotDefaulted_findCond rs s.now _ (by simp)]
    exact h
  · obtain ⟨c, hc, hu, _⟩ := fullRun_stamp rs s.st s.released s.aff s.now d F
    refine ⟨c, hc, ?_⟩
    rw [hu]
    rcases hm with hm | hm
    · obtain ⟨c0, hc0, hT⟩ := h
      have hold := F.stamp_old hc0
      rw [hf d ho, Option.getD_some] at hold
      omega
    · exact hm

theorem stamp_run (rs : ERS) (ss : List Sync) (freq : Dur) (T : Time) (h : StampGE rs T)
    (hf : ∀ s ∈ ss, s.hasFreq rs freq) (hm : 0 ≤ freq ∨ ∀ s ∈ ss, T ≤ s.now) : StampGE (runErs rs ss) T := by
  induction ss generalizing rs with
  | nil => exact h
  | cons s ss ih =>
    rw [runErs_cons]
    apply ih _ (stamp_step rs s freq T h (hf s List.mem_cons_self)
      (hm.imp id (fun hm => hm s List.mem_cons_self)))
    · exact fun s' hs' => hasFreq_stepErs s (hf s' (List.mem_cons_of_mem _ hs'))
    · exact hm.imp id (fun hm s' hs' => hm s' (List.mem_cons_of_mem _ hs'))

/-- `persist` is what the API server does to a status on its way to storage, as far as the
LastFullSync stamp is concerned: `lastUpdate` goes through `f`, which is monotone, idempotent and
never moves a time forward (truncation to whole seconds: `truncTime sec`). -/
structure Persists (persist : ERSStatus → ERSStatus) (f : Time → Time) : Prop where
  mono : ∀ a b, a ≤ b → f a ≤ f b
  idem : ∀ a, f (f a) = f a
  le : ∀ a, f a ≤ a
  stamp : ∀ st c, findCond st.conds "LastFullSync" = some c →
    ∃ c', findCond (persist st).conds "LastFullSync" = some c' ∧ c'.lastUpdate = f c.lastUpdate

/-- one step through such a store: a written status is persisted through `persist`; when the sync
writes no status the stored one stays as it is. -/
def stepErsP (persist : ERSStatus → ERSStatus) (rs : ERS) (s : Sync) : ERS :=
  { rs with status := match (s.run rs).statusUpdate with | some st' => persist st' | none => rs.status }

def runErsP (persist : ERSStatus → ERSStatus) (rs : ERS) : List Sync → ERS
  | [] => rs
  | s :: ss => runErsP persist (stepErsP persist rs s) ss

def writeTimesP (persist : ERSStatus → ERSStatus) (rs : ERS) : List Sync → List Time
  | [] => []
  | s :: ss => (if (s.run rs).issuesPodWrite then [s.now] else []) ++ writeTimesP persist (stepErsP persist rs s) ss

section Persist
variable {persist : ERSStatus → ERSStatus} {f : Time → Time} (hp : Persists persist f)
include hp

/-- where the plain step leaves a stamp `≥ X`, the persisting step leaves a stamp `≥ f X`. -/
theorem stampP_of_stamp (rs : ERS) (s : Sync) (X : Time) (h : StampGE (stepErs rs s) X) :
    StampGE (stepErsP persist rs s) (f X) := by
  obtain ⟨c, hc, hT⟩ := h
  have hc : findCond ((s.run rs).statusUpdate.getD rs.status).conds "LastFullSync" = some c := hc
  unfold StampGE stepErsP
  cases hsu : (s.run rs).statusUpdate with
  | none =>
    rw [hsu] at hc
    exact ⟨c, hc, Int.le_trans (hp.le _) hT⟩
  | some st' =>
    rw [hsu] at hc
    obtain ⟨c', hc', he⟩ := hp.stamp st' c hc
    exact ⟨c', hc', by rw [he]; exact hp.mono _ _ hT⟩

theorem stampP_step (rs : ERS) (s : Sync) (freq : Dur) (T : Time) (h : StampGE rs (f T)) (hf : s.hasFreq rs freq)
    (hm : 0 ≤ freq ∨ T ≤ s.now) : StampGE (stepErsP persist rs s) (f T) := by
  have := stampP_of_stamp hp rs s (f T)
    (stamp_step rs s freq (f T) h hf (hm.imp id (Int.le_trans (hp.le T))))
  rwa [hp.idem] at this

theorem writeTimesP_ge (rs : ERS) (ss : List Sync) (freq : Dur) (T : Time) (h : StampGE rs (f T))
    (hf : ∀ s ∈ ss, s.hasFreq rs freq) (hm : 0 ≤ freq ∨ ∀ s ∈ ss, T ≤ s.now) :
    ∀ b ∈ writeTimesP persist rs ss, f T + freq ≤ b := by
  induction ss generalizing rs with
  | nil => intro b hb; cases hb
  | cons s ss ih =>
    intro b hb
    simp only [writeTimesP, List.mem_append] at hb
    rcases hb with hb | hb
    · split at hb
      · rename_i hw
        simp only [List.mem_singleton] at hb
        subst hb
        exact write_after_stamp rs s freq (f T) h (hf s List.mem_cons_self) hw
      · cases hb
    · exact ih _ (stampP_step hp rs s freq T h (hf s List.mem_cons_self)
        (hm.imp id (fun hm => hm s List.mem_cons_self)))
        (fun s' hs' => hf s' (List.mem_cons_of_mem _ hs'))
        (hm.imp id (fun hm s' hs' => hm s' (List.mem_cons_of_mem _ hs'))) b hb

/-- **C09, spacing over a run through a truncating store.**  If the store persists the LastFullSync
stamp through `f` (monotone, idempotent, `f t ≤ t`), then under the hypotheses of
`C09_spacing_history_strong` any two write-issuing syncs satisfy `f tᵢ + freq ≤ tⱼ`: the guaranteed
spacing is `freq` minus what `f` takes off `tᵢ`. -/
theorem C09_spacing_history_persist (rs : ERS) (ss : List Sync) (freq : Dur)
    (hf : ∀ s ∈ ss, s.hasFreq rs freq)
    (hm : 0 ≤ freq ∨ ss.Pairwise (fun a b => a.now ≤ b.now)) :
    (writeTimesP persist rs ss).Pairwise (fun ti tj => f ti + freq ≤ tj) := by
  induction ss generalizing rs with
  | nil => exact List.Pairwise.nil
  | cons s ss ih =>
    have hm' : 0 ≤ freq ∨ ss.Pairwise (fun a b => a.now ≤ b.now) :=
      hm.imp id (fun hm => (List.pairwise_cons.mp hm).2)
    have ihs := ih (stepErsP persist rs s) (fun s' hs' => hf s' (List.mem_cons_of_mem _ hs')) hm'
    simp only [writeTimesP]
    split
    · rename_i hw
      simp only [List.singleton_append, List.pairwise_cons]
      refine ⟨?_, ihs⟩
      exact writeTimesP_ge hp (stepErsP persist rs s) ss freq s.now (stampP_of_stamp hp rs s s.now (stamp_of_write rs s hw))
        (fun s' hs' => hf s' (List.mem_cons_of_mem _ hs'))
        (hm.imp id (fun hm => (List.pairwise_cons.mp hm).1))
    · simpa using ihs

end Persist

theorem persists_id : Persists id id where
  mono := fun _ _ h => h
  idem := fun _ => rfl
  le := fun _ => Int.le_refl _
  stamp := fun _ c hc => ⟨c, hc, rfl⟩

theorem stepErsP_id (rs : ERS) (s : Sync) : stepErsP id rs s = stepErs rs s := by
  unfold stepErsP stepErs
  cases (s.run rs).statusUpdate <;> rfl

theorem writeTimesP_id (rs : ERS) (ss : List Sync) : writeTimesP id rs ss = writeTimes rs ss := by
  induction ss generalizing rs with
  | nil => rfl
  | cons s ss ih => simp only [writeTimesP, writeTimes, stepErsP_id, ih]

/-- **C09, spacing over a run (strong form).**  For any replica set, any initial status and any list
of syncs whose owner EDS always has `reconcileFrequency = some freq`: if `freq ≥ 0` OR the clock is
non-decreasing along the list, any two syncs of the list that issue a pod write are at least `freq`
apart. -/
theorem C09_spacing_history_strong (rs : ERS) (ss : List Sync) (freq : Dur)
    (hf : ∀ s ∈ ss, s.hasFreq rs freq)
    (hm : 0 ≤ freq ∨ ss.Pairwise (fun a b => a.now ≤ b.now)) :
    (writeTimes rs ss).Pairwise (fun ti tj => ti + freq ≤ tj) := by
  have := C09_spacing_history_persist persists_id rs ss freq hf hm
  rwa [writeTimesP_id] at this

/-- **C09, spacing over a run.**  One replica set, syncs at clock values `t₁ ≤ t₂ ≤ …`, each sync's
status write applied before the next, a parent EDS with constant `reconcileFrequency = some freq`,
`freq ≥ 0`, everything else in the store arbitrary per sync: any two syncs that issue at least one
pod write are at least `freq` apart (`tᵢ + freq ≤ tⱼ` for `i < j`). -/
theorem C09_spacing_history (rs : ERS) (ss : List Sync) (freq : Dur)
    (hf : ∀ s ∈ ss, s.hasFreq rs freq) (_hpos : 0 ≤ freq)
    (hclock : ss.Pairwise (fun a b => a.now ≤ b.now)) :
    (writeTimes rs ss).Pairwise (fun ti tj => ti + freq ≤ tj) :=
  C09_spacing_history_strong rs ss freq hf (Or.inr hclock)

/-- **Positional form.**  In the run `pre ++ sᵢ :: mid ++ sⱼ :: post`: if `sᵢ` issues a pod write (reading
the status `pre` left) and `sⱼ` issues a pod write (reading the status `pre ++ sᵢ :: mid` left), then
`sᵢ.now + freq ≤ sⱼ.now`. -/
theorem C09_spacing_split (rs : ERS) (pre mid : List Sync) (si sj : Sync) (freq : Dur)
    (hfm : ∀ s ∈ mid, s.hasFreq rs freq) (hfj : sj.hasFreq rs freq)
    (hm : 0 ≤ freq ∨ ∀ s ∈ mid, si.now ≤ s.now)
    (hwi : (si.run (runErs rs pre)).issuesPodWrite)
    (hwj : (sj.run (runErs rs (pre ++ si :: mid))).issuesPodWrite) :
    si.now + freq ≤ sj.now := by
  have e : runErs rs (pre ++ si :: mid) = runErs (stepErs (runErs rs pre) si) mid := by
    rw [runErs_append]; rfl
  rw [e] at hwj
  have h1 := stamp_of_write (runErs rs pre) si hwi
  have h2 := stamp_run (stepErs (runErs rs pre) si) mid freq si.now h1
    (fun s hs => hasFreq_stepErs si (hasFreq_runErs pre (hfm s hs))) hm
  exact write_after_stamp _ sj freq si.now h2
    (hasFreq_runErs mid (hasFreq_stepErs si (hasFreq_runErs pre hfj))) hwj

/-- truncation of an instant to a multiple of `res` (floor). -/
def truncTime (res : Dur) (t : Time) : Time := t - t % res

/-- the API server's rounding of every `metav1.Time` of the status conditions. -/
def truncStatus (res : Dur) (st : ERSStatus) : ERSStatus :=
  { st with conds := st.conds.map (fun c => { c with lastTransition := truncTime res c.lastTransition,
                                                     lastUpdate := truncTime res c.lastUpdate }) }

theorem findCond_map (cs : List Cond) (g : Cond → Cond) (hg : ∀ c, (g c).type = c.type) (t : String) :
    findCond (cs.map g) t = (findCond cs t).map g := by
  induction cs with
  | nil => rfl
  | cons c cs ih =>
    cases hc : (c.type == t) with
    | true =>
      have : ((g c).type == t) = true := by rw [hg]; exact hc
      rw [List.map_cons, findCond_cons_pos _ _ _ this, findCond_cons_pos _ _ _ hc]; rfl
    | false =>
      have : ((g c).type == t) = false := by rw [hg]; exact hc
      rw [List.map_cons, findCond_cons_neg _ _ _ this, findCond_cons_neg _ _ _ hc]; exact ih

theorem truncTime_spec (res : Dur) (hres : 0 < res) (t : Time) :
    truncTime res t ≤ t ∧ t - res < truncTime res t ∧ truncTime res t % res = 0 := by
  unfold truncTime
  have h1 := Int.emod_nonneg t (Int.ne_of_gt hres)
  have h2 := Int.emod_lt_of_pos t hres
  refine ⟨by omega, by omega, ?_⟩
  have : t - t % res = res * (t / res) := by
    have := Int.mul_ediv_add_emod t res
    omega
  rw [this]
  exact Int.mul_emod_right _ _

theorem persists_trunc (res : Dur) (hres : 0 < res) : Persists (truncStatus res) (truncTime res) where
  mono := by
    intro a b hab
    unfold truncTime
    have e1 : a - a % res = res * (a / res) := by have := Int.mul_ediv_add_emod a res; omega
    have e2 : b - b % res = res * (b / res) := by have := Int.mul_ediv_add_emod b res; omega
    rw [e1, e2]
    exact Int.mul_le_mul_of_nonneg_left (Int.ediv_le_ediv hres hab) (Int.le_of_lt hres)
  idem := by
    intro a
    have := (truncTime_spec res hres a).2.2
    show truncTime res a - truncTime res a % res = truncTime res a
    rw [this]; omega
  le := fun a => (truncTime_spec res hres a).1
  stamp := by
    intro st c hc
    refine ⟨{ c with lastTransition := truncTime res c.lastTransition, lastUpdate := truncTime res c.lastUpdate },
      ?_, rfl⟩
    show findCond (st.conds.map _) "LastFullSync" = _
    rw [findCond_map st.conds (fun c => { c with lastTransition := truncTime res c.lastTransition,
                                                  lastUpdate := truncTime res c.lastUpdate }) (fun _ => rfl), hc]
    rfl

/-- **Spacing with timestamps stored at one-second resolution**: two write-issuing syncs are more than
`freq − 1 s` apart (precisely: `⌊tᵢ⌋ₛ + freq ≤ tⱼ`). -/
theorem C09_spacing_history_seconds (rs : ERS) (ss : List Sync) (freq : Dur)
    (hf : ∀ s ∈ ss, s.hasFreq rs freq)
    (hm : 0 ≤ freq ∨ ss.Pairwise (fun a b => a.now ≤ b.now)) :
    (writeTimesP (truncStatus sec) rs ss).Pairwise (fun ti tj => ti + freq - sec < tj) := by
  have h := C09_spacing_history_persist (persists_trunc sec (by decide)) rs ss freq hf hm
  refine h.imp ?_
  intro a b hab
  have := (truncTime_spec sec (by decide) a).2.1
  omega

/-! ### Non-vacuity (store of EdsProps/C04.lean: canary replica set `d-new`, `freq` = 10 s; the pod is never
there, so every non-gated sync creates it again) -/

/-- six syncs at 100 s, 105 s (gated), 110 s, 110 s again (gated), 119.5 s (gated), 120.5 s. -/
def exRun09c : List Sync :=
  [100 * sec, 105 * sec, 110 * sec, 110 * sec, 119 * sec + sec / 2, 120 * sec + sec / 2].map
    (fun t => { st := exStore04, now := t })

example : writeTimes (exErs04 "d-new" "new") exRun09c = [100 * sec, 110 * sec, 120 * sec + sec / 2] := by decide +kernel

/-- the hypotheses of `C09_spacing_history` hold of that run. -/
example : (∀ s ∈ exRun09c, s.hasFreq (exErs04 "d-new" "new") (10 * sec)) ∧ (0 : Int) ≤ 10 * sec ∧
    exRun09c.Pairwise (fun a b => a.now ≤ b.now) := by
  refine ⟨?_, by decide +kernel, by decide +kernel⟩
  intro s hs d hd
  have hst : s.st = exStore04 := by
    simp only [exRun09c, List.mem_map] at hs
    obtain ⟨t, _, rfl⟩ := hs
    rfl
  rw [hst] at hd
  have : ersOwner (exErs04 "d-new" "new") exStore04 = some exEds04 := by decide +kernel
  rw [this] at hd
  cases hd
  decide +kernel

/-- through a store with one-second resolution the sync at 100.7 s is persisted as 100 s, so a sync at
110.2 s — only 9.5 s later — is not gated: the bound `freq − 1 s` of `C09_spacing_history_seconds`
cannot be improved to `freq`. -/
def exRun09cT : List Sync :=
  [100 * sec + 7 * (sec / 10), 110 * sec + 2 * (sec / 10)].map (fun t => { st := exStore04, now := t })

example : writeTimesP (truncStatus sec) (exErs04 "d-new" "new") exRun09cT
      = [100 * sec + 7 * (sec / 10), 110 * sec + 2 * (sec / 10)] ∧
    writeTimes (exErs04 "d-new" "new") exRun09cT = [100 * sec + 7 * (sec / 10)] := by decide +kernel

/-- neither `0 ≤ freq` nor a monotone clock: with `reconcileFrequency = −50 s`, syncs at 100 s, 60 s and
20 s all issue a write, and 100 s + (−50 s) ≤ 20 s fails.  (A negative frequency never gates when the clock
moves forward; the webhook does not forbid it.) -/
def exRun09cN : List Sync :=
  [100 * sec, 60 * sec, 20 * sec].map (fun t => { st := exStore04 [] true (-50 * sec), now := t })

example : writeTimes (exErs04 "d-new" "new") exRun09cN = [100 * sec, 60 * sec, 20 * sec] ∧
    ¬ (writeTimes (exErs04 "d-new" "new") exRun09cN).Pairwise (fun ti tj => ti + (-50 * sec) ≤ tj) := by decide +kernel

end Eds
