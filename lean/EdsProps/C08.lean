import EdsProofs.Rolling
import EdsProps.C05
import EdsProps.C03
/-
  C08 — Pause and freeze annotations stop exactly what they promise to stop.
  (The canary-side clauses that need the per-pod fold live in EdsProps/C06.lean:
   C06_blocks_creation, C06_empty_unpause_override, and C08_canary_resumes_on_unpause there.)
-/
namespace Eds

/-- the paused / frozen flags are exactly "annotation present with the value `true`". -/
theorem C08_flags (ann : SMap) :
    isRollingUpdatePaused ann = (SMap.get? ann K.rollingUpdatePausedAnnot == some "true") ∧
    isRolloutFrozen ann = (SMap.get? ann K.rolloutFrozenAnnot == some "true") := by
  unfold isRollingUpdatePaused isRolloutFrozen SMap.getD
  constructor <;> (cases SMap.get? ann _ <;> simp)

/-- **Paused**: no pod is deleted in order to update it; creations are what they would be unpaused. -/
theorem C08_paused_no_update_delete (c : Counts) (N ms mu mc : Int) (frozen : Bool) :
    (rollingPlan c N ms mu mc true frozen).2 = [] ∧
    (rollingPlan c N ms mu mc true frozen).1 = (rollingPlan c N ms mu mc false frozen).1 :=
  ⟨C03_paused_no_delete c N ms mu mc true frozen (Or.inl rfl), rfl⟩

/-- **Frozen**: neither creations nor update-deletions. -/
theorem C08_frozen_nothing (c : Counts) (N ms mu mc : Int) (paused : Bool) :
    rollingPlan c N ms mu mc paused true = ([], []) := by
  unfold rollingPlan; simp

/-- **Resume**: with neither annotation set to `true`, both lists are as computed from the limits. -/
theorem C08_resume (c : Counts) (N ms mu mc : Int) :
    (rollingPlan c N ms mu mc false false).1 = c.toCreate.take (min (calcLimits {
        nbNodes := N, nbPods := c.allPods, nbAvailablesPod := c.available, nbOldAvailablesPod := c.oldAvailable,
        nbCreatedPod := c.created, nbUnresponsiveNodes := c.stuck, nbOldUnavailablePods := c.oldUnavailable,
        maxPodCreation := mc, maxUnavailablePod := mu, maxUnschedulablePod := ms }).1 (c.toCreate.length : Int)).toNat ∧
    (rollingPlan c N ms mu mc false false).2 = (c.toDeleteUnavail ++ c.toDeleteAvail).take (min (calcLimits {
        nbNodes := N, nbPods := c.allPods, nbAvailablesPod := c.available, nbOldAvailablesPod := c.oldAvailable,
        nbCreatedPod := c.created, nbUnresponsiveNodes := c.stuck, nbOldUnavailablePods := c.oldUnavailable,
        maxPodCreation := mc, maxUnavailablePod := mu, maxUnschedulablePod := ms }).2
        ((c.toDeleteUnavail ++ c.toDeleteAvail).length : Int)).toNat := by
  constructor <;> rfl

/-- through `manageDeployment`: a successful sync reports the flags and obeys them. -/
theorem C08_sync (p : StratParams) (now wall : Time) (cf : Bool) (r : StratResult)
    (h : manageDeployment p now wall cf = .ok r) :
    (isRollingUpdatePaused p.edsAnnotations = true ∨ isRolloutFrozen p.edsAnnotations = true → r.deleteE = []) ∧
    (isRolloutFrozen p.edsAnnotations = true → r.createE = []) := by
  obtain ⟨ms, mu, mc, _, _, _, hc, hd⟩ := manageDeployment_plan p now wall cf r h
  constructor
  · intro hpf
    rw [hd]
    exact C03_paused_no_delete _ _ ms mu mc _ _ hpf
  · intro hf
    rw [hc, hf, C08_frozen_nothing]

/-- **A paused canary is not promoted by elapsed time** (annotation or the replica set's own
Canary-Paused condition), and **explicit validation overrides the pause**. -/
theorem C08_paused_not_promoted (c : Canary) (ann : SMap) (a u : ERS) (now : Time)
    (hp : (isCanaryPaused ann (some u)).1 = true) (hv : isCanaryValid ann u.name = false) :
    (selectCurrent (some c) ann (some a) u false now).1 = .active :=
  C05_paused_never_by_time c ann a u now hp hv

theorem C08_validate_overrides_pause (c : Canary) (ann : SMap) (a u : ERS) (now : Time)
    (hv : isCanaryValid ann u.name = true) :
    (selectCurrent (some c) ann (some a) u false now).1 = .upToDate :=
  C05_valid_promotes c ann a u now hv

/-- the pause is recognised from either source. -/
theorem C08_pause_sources (ann : SMap) (u : ERS) :
    (isCanaryPaused ann (some u)).1 =
      (isCondTrue u.status.conds "Canary-Paused" || SMap.get? ann K.canaryPausedAnnot == some "true") := by
  unfold isCanaryPaused
  dsimp only
  cases isCondTrue u.status.conds "Canary-Paused" <;>
    cases SMap.get? ann K.canaryPausedAnnot == some "true" <;> rfl

/-- **State string** outside a canary: frozen wins over paused, else Running. -/
theorem C08_state (ann : SMap) :
    nonCanaryState ann =
      if isRolloutFrozen ann then "Rollout frozen"
      else if isRollingUpdatePaused ann then "RollingUpdate Paused" else "Running" := rfl

/-- **State string** during a canary: failed ⇒ "Canary Failed"; active and paused ⇒ "Canary Paused"
with the reason; active and not paused ⇒ "Canary"; otherwise the non-canary state. -/
theorem C08_canary_state (st : EDSStatus) (u : ERS) (active failed paused : Bool) (reason : String) (ann : SMap) :
    (manageStatus st u active failed paused reason ann).state =
      if failed then "Canary Failed"
      else if active then (if paused then "Canary Paused" else "Canary")
      else nonCanaryState ann := by
  unfold manageStatus
  cases failed <;> cases active <;> cases paused <;> simp

end Eds
