import EdsProofs.Cluster
import EdsProofs.C02cConds
import EdsProps.C04
import EdsProps.C10c
import EdsProps.C15
import EdsProps.C18
/-
  Sync7 — theorems behind those specification clauses of `Driver/Handlers.lean` (`hEdsReconcile`,
  `hErsReconcile`) that speak of a whole reconcile (listed below, one per item), stated on the L2 models
  `reconcileEds` (EdsModel/ReconcileEds.lean) and `reconcileErs` (EdsModel/ReconcileErs.lean), for every input.

  ExtendedDaemonSet reconcile (through `reconcileEds_canary_nodes` of EdsProofs/Cluster.lean: the written
  canary node list is the previous one or `selectNodes` of it):

    1  `C15_keep_reconcile`  clause `C15.keep(reconcile)`                                              [full]
         hypotheses: node names distinct (`hnames`), the up-to-date replica set's template agrees with
         `spec.template` on the fitness of the listed nodes (`hfit`; `C15_keep_reconcile_same_template` takes
         `u.template = d.template`).  Both necessary: `Ex7.C15_keep_reconcile_needs_names`,
         `Ex7.C15_keep_reconcile_needs_template` (by `decide`).  `oldNodes.Nodup` is NOT needed
         (`Spec.C15.keep` is true by definition on a list with duplicates).
    2  `C04_list_growth_reconcile`  clauses `C04.list-growth` / `C15.count-vs-targeted`                [full]
         hypothesis `hfit` only (necessary: `Ex7.C04_list_growth_needs_template`); reuses `C15_never_exceeds`.

  Replica-set reconcile (through `reconcileErs_active_cases` / `reconcileErs_full` of EdsProofs/ReconcileErs.lean,
  and `ersCreates_item` of EdsProps/C04.lean for the creations of any role):

    3  `C04_active_serves_rest_sync`  clause `C04.active-serves-rest`                                  [full]
         every sync of the active role (owner + role only): each creation is for a creation candidate = a
         targeted (fit, non-canary) entry without pod; #creations ≤ min (#candidates) (budget).
       `C04_active_serves_rest_sync_partial` (+ `…_partial_pos`)               [partial: hyp ADDED `hcg`, `hok`]
         exact list / count `= min (#candidates) (budget)` unless frozen, `> 0` when a candidate exists, not
         frozen, budget positive.  "Not gated (LastFullSync), no early error" alone is not enough:
         `Ex7.C04_active_serves_rest_sync_needs_create_gate`, `Ex7.C04_active_serves_rest_sync_needs_ok`.
    4  `C10_api_resources_sync`  clauses `C10.api-resources` / `C18.only-valid-setting-applied`         [full]
         hypothesis: distinct container names in the template (the handler's guard `distinctNames`; necessary:
         `Ex7.C10_api_resources_needs_names`).  `C10_api_resources_clause`: the Boolean of the handler
         (`apiResourcesClause`) is `true` on the model's creations when node names are distinct.
    5  `C09_delete_bound_sync`  clause `C09.delete-bound`                                               [full]
    6  non-vacuity examples in `namespace Ex7`, all by `decide`.
-/
namespace Eds
open Spec.C15

/-- `keep` reads the template only through `fit` on the listed nodes. -/
theorem keep_congr_fit {t t' : Template} (c : Canary) {nodes : List Node}
    (h : ∀ n ∈ nodes, fit t n = fit t' n) (old new : List String) :
    keep t c nodes old new = keep t' c nodes old new := by
  have : validNode t c nodes = validNode t' c nodes := by
    funext x
    unfold validNode
    induction nodes with
    | nil => rfl
    | cons n rest ih =>
      simp only [List.any_cons]
      rw [h n List.mem_cons_self, ih (fun m hm => h m (List.mem_cons_of_mem n hm))]
  unfold keep
  rw [this]

theorem keep_self (t : Template) (c : Canary) (nodes : List Node) (old : List String) :
    keep t c nodes old old = true := by
  unfold keep
  simp only [Bool.or_eq_true, beq_iff_eq]
  left
  apply List.filter_congr
  intro x hx
  cases hv : validNode t c nodes x <;> simp [hv, hx]

/-- **`C15.keep(reconcile)`.**  When a reconcile of the ExtendedDaemonSet writes a status with a canary
block, the canary nodes selected earlier (`d.status.canary.nodes`, `[]` without a block) that are still
valid are kept, in order — also when the canary is re-targeted to another replica set (`cs.replicaSet`
is not constrained).

Hypotheses (both necessary, see the counterexamples below): node names are distinct (true of every list
the API server returns), and the template of the up-to-date replica set — the one the selection is run
with — agrees with `spec.template` on which listed nodes are fit (they are the same template whenever
the replica set was created from the current spec, `u.template = d.template`). -/
theorem C15_keep_reconcile (d : EDS) (all : List ERS) (pods : List Pod) (nodes : List Node) (now : Time)
    (mode : String) (st : EDSStatus) (cs : CanaryStatus) (c : Canary)
    (hst : (reconcileEds d all pods nodes now mode).statusUpdate = some st)
    (hcs : st.canary = some cs) (hc : d.strategy.canary = some c)
    (hnames : (nodes.map (·.name)).Nodup)
    (hfit : ∀ u, upToDateOf d (ownErs d all) = some u → ∀ n ∈ nodes, fit u.template n = fit d.template n) :
    Spec.C15.keep d.template c nodes
      (match d.status.canary with | some x => x.nodes | none => []) cs.nodes = true := by
  show keep d.template c nodes (canaryNodesOf d.status) cs.nodes = true
  obtain ⟨u, hu, h | ⟨c', sel, short, hc', hsel, h⟩⟩ := reconcileEds_canary_nodes d all pods nodes now mode st cs hst hcs
  · rw [h]; exact keep_self _ _ _ _
  · rw [hc] at hc'
    cases hc'
    rw [h, ← keep_congr_fit c (hfit u hu)]
    exact C15_keep hsel hnames

/-- the same with the hypothesis on the templates in its usual form. -/
theorem C15_keep_reconcile_same_template (d : EDS) (all : List ERS) (pods : List Pod) (nodes : List Node)
    (now : Time) (mode : String) (st : EDSStatus) (cs : CanaryStatus) (c : Canary)
    (hst : (reconcileEds d all pods nodes now mode).statusUpdate = some st)
    (hcs : st.canary = some cs) (hc : d.strategy.canary = some c)
    (hnames : (nodes.map (·.name)).Nodup)
    (htpl : ∀ u, upToDateOf d (ownErs d all) = some u → u.template = d.template) :
    Spec.C15.keep d.template c nodes
      (match d.status.canary with | some x => x.nodes | none => []) cs.nodes = true :=
  C15_keep_reconcile d all pods nodes now mode st cs c hst hcs hc hnames
    (fun u hu n _ => by rw [htpl u hu])

theorem targetedCount_congr_fit {t t' : Template} {nodes : List Node}
    (h : ∀ n ∈ nodes, fit t n = fit t' n) : targetedCount t nodes = targetedCount t' nodes := by
  unfold targetedCount
  rw [List.filter_congr (fun n hn => h n hn)]

/-- **`C04.list-growth` / `C15.count-vs-targeted`.**  The canary node list a reconcile writes never exceeds
the larger of the previous length and the request resolved against the listed nodes fit for
`spec.template`.  (No condition on the node names; the templates must agree on fitness as in
`C15_keep_reconcile`, see `Ex7.C04_list_growth_needs_template`.) -/
theorem C04_list_growth_reconcile (d : EDS) (all : List ERS) (pods : List Pod) (nodes : List Node) (now : Time)
    (mode : String) (st : EDSStatus) (cs : CanaryStatus) (c : Canary) (k : Int)
    (hst : (reconcileEds d all pods nodes now mode).statusUpdate = some st)
    (hcs : st.canary = some cs) (hc : d.strategy.canary = some c)
    (hfit : ∀ u, upToDateOf d (ownErs d all) = some u → ∀ n ∈ nodes, fit u.template n = fit d.template n)
    (hk : resolveIntOrPercent c.replicas ((nodes.filter (fit d.template)).length : Int) = some k) :
    (cs.nodes.length : Int) ≤
      max k ((match d.status.canary with | some x => x.nodes | none => [] : List String).length : Int) := by
  show (cs.nodes.length : Int) ≤ max k ((canaryNodesOf d.status).length : Int)
  obtain ⟨u, hu, h | ⟨c', sel, short, hc', hsel, h⟩⟩ := reconcileEds_canary_nodes d all pods nodes now mode st cs hst hcs
  · rw [h]; omega
  · rw [hc] at hc'
    cases hc'
    rw [h]
    have hk' : requested c (targetedCount u.template nodes) = some k := by
      rw [targetedCount_congr_fit (hfit u hu)]; exact hk
    exact (C15_never_exceeds hsel hk').2.2

/-! ### Non-vacuity and counterexamples for 1 and 2 (fixtures of `EdsProofs/ReconcileEds.lean`, nodes of
`EdsProps/C15.lean`): daemonset `ns/ds` on template hash `h2`, active replica set `ds-a` (hash `h1`), up-to-date
replica set `ds-b` (hash `h2`, a canary in progress), clock at one minute. -/
namespace Ex7
open ExReconcile

/-- a defaulted strategy whose canary asks for `r` replicas. -/
def strat (r : IntOrStr) : Strategy :=
  (defaultSpec { rollingUpdate := ⟨none, none, none, none, none⟩,
                 canary := some { replicas := some r, duration := none, nodeSelector := none,
                                  antiAffinityKeys := [], autoPause := none, autoFail := none,
                                  noRestartsDuration := none, validationMode := "" },
                 reconcileFrequency := none } "auto").1

def canaryOf (r : IntOrStr) : Canary := ((strat r).canary.getD default)

/-- the daemonset in the middle of a canary of replica set `crs` on the nodes `old`. -/
def edsC (r : IntOrStr) (crs : String) (old : List String) (t : Template := tpl) : EDS :=
  { eds "h2" [] (status "ds-a" (some ⟨crs, old⟩)) with strategy := strat r, template := t }

def store (t : Template := tpl) : List ERS := [rs "ds-a" "h1" 3 [], { rs "ds-b" "h2" 1 [] with template := t }]

/-- a template that only fits nodes labelled `pool=x`. -/
def tplPool : Template := { tpl with nodeSelector := [⟨"pool", "x"⟩] }

/-- three requested, previous selection `n3` (now tainted) and `n1`: the reconcile writes `n1` (kept), `n2`,
`n4` (added).  Every hypothesis of `C15_keep_reconcile` / `C04_list_growth_reconcile` holds. -/
example :
    ((reconcileEds (edsC ⟨"int", 3⟩ "ds-b" ["n3", "n1"]) store [] exNodes15 minute "auto").statusUpdate.map
      (·.canary)) = some (some ⟨"ds-b", ["n1", "n2", "n4"]⟩) ∧
    (edsC ⟨"int", 3⟩ "ds-b" ["n3", "n1"]).strategy.canary = some (canaryOf ⟨"int", 3⟩) ∧
    (exNodes15.map (·.name)).Nodup ∧
    (upToDateOf (edsC ⟨"int", 3⟩ "ds-b" ["n3", "n1"]) (ownErs (edsC ⟨"int", 3⟩ "ds-b" ["n3", "n1"]) store)).map
      (·.template) = some (edsC ⟨"int", 3⟩ "ds-b" ["n3", "n1"]).template ∧
    resolveIntOrPercent (canaryOf ⟨"int", 3⟩).replicas ((exNodes15.filter (fit tpl)).length : Int) = some 3 ∧
    keep tpl (canaryOf ⟨"int", 3⟩) exNodes15 ["n3", "n1"] ["n1", "n2", "n4"] = true ∧
    keep tpl (canaryOf ⟨"int", 3⟩) exNodes15 ["n3", "n1"] ["n2", "n4"] = false := by decide +kernel

/-- the canary is re-targeted (the previous block names another replica set, `ds-0`): the block written names
`ds-b` and the still valid node `n1` is kept. -/
example :
    ((reconcileEds (edsC ⟨"int", 3⟩ "ds-0" ["n3", "n1"]) store [] exNodes15 minute "auto").statusUpdate.map
      (·.canary)) = some (some ⟨"ds-b", ["n1", "n2", "n4"]⟩) := by decide +kernel

/-- "50%" of the 3 fit nodes is 2; the previous list of 3 shrinks to its 2 still valid names and stays within
`max 2 3`. -/
example :
    ((reconcileEds (edsC ⟨"pct", 50⟩ "ds-b" ["n3", "n1", "n2"]) store [] exNodes15 minute "auto").statusUpdate.map
      (·.canary)) = some (some ⟨"ds-b", ["n1", "n2"]⟩) ∧
    resolveIntOrPercent (canaryOf ⟨"pct", 50⟩).replicas ((exNodes15.filter (fit tpl)).length : Int) = some 2 := by
  decide +kernel

def nodesDup : List Node := [exNode15 "a", exNode15 "a" [] [exTaint15], exNode15 "b"]

/-- **`hnames` cannot be dropped from `C15_keep_reconcile`**: a fit and a tainted node both named `a`; the name
`a` is still valid for the specification, yet the reconcile drops it.  Every other hypothesis holds. -/
theorem C15_keep_reconcile_needs_names :
    ((reconcileEds (edsC ⟨"int", 1⟩ "ds-b" ["a", "b"]) store [] nodesDup minute "auto").statusUpdate.map
      (·.canary)) = some (some ⟨"ds-b", ["b"]⟩) ∧
    (edsC ⟨"int", 1⟩ "ds-b" ["a", "b"]).strategy.canary = some (canaryOf ⟨"int", 1⟩) ∧
    (upToDateOf (edsC ⟨"int", 1⟩ "ds-b" ["a", "b"]) (ownErs (edsC ⟨"int", 1⟩ "ds-b" ["a", "b"]) store)).map
      (·.template) = some (edsC ⟨"int", 1⟩ "ds-b" ["a", "b"]).template ∧
    ¬ (nodesDup.map (·.name)).Nodup ∧
    keep tpl (canaryOf ⟨"int", 1⟩) nodesDup ["a", "b"] ["b"] = false := by decide +kernel

def nodesPool : List Node := [exNode15 "a", exNode15 "b" [⟨"pool", "x"⟩], exNode15 "c" [⟨"pool", "x"⟩]]

/-- **`hfit` cannot be dropped from `C15_keep_reconcile`**: the up-to-date replica set carries a template that
does not fit node `a`, `spec.template` fits it; `a` is dropped.  Node names are distinct. -/
theorem C15_keep_reconcile_needs_template :
    ((reconcileEds (edsC ⟨"int", 2⟩ "ds-b" ["a"]) (store tplPool) [] nodesPool minute "auto").statusUpdate.map
      (·.canary)) = some (some ⟨"ds-b", ["b", "c"]⟩) ∧
    (edsC ⟨"int", 2⟩ "ds-b" ["a"]).strategy.canary = some (canaryOf ⟨"int", 2⟩) ∧
    (nodesPool.map (·.name)).Nodup ∧
    (upToDateOf (edsC ⟨"int", 2⟩ "ds-b" ["a"]) (ownErs (edsC ⟨"int", 2⟩ "ds-b" ["a"]) (store tplPool))).map
      (·.template) = some tplPool ∧
    (edsC ⟨"int", 2⟩ "ds-b" ["a"]).template = tpl ∧
    keep tpl (canaryOf ⟨"int", 2⟩) nodesPool ["a"] ["b", "c"] = false := by decide +kernel

/-- **`hfit` cannot be dropped from `C04_list_growth_reconcile`**: `spec.template` fits the two `pool=x` nodes
("50%" of them is 1), the template of the up-to-date replica set fits all three ("50%" is 2): two nodes are
selected from an empty list. -/
theorem C04_list_growth_needs_template :
    ((reconcileEds (edsC ⟨"pct", 50⟩ "ds-b" [] tplPool) store [] nodesPool minute "auto").statusUpdate.map
      (·.canary)) = some (some ⟨"ds-b", ["a", "b"]⟩) ∧
    (edsC ⟨"pct", 50⟩ "ds-b" [] tplPool).strategy.canary = some (canaryOf ⟨"pct", 50⟩) ∧
    resolveIntOrPercent (canaryOf ⟨"pct", 50⟩).replicas ((nodesPool.filter (fit tplPool)).length : Int) = some 1 ∧
    ¬ ((["a", "b"] : List String).length : Int) ≤ max 1 (([] : List String).length : Int) := by decide +kernel

end Ex7

theorem chooseSetting_none (edsName : String) (settings : List Setting) (n : Node)
    (h : chooseSetting edsName settings n = some none) :
    ∀ s ∈ settings, s.reference = some edsName → s.status = "valid" → settingMatches s n.labels ≠ some true := by
  intro s hs href hv
  unfold chooseSetting at h
  exact chooseSetting_go_none n h s (List.mem_filter.mpr ⟨hs, by simp [href]⟩) hv

section Ers
variable (rs : ERS) (st : ErsStore) (released : String → Bool) (aff : Bool) (now : Time) (d : EDS)

/-- what the model attaches to a node: a valid setting of the ExtendedDaemonSet's namespace that references
it and matches the node — or nothing, and then no such setting exists. -/
def SettingApplies (d : EDS) (st : ErsStore) (n : Node) : Option Setting → Prop
  | some s => s ∈ st.settings ∧ s.ns = d.ns ∧ s.reference = some d.name ∧ s.status = "valid" ∧
              settingMatches s n.labels = some true
  | none => ∀ s ∈ st.settings, s.ns = d.ns → s.reference = some d.name → s.status = "valid" →
              settingMatches s n.labels ≠ some true

/-- **`C10.api-resources` / `C18.only-valid-setting-applied`.**  Every pod the sync creates (any role, any
outcome) is created for a stored node `n` of that name with the setting `s` the model attached to it:
its container resources are resolved as `Spec.C10.resources` demands (well-formed node override, else the
setting, else the template), and `s` is a valid setting of the ExtendedDaemonSet's namespace referencing it
and matching the node — or `none`, when no such setting exists.

`hT` (distinct container names in the template — the guard `distinctNames` of the handler) is needed as
soon as a setting is attached (`Ex7.C10_api_resources_needs_names`). -/
theorem C10_api_resources_sync (h : ersOwner rs st = some d)
    (hT : (rs.template.containers.map (·.name)).Nodup) :
    ∀ x ∈ (reconcileErs rs st released aff now).creates,
      ∃ (n : Node) (s : Option Setting), n ∈ st.nodes ∧ n.name = x.1 ∧
        x.2 = (createPod rs (some n) s aff).pod ∧
        Spec.C10.resources x.2 rs.template n s = true ∧ SettingApplies d st n s := by
  intro x hx
  obtain ⟨items, ni, hi, hni, rfl, -, -⟩ := ersCreates_item rs st released aff now d h x hx
  have hnode := ersNodeItems_mem d rs st items hi ni hni
  have hch := (ersNodeItems_some hi).2 ni hni
  refine ⟨ni.node, ni.setting, hnode, rfl, rfl, C10_resources rs ni.node ni.setting aff (fun _ => hT), ?_⟩
  cases hs : ni.setting with
  | none =>
    rw [hs] at hch
    intro s hs' hns href hv
    exact chooseSetting_none d.name _ ni.node hch s (List.mem_filter.mpr ⟨hs', by simp [hns]⟩) href hv
  | some s =>
    rw [hs] at hch
    obtain ⟨hv, href, hm, hmem⟩ := C18_only_valid_used d.name _ ni.node s hch
    rw [List.mem_filter] at hmem
    exact ⟨hmem.1, by simpa using hmem.2, href, hv, hm⟩

/-- the clause exactly as `hErsReconcile` evaluates it (`C10.api-resources` and
`C18.only-valid-setting-applied` are the same Boolean), on a list of creations `(node name, pod)`. -/
def apiResourcesClause (d : EDS) (rs : ERS) (nodes : List Node) (settings : List Setting)
    (creates : List (String × Pod)) : Bool :=
  creates.all (fun c =>
    match nodes.find? (fun n => n.name == c.1) with
    | none => true
    | some n =>
      let applicable := settings.filter (fun s => s.ns == d.ns && s.reference == some d.name &&
                          s.status == "valid" && settingMatches s n.labels == some true)
      if applicable.isEmpty then Spec.C10.resources c.2 rs.template n none
      else applicable.any (fun s => Spec.C10.resources c.2 rs.template n (some s)))

theorem find?_name_of_nodup {nodes : List Node} (hnd : (nodes.map (·.name)).Nodup) {n : Node} (hn : n ∈ nodes) :
    nodes.find? (fun m => m.name == n.name) = some n := by
  cases hf : nodes.find? (fun m => m.name == n.name) with
  | none => exact absurd (beq_self_eq_true _) (List.find?_eq_none.mp hf n hn)
  | some m =>
    rw [eq_of_nodup_map _ hnd (List.mem_of_find?_eq_some hf) hn (by simpa using List.find?_some hf)]

/-- **The model satisfies the clause**: with distinct node names in the store and distinct container names
in the template, the Boolean the handler computes is `true` on the model's own creations. -/
theorem C10_api_resources_clause (h : ersOwner rs st = some d)
    (hT : (rs.template.containers.map (·.name)).Nodup) (hnodes : (st.nodes.map (·.name)).Nodup) :
    apiResourcesClause d rs st.nodes st.settings (reconcileErs rs st released aff now).creates = true := by
  unfold apiResourcesClause
  rw [List.all_eq_true]
  intro x hx
  obtain ⟨n, s, hn, hname, -, hres, happ⟩ := C10_api_resources_sync rs st released aff now d h hT x hx
  rw [← hname, find?_name_of_nodup hnodes hn]
  simp only []
  -- the handler's filter selects exactly the settings `SettingApplies` speaks of
  have hiff : ∀ s', s' ∈ st.settings.filter (fun s => s.ns == d.ns && s.reference == some d.name &&
      s.status == "valid" && settingMatches s n.labels == some true) ↔
      s' ∈ st.settings ∧ s'.ns = d.ns ∧ s'.reference = some d.name ∧ s'.status = "valid" ∧
        settingMatches s' n.labels = some true := by
    intro s'
    simp only [List.mem_filter, Bool.and_eq_true, beq_iff_eq, and_assoc]
  generalize st.settings.filter _ = applicable at hiff ⊢
  cases s with
  | none =>
    have : applicable = [] := List.eq_nil_iff_forall_not_mem.2 fun s' hs' =>
      have ⟨h1, h2, h3, h4, h5⟩ := (hiff s').1 hs'
      happ s' h1 h2 h3 h4 h5
    rw [this]
    exact hres
  | some s =>
    have hmem : s ∈ applicable := (hiff s).2 happ
    cases applicable with
    | nil => cases hmem
    | cons _ _ => exact List.any_eq_true.2 ⟨s, hmem, hres⟩

/-- **`C09.delete-bound`, whole sync.**  In the active role, whatever the outcome of the sync, the number of
pods deleted for updating is at most `max 0 maxUnavailable`, the percentage being resolved against the
number of entries the rolling update worked on (`entries`: the targeted, non-canary nodes; `mu` is the `mu`
of `C03_cap`).  When `maxUnavailable` does not resolve nothing is deleted for updating. -/
theorem C09_delete_bound_sync (h : ersOwner rs st = some d) (hr : ersRole d rs.name = "active") :
    (∀ mu, resolveIntOrPercent d.strategy.rollingUpdate.maxUnavailable
        ((reconcileErs rs st released aff now).entries.length : Int) = some mu →
      ((reconcileErs rs st released aff now).deletes.length : Int) ≤ max 0 mu) ∧
    (resolveIntOrPercent d.strategy.rollingUpdate.maxUnavailable
        ((reconcileErs rs st released aff now).entries.length : Int) = none →
      (reconcileErs rs st released aff now).deletes = []) := by
  rcases reconcileErs_active_cases rs st released aff now d h hr with
    hno | ⟨items, r, adds, removes, se, st0, F, hm⟩
  · refine ⟨fun mu _ => ?_, fun _ => hno.2.2.2.1⟩
    rw [hno.2.2.2.1]; simp only [List.length_nil]; omega
  · rw [F.eq, hr, ersFinish_entries_active]
    obtain ⟨mu', hmu', hcap⟩ := C03_cap _ now now false r hm
    have hstr : (ersParams released d rs items (ersPods d st) now).strategy = d.strategy := rfl
    rw [hstr] at hmu'
    have hlen : ((ersFinish rs "active" (ersFreq d) (ersParams released d rs items (ersPods d st) now) r adds
        removes se st0 aff now).deletes.length : Int) ≤ (r.deleteE.length : Int) := by
      obtain ⟨b, hb⟩ := ersFinish_deletes_eq rs "active" (ersFreq d)
        (ersParams released d rs items (ersPods d st) now) r adds removes se st0 aff now
      rw [hb]
      cases b <;> simp
    constructor
    · intro mu hmu
      have : mu' = mu := Option.some.inj (hmu'.symm.trans hmu)
      omega
    · intro hnone
      rw [hnone] at hmu'
      cases hmu'

end Ers

/-- the creations of the plan: none while frozen, else the first `maxCreation` entries without pod
(`Int.toNat` clamps a negative budget to 0; `take` caps at the number of candidates).  The kernel's other
bound, `nbNodes − nbPods`, never binds: it is at least the number of candidates. -/
theorem rollingPlan_create_take (tg : String) (wall : Time) (es : List (NodeItem × Option Pod))
    (ms mu mc : Int) (paused frozen : Bool) :
    (rollingPlan (countAll tg wall es) (es.length : Int) ms mu mc paused frozen).1 =
      if frozen then [] else (noneNodes es).take mc.toNat := by
  have hge : ((noneNodes es).length : Int) ≤ es.length - (countAll tg wall es).allPods := by
    have inv := countAll_inv tg wall es
    have hd := inv.desired
    have hcl := inv.createLen
    have hst := inv.stuck
    unfold Spec.C03.nStuck at hst
    rw [countAll_toCreate] at hcl
    omega
  unfold rollingPlan
  simp only [calcLimits, countAll_toCreate]
  cases frozen with
  | true => rfl
  | false =>
    simp only [Bool.not_false, if_true, Bool.false_eq_true, if_false]
    rw [List.take_eq_take_iff]
    generalize (es.length : Int) - (countAll tg wall es).allPods = a at hge ⊢
    omega

/-- the PodCreation gate of `Reconcile`, read from the *stored* status: a creation was stamped less than
the reconcile frequency ago. -/
def ersCreateGated (d : EDS) (rs : ERS) (now : Time) : Bool :=
  match findCond rs.status.conds "PodCreation" with
  | some c => decide (now - c.lastUpdate < ersFreq d)
  | none => false

theorem ersFinish_createCands_active (rs : ERS) (freq : Dur) (sp : StratParams) (r : StratResult)
    (adds removes : List String) (se : Bool) (st0 : ERSStatus) (aff : Bool) (now : Time) :
    (ersFinish rs "active" freq sp r adds removes se st0 aff now).createCands = noneNodes (targeted sp) := by
  unfold ersFinish
  simp only [beq_self_eq_true, if_true]
  exact countAll_toCreate _ _ _

theorem manageDeployment_create_take (p : StratParams) (now : Time) (r : StratResult)
    (h : manageDeployment p now now false = .ok r) (mc : Int)
    (hmc : calculateMaxCreation p.strategy.rollingUpdate.slowStartAdditiveIncrease
      p.strategy.rollingUpdate.slowStartInterval p.strategy.rollingUpdate.maxParallelPodCreation
      (targeted p).length (rollingUpdateStartTime p.ers.status now) now = .ok mc) :
    r.createE = if isRolloutFrozen p.edsAnnotations then [] else (noneNodes (targeted p)).take mc.toNat := by
  obtain ⟨ms, mu, mc', -, -, hmc', hc, -⟩ := manageDeployment_plan p now now false r h
  cases hmc'.symm.trans hmc
  rw [hc, rollingPlan_create_take]

section Ers3
variable (rs : ERS) (st : ErsStore) (released : String → Bool) (aff : Bool) (now : Time) (d : EDS)

/-- **`C04.active-serves-rest`, whole sync — what holds of every sync** (only the owner and the active role
are assumed; not defaulted, gated, early-error, parse-error, frozen, creation-gated syncs included).
With `entries` the per-node entries the rolling update worked on and `createCands` its creation candidates:

* every creation is for a candidate: an entry without pod among `entries`, whose node is fit for
  the template and is not a canary node (`ersCanaryNodes d = d.status.canary.nodes`);
* the number of creations never exceeds `min (#candidates) (creation budget)`, the budget being
  `calculateMaxCreation` on the number of entries (`Int.toNat` clamps a negative budget to 0).

The exact count (`= min …`, `> 0`) needs more than "not gated, no early error": see
`C04_active_serves_rest_sync_partial`. -/
theorem C04_active_serves_rest_sync (h : ersOwner rs st = some d) (hr : ersRole d rs.name = "active") :
    (∀ x ∈ (reconcileErs rs st released aff now).creates,
      ∃ ni, ni ∈ (reconcileErs rs st released aff now).createCands ∧
        (ni, none) ∈ (reconcileErs rs st released aff now).entries ∧
        x = (ni.node.name, (createPod rs (some ni.node) ni.setting aff).pod) ∧
        fit rs.template ni.node = true ∧ ni.node.name ∉ ersCanaryNodes d) ∧
    (∀ mc, calculateMaxCreation d.strategy.rollingUpdate.slowStartAdditiveIncrease
        d.strategy.rollingUpdate.slowStartInterval d.strategy.rollingUpdate.maxParallelPodCreation
        ((reconcileErs rs st released aff now).entries.length : Int)
        (rollingUpdateStartTime rs.status now) now = .ok mc →
      (reconcileErs rs st released aff now).creates.length ≤
        min (reconcileErs rs st released aff now).createCands.length mc.toNat) := by
  rcases reconcileErs_active_cases rs st released aff now d h hr with
    hno | ⟨items, r, adds, removes, se, st0, F, hm⟩
  · refine ⟨fun x hx => (mem_nil_elim hno.2.2.2.2 hx).elim, fun mc _ => ?_⟩
    rw [hno.2.2.2.2]; simp
  · rw [F.eq, hr, ersFinish_entries_active, ersFinish_createCands_active]
    constructor
    · intro x hx
      obtain ⟨ni, hni, rfl⟩ := ersFinish_creates_sub _ _ _ _ _ _ _ _ _ _ _ x hx
      have hmem := C01_create_only_empty _ now now false r hm ni hni
      obtain ⟨-, hfit, hnc⟩ := (C04_active_serves_rest rs released now d items (ersPods d st) ni).mp
        (List.mem_map.mpr ⟨_, hmem, rfl⟩)
      exact ⟨ni, mem_noneNodes.mpr hmem, hmem, rfl, hfit, hnc⟩
    · intro mc hmc
      have hlen : r.createE.length ≤
          min (noneNodes (targeted (ersParams released d rs items (ersPods d st) now))).length mc.toNat := by
        rw [manageDeployment_create_take _ now r hm mc hmc]
        split
        · simp
        · rw [List.length_take]; omega
      obtain ⟨b, hb⟩ := ersFinish_creates_eq rs "active" (ersFreq d)
        (ersParams released d rs items (ersPods d st) now) r adds removes se st0 aff now
      rw [hb]
      cases b
      · simpa using hlen
      · simp

/-- **`C04.active-serves-rest`, whole sync — the exact count** [hyp ADDED: `hcg`, `hok`].  Active role, owner
defaulted, sync not gated (neither by LastFullSync nor — `hcg` — by the PodCreation stamp), no early error,
rolling-update parameters that parse (`hok`), creation budget `mc` (`calculateMaxCreation` on the number of
targeted nodes).  The statement with only "not gated by LastFullSync, no early error" is FALSE
(`Ex7.C04_active_serves_rest_sync_needs_create_gate`, `Ex7.C04_active_serves_rest_sync_needs_ok`).  With `cands` the
creation candidates of the sync:

* `cands` are exactly the entries without pod among the targeted entries, and every targeted entry is an
  item of the node listing, fit for the template, whose node is not a canary node
  (`ersCanaryNodes d = d.status.canary.nodes`);
* the sync creates nothing when the rollout is frozen, and otherwise exactly the pods of the first
  `mc.toNat` candidates: `min (#candidates) (max 0 mc)` pods. -/
theorem C04_active_serves_rest_sync_partial (h : ersOwner rs st = some d) (hr : ersRole d rs.name = "active")
    (hd : isDefaulted d.strategy d.templateName = true) (hg : ersGated d rs now = false)
    (he : (reconcileErs rs st released aff now).earlyErr = false)
    (hcg : ersCreateGated d rs now = false)
    (hok : ∀ items, ersNodeItems d rs st = some items →
      ∀ msg, manageDeployment (ersParams released d rs items (ersPods d st) now) now now false ≠ .err msg)
    (mc : Int)
    (hmc : calculateMaxCreation d.strategy.rollingUpdate.slowStartAdditiveIncrease
        d.strategy.rollingUpdate.slowStartInterval d.strategy.rollingUpdate.maxParallelPodCreation
        ((reconcileErs rs st released aff now).entries.length : Int)
        (rollingUpdateStartTime rs.status now) now = .ok mc) :
    ∃ items, ersNodeItems d rs st = some items ∧
      (∀ ni, ni ∈ (reconcileErs rs st released aff now).createCands ↔
        (ni, none) ∈ (reconcileErs rs st released aff now).entries) ∧
      (∀ e ∈ (reconcileErs rs st released aff now).entries,
        e.1 ∈ items ∧ fit rs.template e.1.node = true ∧ e.1.node.name ∉ ersCanaryNodes d) ∧
      (reconcileErs rs st released aff now).creates =
        (if isRolloutFrozen d.annotations then []
         else ((reconcileErs rs st released aff now).createCands.take mc.toNat).map
           (fun ni => (ni.node.name, (createPod rs (some ni.node) ni.setting aff).pod))) := by
  obtain ⟨items, r, adds, removes, se, st0, F⟩ := reconcileErs_full rs st released aff now d h hd hg he
  rcases F.active hr with ⟨hm, -⟩ | ⟨⟨msg, hmsg⟩, -⟩
  case inr => exact absurd hmsg (hok items F.hitems msg)
  rw [F.eq, hr] at hmc ⊢
  rw [ersFinish_entries_active] at hmc ⊢
  rw [ersFinish_createCands_active]
  refine ⟨items, F.hitems, fun ni => mem_noneNodes, ?_, ?_⟩
  · intro e he'
    have := (C04_active_serves_rest rs released now d items (ersPods d st) e.1).mp (List.mem_map.mpr ⟨e, he', rfl⟩)
    exact this
  · -- the gate reads the stored PodCreation condition
    have hfc : findCond st0.conds "PodCreation" = findCond rs.status.conds "PodCreation" := by
      rw [manageDeployment_findCond _ now now false r st0 hm F.status "PodCreation" (by decide) (by decide)
        (by decide) (by decide)]
      exact preConds_findCond _ _ _ _ (by decide) (by decide) (by decide) (by decide)
    have hgate : condGate st0.conds "PodCreation" (ersFreq d) now = false := by
      unfold condGate; rw [hfc]; exact hcg
    rw [(ersFinish_gates _ _ _ _ _ _ _ _ _ _ _).2, hgate]
    simp only [Bool.false_eq_true, if_false]
    rw [manageDeployment_create_take _ now r hm mc hmc]
    have hann : (ersParams released d rs items (ersPods d st) now).edsAnnotations = d.annotations := rfl
    rw [hann]
    cases isRolloutFrozen d.annotations <;> rfl

/-- **… with a canary in progress**: every creation is on a targeted entry without pod — an item of the node
listing, fit, outside `cs.nodes` — their number is `min (#candidates) (budget)` unless frozen, and it is
positive as soon as a candidate exists, the rollout is not frozen and the budget is positive. -/
theorem C04_active_serves_rest_sync_partial_pos (h : ersOwner rs st = some d) (hr : ersRole d rs.name = "active")
    (cs : CanaryStatus) (hc : d.status.canary = some cs)
    (hd : isDefaulted d.strategy d.templateName = true) (hg : ersGated d rs now = false)
    (he : (reconcileErs rs st released aff now).earlyErr = false)
    (hcg : ersCreateGated d rs now = false)
    (hok : ∀ items, ersNodeItems d rs st = some items →
      ∀ msg, manageDeployment (ersParams released d rs items (ersPods d st) now) now now false ≠ .err msg)
    (mc : Int)
    (hmc : calculateMaxCreation d.strategy.rollingUpdate.slowStartAdditiveIncrease
        d.strategy.rollingUpdate.slowStartInterval d.strategy.rollingUpdate.maxParallelPodCreation
        ((reconcileErs rs st released aff now).entries.length : Int)
        (rollingUpdateStartTime rs.status now) now = .ok mc) :
    (∀ x ∈ (reconcileErs rs st released aff now).creates,
      ∃ ni, (ni, none) ∈ (reconcileErs rs st released aff now).entries ∧
        x = (ni.node.name, (createPod rs (some ni.node) ni.setting aff).pod) ∧
        fit rs.template ni.node = true ∧ ni.node.name ∉ cs.nodes) ∧
    (reconcileErs rs st released aff now).creates.length =
      (if isRolloutFrozen d.annotations then 0
       else min (reconcileErs rs st released aff now).createCands.length mc.toNat) ∧
    ((reconcileErs rs st released aff now).createCands ≠ [] → isRolloutFrozen d.annotations = false → 0 < mc →
      0 < (reconcileErs rs st released aff now).creates.length) := by
  obtain ⟨items, -, hcands, hent, hcre⟩ :=
    C04_active_serves_rest_sync_partial rs st released aff now d h hr hd hg he hcg hok mc hmc
  have hcn := ersCanaryNodes_some d hc
  have hlen : (reconcileErs rs st released aff now).creates.length =
      (if isRolloutFrozen d.annotations then 0
       else min (reconcileErs rs st released aff now).createCands.length mc.toNat) := by
    rw [hcre]
    cases isRolloutFrozen d.annotations with
    | true => rfl
    | false =>
      simp only [Bool.false_eq_true, if_false, List.length_map, List.length_take]
      omega
  refine ⟨?_, hlen, ?_⟩
  · intro x hx
    rw [hcre] at hx
    cases hfr : isRolloutFrozen d.annotations with
    | true => rw [hfr] at hx; cases hx
    | false =>
      rw [hfr] at hx
      simp only [Bool.false_eq_true, if_false] at hx
      obtain ⟨ni, hni, rfl⟩ := List.mem_map.mp hx
      have hmem := (hcands ni).mp (List.mem_of_mem_take hni)
      obtain ⟨-, hfit, hnc⟩ := hent _ hmem
      rw [hcn] at hnc
      exact ⟨ni, hmem, rfl, hfit, hnc⟩
  · intro hne hfr hpos
    rw [hlen, hfr]
    simp only [Bool.false_eq_true, if_false]
    have : 0 < (reconcileErs rs st released aff now).createCands.length := List.length_pos_iff.mpr hne
    omega

end Ers3

/-! ### Non-vacuity and counterexamples for 3, 4, 5 (store of `EdsProps/C04.lean`: EDS `d`, defaulted, reconcile
frequency 10 s, active replica set `d-old`, canary `d-new` on `n1`) -/
namespace Ex7

/-- four nodes; the canary node is `n1`; slow start adds `inc` pods per interval. -/
def eds7 (inc : Int) (ann : SMap := []) : EDS :=
  { exEds04 with
    annotations := ann,
    strategy := { exStrategy04 with
      rollingUpdate := { (exStrategy04).rollingUpdate with slowStartAdditiveIncrease := some ⟨"int", inc⟩ } } }

def store7 (inc : Int) (pods : List Pod := []) (ann : SMap := []) (settings : List Setting := []) : ErsStore :=
  { edss := [eds7 inc ann],
    nodes := [(exNode01 "n1").node, (exNode01 "n2").node, (exNode01 "n3").node, (exNode01 "n4").node],
    pods := pods, settings := settings, daemonsets := [] }

def okB {α} : Outcome α → Bool
  | .ok _ => true
  | _ => false

/-- **3.** the hypotheses of `C04_active_serves_rest_sync_partial(_pos)` hold: three targeted nodes without pod
(`n2`, `n3`, `n4`; `n1` is the canary node), budget 2: exactly `min 3 2 = 2` pods are created, on `n2`, `n3`. -/
example :
    ersOwner (exErs04 "d-old" "old") (store7 2) = some (eds7 2) ∧
    ersRole (eds7 2) (exErs04 "d-old" "old").name = "active" ∧
    (eds7 2).status.canary = some ⟨"d-new", ["n1"]⟩ ∧
    isDefaulted (eds7 2).strategy (eds7 2).templateName = true ∧
    ersGated (eds7 2) (exErs04 "d-old" "old") 100 = false ∧
    (reconcileErs (exErs04 "d-old" "old") (store7 2) (fun _ => true) true 100).earlyErr = false ∧
    ersCreateGated (eds7 2) (exErs04 "d-old" "old") 100 = false ∧
    ((ersNodeItems (eds7 2) (exErs04 "d-old" "old") (store7 2)).map (fun items =>
      okB (manageDeployment (ersParams (fun _ => true) (eds7 2) (exErs04 "d-old" "old") items
        (ersPods (eds7 2) (store7 2)) 100) 100 100 false))) = some true ∧
    (reconcileErs (exErs04 "d-old" "old") (store7 2) (fun _ => true) true 100).entries.length = 3 ∧
    calculateMaxCreation (eds7 2).strategy.rollingUpdate.slowStartAdditiveIncrease
      (eds7 2).strategy.rollingUpdate.slowStartInterval (eds7 2).strategy.rollingUpdate.maxParallelPodCreation
      3 (rollingUpdateStartTime (exErs04 "d-old" "old").status 100) 100 = .ok 2 ∧
    (reconcileErs (exErs04 "d-old" "old") (store7 2) (fun _ => true) true 100).createCands.map (·.node.name)
      = ["n2", "n3", "n4"] ∧
    (reconcileErs (exErs04 "d-old" "old") (store7 2) (fun _ => true) true 100).creates.map (·.1) = ["n2", "n3"] := by
  decide +kernel

/-- a node that already runs a pod is not a candidate; a frozen rollout creates nothing. -/
example :
    (reconcileErs (exErs04 "d-old" "old") (store7 2 [exPod04 "old-2" "n2" "d-old" "old"]) (fun _ => true) true
      100).creates.map (·.1) = ["n3", "n4"] ∧
    (reconcileErs (exErs04 "d-old" "old") (store7 2 [] [⟨K.rolloutFrozenAnnot, "true"⟩]) (fun _ => true) true
      100).creates = [] := by decide +kernel

/-- **`hcg` cannot be dropped** (the statement without it is false): a creation was stamped 5 s ago, LastFullSync
is absent — the sync is not gated, not an early error, the parameters parse, three candidates exist and the
budget is 2, yet nothing is created. -/
theorem C04_active_serves_rest_sync_needs_create_gate :
    ersGated (eds7 2) (exErs04 "d-old" "old" [⟨"PodCreation", "True", 0, 6 * sec, "", ""⟩]) (11 * sec) = false ∧
    (reconcileErs (exErs04 "d-old" "old" [⟨"PodCreation", "True", 0, 6 * sec, "", ""⟩]) (store7 2) (fun _ => true)
      true (11 * sec)).earlyErr = false ∧
    ersCreateGated (eds7 2) (exErs04 "d-old" "old" [⟨"PodCreation", "True", 0, 6 * sec, "", ""⟩]) (11 * sec) = true ∧
    (reconcileErs (exErs04 "d-old" "old" [⟨"PodCreation", "True", 0, 6 * sec, "", ""⟩]) (store7 2) (fun _ => true)
      true (11 * sec)).createCands.map (·.node.name) = ["n2", "n3", "n4"] ∧
    (reconcileErs (exErs04 "d-old" "old" [⟨"PodCreation", "True", 0, 6 * sec, "", ""⟩]) (store7 2) (fun _ => true)
      true (11 * sec)).creates = [] := by decide +kernel

/-- **`hok` cannot be dropped**: `maxUnavailable` of a kind that does not parse (the strategy is still
"defaulted"); the sync is a full one without early error, and creates nothing. -/
def storeBad7 : ErsStore :=
  { store7 2 with
    edss := [{ eds7 2 with strategy := { (eds7 2).strategy with
      rollingUpdate := { (eds7 2).strategy.rollingUpdate with maxUnavailable := some ⟨"bad", 1⟩ } } }] }

theorem C04_active_serves_rest_sync_needs_ok :
    (reconcileErs (exErs04 "d-old" "old") storeBad7 (fun _ => true) true 100).earlyErr = false ∧
    (storeBad7.edss.map (fun d => isDefaulted d.strategy d.templateName)) = [true] ∧
    (reconcileErs (exErs04 "d-old" "old") storeBad7 (fun _ => true) true 100).createCands.map (·.node.name)
      = ["n2", "n3", "n4"] ∧
    (reconcileErs (exErs04 "d-old" "old") storeBad7 (fun _ => true) true 100).creates = [] := by decide +kernel

def mkC7 (nm : String) (cpu : String) : Container := { name := nm, res := { limits := [⟨"cpu", cpu⟩], requests := [] } }

/-- a setting of namespace `ns` referencing `ref`, selecting every node, with resources for container `agent`. -/
def setting7 (name ns ref status cpu : String) : Setting :=
  { name := name, ns := ns, creation := 0, reference := some ref,
    nodeSelector := { matchLabels := [], exprs := [] }, containers := [mkC7 "agent" cpu], status := status, error := "" }

def ers7 (cs : List Container) : ERS :=
  { exErs04 "d-old" "old" with template := { exTemplate01 with containers := cs } }

/-- settings in store order: invalid, other namespace, other daemonset, then the applicable one. -/
def settings7 : List Setting :=
  [setting7 "s-err" "ns" "d" "error" "1", setting7 "s-ns" "other" "d" "valid" "2",
   setting7 "s-ref" "ns" "e" "valid" "3", setting7 "s-ok" "ns" "d" "valid" "4"]

/-- **4.** hypotheses (owner, distinct container names, distinct node names) and conclusion: the created pods
carry the resources of the one applicable setting `s-ok`; the handler's clause holds, and fails on a pod
built with the invalid setting. -/
example :
    ersOwner (ers7 [mkC7 "agent" "0", mkC7 "trace" "0"]) (store7 2 [] [] settings7) = some (eds7 2) ∧
    ((ers7 [mkC7 "agent" "0", mkC7 "trace" "0"]).template.containers.map (·.name)).Nodup ∧
    ((store7 2 [] [] settings7).nodes.map (·.name)).Nodup ∧
    (reconcileErs (ers7 [mkC7 "agent" "0", mkC7 "trace" "0"]) (store7 2 [] [] settings7) (fun _ => true) true
      100).creates.map (fun x => (x.1, x.2.containers)) =
      [("n2", [mkC7 "agent" "4", mkC7 "trace" "0"]), ("n3", [mkC7 "agent" "4", mkC7 "trace" "0"])] ∧
    apiResourcesClause (eds7 2) (ers7 [mkC7 "agent" "0", mkC7 "trace" "0"]) (store7 2 [] [] settings7).nodes settings7
      (reconcileErs (ers7 [mkC7 "agent" "0", mkC7 "trace" "0"]) (store7 2 [] [] settings7) (fun _ => true) true
        100).creates = true ∧
    apiResourcesClause (eds7 2) (ers7 [mkC7 "agent" "0", mkC7 "trace" "0"]) (store7 2 [] [] settings7).nodes settings7
      [("n2", (createPod (ers7 [mkC7 "agent" "0", mkC7 "trace" "0"]) (some (exNode01 "n2").node)
        (some (setting7 "s-err" "ns" "d" "error" "1")) true).pod)] = false := by decide +kernel

/-- without any applicable setting the template's resources are used (`SettingApplies … none`). -/
example :
    (reconcileErs (ers7 [mkC7 "agent" "0"]) (store7 2 [] [] (settings7.take 3)) (fun _ => true) true
      100).creates.map (fun x => (x.1, x.2.containers)) = [("n2", [mkC7 "agent" "0"]), ("n3", [mkC7 "agent" "0"])] ∧
    apiResourcesClause (eds7 2) (ers7 [mkC7 "agent" "0"]) (store7 2 [] [] (settings7.take 3)).nodes (settings7.take 3)
      (reconcileErs (ers7 [mkC7 "agent" "0"]) (store7 2 [] [] (settings7.take 3)) (fun _ => true) true
        100).creates = true := by decide +kernel

/-- **`hT` cannot be dropped from `C10_api_resources_sync`**: two template containers named `agent`; only the
first receives the setting's resources, so the created pod does not satisfy `Spec.C10.resources` for the
attached setting (nor for no setting). -/
theorem C10_api_resources_needs_names :
    ersOwner (ers7 [mkC7 "agent" "0", mkC7 "agent" "0"]) (store7 2 [] [] settings7) = some (eds7 2) ∧
    (reconcileErs (ers7 [mkC7 "agent" "0", mkC7 "agent" "0"]) (store7 2 [] [] settings7) (fun _ => true) true
      100).creates.map (fun x => (x.1, x.2.containers)) =
      [("n2", [mkC7 "agent" "4", mkC7 "agent" "0"]), ("n3", [mkC7 "agent" "4", mkC7 "agent" "0"])] ∧
    apiResourcesClause (eds7 2) (ers7 [mkC7 "agent" "0", mkC7 "agent" "0"]) (store7 2 [] [] settings7).nodes settings7
      (reconcileErs (ers7 [mkC7 "agent" "0", mkC7 "agent" "0"]) (store7 2 [] [] settings7) (fun _ => true) true
        100).creates = false := by decide +kernel

def podsOld7 : List Pod :=
  [exPod04 "old-2" "n2" "d-old" "old", exPod04 "old-3" "n3" "d-old" "old", exPod04 "old-4" "n4" "d-old" "old"]

/-- **5.** active replica set of a newer generation, three outdated pods on the targeted nodes, `maxUnavailable`
1 (resolved against the 3 entries): exactly one pod is deleted for updating — the bound is attained. -/
example :
    ersOwner (exErs04 "d-old" "old2") (store7 2 podsOld7) = some (eds7 2) ∧
    ersRole (eds7 2) (exErs04 "d-old" "old2").name = "active" ∧
    resolveIntOrPercent (eds7 2).strategy.rollingUpdate.maxUnavailable
      ((reconcileErs (exErs04 "d-old" "old2") (store7 2 podsOld7) (fun _ => true) true 100).entries.length : Int)
      = some 1 ∧
    (reconcileErs (exErs04 "d-old" "old2") (store7 2 podsOld7) (fun _ => true) true 100).deleteCands
      = ["old-2", "old-3", "old-4"] ∧
    (reconcileErs (exErs04 "d-old" "old2") (store7 2 podsOld7) (fun _ => true) true 100).deletes = ["old-2"] := by
  decide +kernel

/-- when `maxUnavailable` does not parse nothing is deleted for updating. -/
example :
    resolveIntOrPercent (storeBad7.edss.map (·.strategy.rollingUpdate.maxUnavailable)).head!
      ((reconcileErs (exErs04 "d-old" "old2") { storeBad7 with pods := podsOld7 } (fun _ => true) true
        100).entries.length : Int) = none ∧
    (reconcileErs (exErs04 "d-old" "old2") { storeBad7 with pods := podsOld7 } (fun _ => true) true 100).deletes = [] := by
  decide +kernel

end Ex7

end Eds
