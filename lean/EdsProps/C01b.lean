import EdsProps.C04
/-
  C01b — C01 lifted to the whole sync and to the store: "at most one live daemon pod per node" is an
  invariant of the pod store under the writes of `reconcileErs`.

  Subject: `reconcileErs` (EdsModel/ReconcileErs.lean), through the creation summary `sync_creates`
  (EdsProps/C04.lean) and the per-strategy statements of EdsProps/C01.lean, C04.lean.

  Quantification: every replica set, store, back-off oracle `released`, affinity mode and instant; every
  role (active, canary, unknown); every outcome of the sync (owner not defaulted, LastFullSync gate,
  listing error, early error of ManageDeployment, creation / deletion gates): the only assumption on
  the sync is `ersOwner rs st = some d` (without owner nothing is written at all).

    1  `C01_sync_creates_nodup`                 [hyp `hn`: stored node names Nodup; `hc`: canary list Nodup]
       `C01_sync_creates_nodup_role`            — `hn` asked of the active role only, `hc` of the canary role only
    2  `C01_sync_creates_only_on_empty_nodes`   — no hypothesis: the listed pods attached to a node that gets
                                                  a creation are `Unknown`, or `Failed` on a released node
                                                  and deleted by the same sync's clean-up
       `C01_sync_creates_at_most_one_failed`    — no hypothesis: at most one of them is not `Unknown`
                                                  (scan invariant `ScanCountInv`)
    3  `livePodsOn`, `applyPodWrites` (graceful deletion), `applyPodWritesHard` (removal)
       `C01_sync_preserves_one_per_node` (+ `_role`, `_hard`)   [hyp `hn`, `hc`, `hne`: in node-name mode
                                                  stored nodes have a non-empty name] — all roles, full strength
       `C01_created_pod_live`, `C01_created_node_exactly_one`    — the bound is attained on created nodes
       `C01_syncs_preserve_one_per_node`        — any sequence of syncs, each reading the previous store
       `C01_concurrent_syncs_preserve_one_per_node` — two different replica sets syncing from one snapshot
       `onePerNode`, `onePerNode_iff`           — decidable form of the invariant
    4  non-vacuity (`exStore01b`) and one `decide`-checked counterexample per hypothesis (`hn`, `hc`, `hne`,
       and "different replica sets" for the concurrent version)

  What the model does not cover (and so this file does not prove):
  syncs working from a *stale* snapshot of their own earlier writes (informer lag) — the last two examples show
  that two syncs of the same replica set from the same snapshot do create twice, whereas the second sync reading the store left by the first
  creates nothing more; pods created by anything
  other than this controller; changes of the node list or of the EDS object between the syncs of a run.
  `livePodsOn` counts the pods selected by namespace + EDS-name label (`getPodList`); pods of the
  DaemonSet being migrated (`getOldDaemonsetPodList`) are listed by the controller and so block creations
  (item 2 above speaks about all of `ersPods`), but they are not counted by `livePodsOn`.
-/

namespace Eds

/-! ### A counting invariant of the pod scan (for item 2): a node without kept pod has at most one non-Unknown pod

Within one scan the back-off of a node is armed by the first released `Failed` pod; every later
non-`Unknown` pod of the node is attached.  Hence, for every key `e` of the scan state,
`#(non-Unknown pods of the prefix bound to e.1) = #attached + (1 if armed else 0)`. -/

/-- the listed pods bound to node `n` whose phase is not `Unknown`. -/
def nonUnknownOn (pods : List Pod) (n : String) : List Pod :=
  pods.filter (fun p => p.nodeOf == some n && p.phase != "Unknown")

theorem nonUnknownOn_snoc_hit (done : List Pod) (p : Pod) (n : String)
    (h1 : p.nodeOf = some n) (h2 : p.phase ≠ "Unknown") :
    (nonUnknownOn (done ++ [p]) n).length = (nonUnknownOn done n).length + 1 := by
  unfold nonUnknownOn
  have : (p.nodeOf == some n && p.phase != "Unknown") = true := by
    simp only [Bool.and_eq_true, beq_iff_eq, bne_iff_ne, ne_eq]
    exact ⟨h1, h2⟩
  simp only [List.filter_append, List.filter_cons, List.filter_nil, this, if_true, List.length_append,
    List.length_singleton]

theorem nonUnknownOn_snoc_miss (done : List Pod) (p : Pod) (n : String)
    (h : p.nodeOf ≠ some n ∨ p.phase = "Unknown") :
    nonUnknownOn (done ++ [p]) n = nonUnknownOn done n := by
  unfold nonUnknownOn
  have : (p.nodeOf == some n && p.phase != "Unknown") = false := by
    rcases h with h | h
    · have : (p.nodeOf == some n) = false := by simpa using h
      rw [this, Bool.false_and]
    · have : (p.phase != "Unknown") = false := by simpa using h
      rw [this, Bool.and_false]
  simp only [List.filter_append, List.filter_cons, List.filter_nil, this, Bool.false_eq_true, if_false,
    List.append_nil]

def ScanCountInv (done : List Pod) (st : ScanState) : Prop :=
  ∀ e ∈ st.attached,
    (nonUnknownOn done e.1).length = e.2.length + (if st.armed.contains e.1 then 1 else 0)

theorem scanCountInv_step (released : String → Bool) (ignore : List String) {done : List Pod} {st : ScanState}
    (h : ScanCountInv done st) (p : Pod) : ScanCountInv (done ++ [p]) (scanPod released ignore st p) := by
  -- the state is unchanged as far as `attached` / `armed` go and `p` does not count for any key
  have keep : ∀ st' : ScanState, st'.attached = st.attached → st'.armed = st.armed →
      (∀ e ∈ st.attached, p.nodeOf ≠ some e.1 ∨ p.phase = "Unknown") → ScanCountInv (done ++ [p]) st' := by
    intro st' ha hr hmiss e he
    rw [ha] at he
    rw [hr, nonUnknownOn_snoc_miss done p e.1 (hmiss e he)]
    exact h e he
  have hkey : ∀ e ∈ st.attached, e.1 ∈ st.attached.map (·.1) := fun e he => List.mem_map.mpr ⟨e, he, rfl⟩
  rcases scanPod_cases released ignore st p with ⟨heq, hskip⟩ | ⟨n, hn, hu, hcase⟩
  · rw [heq]
    refine keep st rfl rfl (fun e he => ?_)
    by_cases hu : p.phase = "Unknown"
    · exact Or.inr hu
    · exact Or.inl (fun hpn => (hskip e.1 hpn hu).1 (hkey e he))
  · -- `p` counts for the key `n` only
    have hother : ∀ e : String × List Pod, e.1 ≠ n → p.nodeOf ≠ some e.1 ∨ p.phase = "Unknown" :=
      fun e hen => Or.inl (fun hpn => hen (by rw [hn] at hpn; exact (Option.some.inj hpn).symm))
    rcases hcase with ⟨_, _, _, har, heq⟩ | ⟨_, heq⟩ | ⟨hk, _, _, heq⟩
    · -- a released Failed pod: deleted, the node is armed
      rw [heq]
      intro e he
      dsimp only at he ⊢
      rw [List.contains_cons]
      by_cases hen : e.1 = n
      · rw [nonUnknownOn_snoc_hit done p e.1 (hen ▸ hn) hu, h e he, hen, har, beq_self_eq_true]
        rfl
      · rw [nonUnknownOn_snoc_miss done p e.1 (hother e hen), h e he, beq_eq_false_iff_ne.mpr hen, Bool.false_or]
    · -- attached
      rw [heq]
      intro e' he'
      dsimp only at he' ⊢
      obtain ⟨e, he, h1, h2⟩ := mem_attach he'
      rcases h2 with ⟨hen, h2⟩ | ⟨hen, h2⟩
      · rw [h1, h2, nonUnknownOn_snoc_hit done p e.1 (hen ▸ hn) hu, h e he, List.length_append,
          List.length_singleton]
        omega
      · rw [h1, h2, nonUnknownOn_snoc_miss done p e.1 (hother e hen)]
        exact h e he
    · -- a stray pod: deleted
      rw [heq]
      exact keep _ rfl rfl (fun e he => hother e (fun hen => hk (hen ▸ hkey e he)))

theorem scanFinal_scanCountInv (released : String → Bool) (t : Template) (nodes : List NodeItem) (pods : List Pod)
    (ignore : List String) : ScanCountInv pods (scanFinal released t nodes pods ignore) :=
  foldl_prefix_inv (I := ScanCountInv)
    (fun e he => by
      obtain ⟨ni, _, rfl⟩ := List.mem_map.mp he
      rfl)
    (fun _ _ p h => scanCountInv_step released ignore h p) pods

/-- a key of the per-node map without kept pod has at most one listed non-`Unknown` pod bound to it
(the released `Failed` pod the scan put on the deletion list). -/
theorem kept_none_at_most_one (released : String → Bool) (t : Template) (nodes : List NodeItem) (pods : List Pod)
    (ignore : List String) (ni : NodeItem)
    (h : (ni, none) ∈ (filterAndMap released t nodes pods ignore).byNode) :
    (nonUnknownOn pods ni.node.name).length ≤ 1 := by
  have inv := scanFinal_inv released t nodes pods ignore
  obtain ⟨hc, hk⟩ := mem_filter_byNode h
  have hkey : ni.node.name ∈ (scanFinal released t nodes pods ignore).attached.map (·.1) := by
    rw [inv.keys]; exact List.mem_map.mpr ⟨ni, hc, rfl⟩
  obtain ⟨e, he, h1, h2⟩ := keptOf_none hkey hk
  have := scanFinal_scanCountInv released t nodes pods ignore e he
  rw [h1, h2] at this
  rw [this]
  simp only [List.length_nil, Nat.zero_add]
  split <;> omega

section Sync
variable (rs : ERS) (st : ErsStore) (released : String → Bool) (aff : Bool) (now : Time) (d : EDS)

/-- role-wise hypotheses: the active role needs distinct stored node names, the canary role a
duplicate-free `eds.status.canary.nodes`; the unknown role needs nothing (it creates nothing). -/
theorem C01_sync_creates_nodup_role (h : ersOwner rs st = some d)
    (hn : ersRole d rs.name = "active" → (st.nodes.map (·.name)).Nodup)
    (hc : ersRole d rs.name = "canary" → (ersCanaryNodes d).Nodup) :
    ((reconcileErs rs st released aff now).creates.map (·.1)).Nodup := by
  obtain ⟨items, cr, S⟩ := sync_creates rs st released aff now d h
  rw [S.eq, List.map_map]
  have : ((·.1) ∘ createdFor rs aff) = (fun ni : NodeItem => ni.node.name) := rfl
  rw [this]
  rcases S.role with h0 | hr | hr
  · rw [h0]; exact List.nodup_nil
  · rcases S.hitems with h0 | hi
    · rw [h0]; exact List.nodup_nil
    · exact S.nodupA hr (List.Nodup.sublist (ersNodeItems_names_sublist d rs st items hi) (hn hr))
  · exact S.nodupC hr (hc hr)

/-- **Part 1.**  The node names of the creations of one sync are pairwise distinct. -/
theorem C01_sync_creates_nodup (h : ersOwner rs st = some d)
    (hn : (st.nodes.map (·.name)).Nodup) (hc : (ersCanaryNodes d).Nodup) :
    ((reconcileErs rs st released aff now).creates.map (·.1)).Nodup :=
  C01_sync_creates_nodup_role rs st released aff now d h (fun _ => hn) (fun _ => hc)

/-- **Part 2.**  Which listed pods may be attached (`Pod.nodeOf`) to a node for which the sync
creates a pod:

  * pods in phase `Unknown` (any number of them; the controller never touches them), and
  * pods in phase `Failed`, and then only when the node is out of back-off (`released n = true`);
    such a pod is in the filter's deletion list, so — unless it is already terminating — it is deleted
    by the clean-up of the very same sync.  (`C01_sync_creates_at_most_one_failed` below: at most one
    listed non-`Unknown` pod is attached to such a node.)

Nothing else: no Pending (`""`), Running or Succeeded pod, terminating or not, and no Failed pod while
the node is in back-off. -/
theorem C01_sync_creates_only_on_empty_nodes (h : ersOwner rs st = some d)
    (x : String × Pod) (hx : x ∈ (reconcileErs rs st released aff now).creates)
    (p : Pod) (hp : p ∈ ersPods d st) (hn : p.nodeOf = some x.1) :
    p.phase = "Unknown" ∨
    (p.phase = "Failed" ∧ released x.1 = true ∧
      (p.deletion = none → p.name ∈ (reconcileErs rs st released aff now).cleanupDeletes)) := by
  obtain ⟨items, cr, S⟩ := sync_creates rs st released aff now d h
  rw [S.eq] at hx
  obtain ⟨ni, hni, rfl⟩ := List.mem_map.mp hx
  have hk := S.empty ni hni
  have hne : cr ≠ [] := fun h0 => by rw [h0] at hni; cases hni
  rcases C01_kept_none released rs.template items (ersPods d st) (ersIgnore d rs) ni hk p hp hn with hu | ⟨hf, hdel⟩
  · exact Or.inl hu
  · right
    refine ⟨hf, ?_, ?_⟩
    · exact C01_kept_none_released released rs.template items (ersPods d st) (ersIgnore d rs) ni hk p hp hn
        (by rw [hf]; decide)
    · intro hd
      rcases S.cleanup with h0 | hcl
      · exact absurd h0 hne
      · rw [hcl]
        unfold cleanupTargets
        exact List.mem_map.mpr ⟨p, List.mem_filter.mpr ⟨hdel, by rw [hd]; rfl⟩, rfl⟩

/-- … and among the listed pods attached to a node that gets a creation at most one is not in phase
`Unknown` (the released `Failed` pod; a second `Failed` pod would have been kept, because the first one
arms the node's back-off for the rest of the scan). -/
theorem C01_sync_creates_at_most_one_failed (h : ersOwner rs st = some d)
    (x : String × Pod) (hx : x ∈ (reconcileErs rs st released aff now).creates) :
    (nonUnknownOn (ersPods d st) x.1).length ≤ 1 := by
  obtain ⟨items, cr, S⟩ := sync_creates rs st released aff now d h
  rw [S.eq] at hx
  obtain ⟨ni, hni, rfl⟩ := List.mem_map.mp hx
  exact kept_none_at_most_one released rs.template items (ersPods d st) (ersIgnore d rs) ni (S.empty ni hni)

end Sync

/-- the pod belongs to EDS `d` (what `getPodList` selects: namespace and EDS-name label). -/
def isEdsPod (d : EDS) (p : Pod) : Bool :=
  p.ns == d.ns && SMap.get? p.labels K.edsNameLabel == some d.name

/-- not terminating, phase neither `Failed` nor `Unknown`. -/
def Pod.live (p : Pod) : Bool := p.deletion.isNone && p.phase != "Failed" && p.phase != "Unknown"

/-- daemon pods of the EDS that count as "live" on a node: attached to it (`Pod.nodeOf`, the
controller's own `GetNodeNameFromPod`), not terminating, phase neither Failed nor Unknown -/
def livePodsOn (d : EDS) (pods : List Pod) (n : String) : List Pod :=
  pods.filter (fun p => isEdsPod d p && p.nodeOf == some n && p.live)

/-- the API server's graceful deletion: a non-terminating pod named in `names` gets a deletion
timestamp (a pod that is already terminating keeps its own). -/
def markDeleted (names : List String) (now : Time) (p : Pod) : Pod :=
  if names.contains p.name && p.deletion.isNone then { p with deletion := some now } else p

/-- the pods of the store after the API server applied the sync's creations (each created pod
appears, as built) and deletions (each pod named in `deletes` or `cleanupDeletes` gets a deletion
timestamp).  Label patches do not touch any field `livePodsOn` reads (they add / remove the canary
label only) and are not applied here. -/
def applyPodWrites (w : ErsWrites) (pods : List Pod) (now : Time) : List Pod :=
  pods.map (markDeleted (w.deletes ++ w.cleanupDeletes) now) ++ w.creates.map (·.2)

/-- the same with immediate removal of the deleted pods (grace period 0 / after termination). -/
def applyPodWritesHard (w : ErsWrites) (pods : List Pod) : List Pod :=
  pods.filter (fun p => !(w.deletes ++ w.cleanupDeletes).contains p.name) ++ w.creates.map (·.2)

theorem mem_livePodsOn {d : EDS} {pods : List Pod} {n : String} {p : Pod} :
    p ∈ livePodsOn d pods n ↔
      p ∈ pods ∧ isEdsPod d p = true ∧ p.nodeOf = some n ∧ p.deletion = none ∧ p.phase ≠ "Failed" ∧
      p.phase ≠ "Unknown" := by
  unfold livePodsOn Pod.live
  simp only [List.mem_filter, Bool.and_eq_true, beq_iff_eq, bne_iff_ne, ne_eq, Option.isNone_iff_eq_none]
  constructor
  · rintro ⟨a, ⟨b, c⟩, ⟨e, f⟩, g⟩
    exact ⟨a, b, c, e, f, g⟩
  · rintro ⟨a, b, c, e, f, g⟩
    exact ⟨a, ⟨b, c⟩, ⟨e, f⟩, g⟩

theorem livePodsOn_append (d : EDS) (l₁ l₂ : List Pod) (n : String) :
    livePodsOn d (l₁ ++ l₂) n = livePodsOn d l₁ n ++ livePodsOn d l₂ n := by
  unfold livePodsOn
  rw [List.filter_append]

/-- without a DaemonSet being migrated the replica-set controller lists the pods of the EDS only. -/
theorem ersPods_of_no_old (d : EDS) (st : ErsStore) (hold : SMap.get? d.annotations K.oldDaemonsetAnnot = none) :
    ersPods d st = st.pods.filter (isEdsPod d) := by
  unfold ersPods
  simp only [hold, List.append_nil]
  rfl

theorem isEdsPod_mem_ersPods {d : EDS} {st : ErsStore} {p : Pod} (hp : p ∈ st.pods) (he : isEdsPod d p = true) :
    p ∈ ersPods d st := by
  unfold ersPods
  simp only []
  exact List.mem_append_left _ (List.mem_filter.mpr ⟨hp, he⟩)

theorem livePodsOn_mark_length_le (d : EDS) (names : List String) (now : Time) (pods : List Pod) (n : String) :
    (livePodsOn d (pods.map (markDeleted names now)) n).length ≤ (livePodsOn d pods n).length := by
  unfold livePodsOn
  apply filter_map_length_le
  intro p _ hq
  unfold markDeleted at hq
  split at hq
  · simp [Pod.live] at hq
  · exact hq

theorem livePodsOn_filter_length_le (d : EDS) (f : Pod → Bool) (pods : List Pod) (n : String) :
    (livePodsOn d (pods.filter f) n).length ≤ (livePodsOn d pods n).length := by
  unfold livePodsOn
  exact (List.Sublist.filter _ List.filter_sublist).length_le

/-- `GetNodeNameFromPod` of a created pod is the node it was built for, or nothing.  In affinity
mode this holds for every node (with an empty required term list, or an empty node name, the read-back
fails and the pod is attached nowhere); in node-name mode it needs a non-empty node name — otherwise
the read-back falls through to the *template's* node affinity, which may name any node. -/
theorem createPod_nodeOf_sub (rs : ERS) (n : Node) (s : Option Setting) (aff : Bool)
    (hne : aff = false → n.name ≠ "") (m : String)
    (h : (createPod rs (some n) s aff).pod.nodeOf = some m) : m = n.name := by
  cases aff with
  | false =>
    rw [C10_nodeOf_nodeName rs n s (hne rfl)] at h
    exact (Option.some.inj h).symm
  | true =>
    have h0 : (createPod rs (some n) s true).pod.nodeName = "" := rfl
    by_cases he : rs.template.affRequired = some []
    · have h1 : (createPod rs (some n) s true).pod.affRequired = some [] := by
        rw [createPod_affRequired_true, he]; rfl
      unfold Pod.nodeOf at h
      rw [h0, h1] at h
      simp [nodeNameFromAffinity, nodeNameFromTerms] at h
    · have hr := C10_pinned_affinity_readback rs n s he
      unfold Pod.nodeOf at h
      rw [h0, hr] at h
      simp only [bne_self_eq_false, Bool.false_eq_true, if_false] at h
      split at h
      · cases h
      · exact (Option.some.inj h).symm

/-- a created pod is a pod of the EDS, provided the replica set lives in the EDS's namespace and carries its
name label (both are copied onto the pod). -/
theorem createPod_isEdsPod {d : EDS} {rs : ERS} (hns : d.ns = rs.ns)
    (hl : SMap.get? rs.labels K.edsNameLabel = some d.name) (n : Option Node) (s : Option Setting) (aff : Bool) :
    isEdsPod d (createPod rs n s aff).pod = true := by
  unfold isEdsPod
  rw [createPod_label_eds]
  have h1 : (createPod rs n s aff).pod.ns = d.ns := hns.symm
  have h2 : SMap.getD rs.labels K.edsNameLabel = d.name := by
    unfold SMap.getD; rw [hl]; rfl
  rw [h1, h2]
  simp

/-- a created pod is not terminating and has no phase yet (it is Pending once the API server stored it). -/
theorem createPod_fresh (rs : ERS) (n : Option Node) (s : Option Setting) (aff : Bool) :
    (createPod rs n s aff).pod.deletion = none ∧ (createPod rs n s aff).pod.phase = "" := ⟨rfl, rfl⟩

/-- Abstract core of part 3, independent of where the creations come from and of how deletions are
applied.  `cs` = (node name, created pod) pairs with pairwise distinct node names, each pod attached to
its node or to none, each node carrying only `Unknown` / `Failed` listed pods; `surv` = any pod list
that has, node by node, no more live pods of the EDS than `stored` (the stored pods with some of them
marked as terminating, or removed, or left alone).  Then `surv ++ created pods` has at most one live
pod per node if `stored` has. -/
theorem one_per_node_of_creates (d : EDS) (listed stored surv : List Pod) (cs : List (String × Pod))
    (hlisted : ∀ p ∈ stored, isEdsPod d p = true → p ∈ listed)
    (hnd : (cs.map (·.1)).Nodup)
    (hpin : ∀ x ∈ cs, ∀ m, x.2.nodeOf = some m → m = x.1)
    (hempty : ∀ x ∈ cs, ∀ p ∈ listed, p.nodeOf = some x.1 → p.phase = "Unknown" ∨ p.phase = "Failed")
    (inv : ∀ n, (livePodsOn d stored n).length ≤ 1)
    (hs : ∀ n, (livePodsOn d surv n).length ≤ (livePodsOn d stored n).length) :
    ∀ n, (livePodsOn d (surv ++ cs.map (·.2)) n).length ≤ 1 := by
  intro n
  rw [livePodsOn_append, List.length_append]
  -- the created pods that are live on `n` were built for `n`
  have hcre : (livePodsOn d (cs.map (·.2)) n).length ≤ (cs.filter (fun x => x.1 == n)).length := by
    unfold livePodsOn
    apply filter_map_length_le
    intro x hx hq
    simp only [Bool.and_eq_true, beq_iff_eq] at hq
    rw [hpin x hx n hq.1.2]
    exact beq_self_eq_true _
  have hle1 := nodup_filter_eq_length_le (fun x : String × Pod => x.1) n cs hnd
  have h1 := hs n
  have h2 := inv n
  cases hf : cs.filter (fun x => x.1 == n) with
  | nil =>
    rw [hf] at hcre
    simp only [List.length_nil] at hcre
    omega
  | cons x tl =>
    -- a pod is created for `n`: no live pod was there
    have hmem : x ∈ cs.filter (fun x => x.1 == n) := by rw [hf]; exact List.mem_cons_self
    obtain ⟨hx, hname⟩ := List.mem_filter.mp hmem
    have hname : x.1 = n := by simpa using hname
    have hold : livePodsOn d stored n = [] := by
      rw [List.eq_nil_iff_forall_not_mem]
      intro p hp
      obtain ⟨a, b, c, _, f, g⟩ := mem_livePodsOn.mp hp
      rcases hempty x hx p (hlisted p a b) (by rw [c, hname]) with hu | hf'
      · exact g hu
      · exact f hf'
    rw [hold] at h1
    simp only [List.length_nil] at h1
    omega

section Invariant
variable (rs : ERS) (st : ErsStore) (released : String → Bool) (aff : Bool) (now : Time) (d : EDS)

/-- a created pod is attached to the node it was created for, or to none (`hne`: node-name mode needs
named nodes). -/
theorem sync_creates_pinned (h : ersOwner rs st = some d)
    (hne : aff = false → ∀ nd ∈ st.nodes, nd.name ≠ "")
    (x : String × Pod) (hx : x ∈ (reconcileErs rs st released aff now).creates)
    (m : String) (hm : x.2.nodeOf = some m) : m = x.1 := by
  obtain ⟨nd, hnd, hname, _⟩ := C04_created_node_listed rs st released aff now d h x hx
  obtain ⟨n, s, rfl⟩ := C04_created_shape rs st released aff now x hx
  simp only [] at hname hm ⊢
  exact createPod_nodeOf_sub rs n s aff (fun ha => by rw [← hname]; exact hne ha nd hnd) m hm

theorem sync_creates_empty (h : ersOwner rs st = some d)
    (x : String × Pod) (hx : x ∈ (reconcileErs rs st released aff now).creates)
    (p : Pod) (hp : p ∈ ersPods d st) (hn : p.nodeOf = some x.1) :
    p.phase = "Unknown" ∨ p.phase = "Failed" := by
  rcases C01_sync_creates_only_on_empty_nodes rs st released aff now d h x hx p hp hn with hu | ⟨hf, _⟩
  · exact Or.inl hu
  · exact Or.inr hf

/-- one sync, any way of applying the deletions. -/
theorem one_per_node_core (h : ersOwner rs st = some d)
    (hn : ersRole d rs.name = "active" → (st.nodes.map (·.name)).Nodup)
    (hc : ersRole d rs.name = "canary" → (ersCanaryNodes d).Nodup)
    (hne : aff = false → ∀ nd ∈ st.nodes, nd.name ≠ "")
    (inv : ∀ n, (livePodsOn d st.pods n).length ≤ 1)
    (surv : List Pod) (hs : ∀ n, (livePodsOn d surv n).length ≤ (livePodsOn d st.pods n).length) :
    ∀ n, (livePodsOn d (surv ++ (reconcileErs rs st released aff now).creates.map (·.2)) n).length ≤ 1 :=
  one_per_node_of_creates d (ersPods d st) st.pods surv _
    (fun _ hp he => isEdsPod_mem_ersPods hp he)
    (C01_sync_creates_nodup_role rs st released aff now d h hn hc)
    (sync_creates_pinned rs st released aff now d h hne)
    (sync_creates_empty rs st released aff now d h)
    inv hs

/-- **Part 3.**  If every node carries at most one live pod of the EDS before the sync, it still does
after the API server applied the pod creations and deletions of ONE sync of a replica set owned by
that EDS — whatever the role (active, canary, unknown), the gates, the back-off oracle and the mode.

Hypotheses (each necessary, see the `decide`-checked counterexamples below):
  * `hn`  stored node names are distinct              (read by the active role only)
  * `hc`  `eds.status.canary.nodes` has no duplicate  (read by the canary role only)
  * `hne` stored node names are not empty             (node-name mode only)
No hypothesis on pod names, on the pods' replica sets, or on the template.  Created pods are taken
as built by `createPod` (not terminating, phase `""`: `createPod_fresh`). -/
theorem C01_sync_preserves_one_per_node (h : ersOwner rs st = some d)
    (hn : (st.nodes.map (·.name)).Nodup) (hc : (ersCanaryNodes d).Nodup)
    (hne : aff = false → ∀ nd ∈ st.nodes, nd.name ≠ "")
    (inv : ∀ n, (livePodsOn d st.pods n).length ≤ 1) :
    ∀ n, (livePodsOn d (applyPodWrites (reconcileErs rs st released aff now) st.pods now) n).length ≤ 1 :=
  one_per_node_core rs st released aff now d h (fun _ => hn) (fun _ => hc) hne inv _
    (livePodsOn_mark_length_le d _ now st.pods)

/-- the same with role-wise hypotheses (`hn` for the active role, `hc` for the canary role, neither for
the unknown role). -/
theorem C01_sync_preserves_one_per_node_role (h : ersOwner rs st = some d)
    (hn : ersRole d rs.name = "active" → (st.nodes.map (·.name)).Nodup)
    (hc : ersRole d rs.name = "canary" → (ersCanaryNodes d).Nodup)
    (hne : aff = false → ∀ nd ∈ st.nodes, nd.name ≠ "")
    (inv : ∀ n, (livePodsOn d st.pods n).length ≤ 1) :
    ∀ n, (livePodsOn d (applyPodWrites (reconcileErs rs st released aff now) st.pods now) n).length ≤ 1 :=
  one_per_node_core rs st released aff now d h hn hc hne inv _ (livePodsOn_mark_length_le d _ now st.pods)

/-- … and with immediate removal of the deleted pods. -/
theorem C01_sync_preserves_one_per_node_hard (h : ersOwner rs st = some d)
    (hn : (st.nodes.map (·.name)).Nodup) (hc : (ersCanaryNodes d).Nodup)
    (hne : aff = false → ∀ nd ∈ st.nodes, nd.name ≠ "")
    (inv : ∀ n, (livePodsOn d st.pods n).length ≤ 1) :
    ∀ n, (livePodsOn d (applyPodWritesHard (reconcileErs rs st released aff now) st.pods) n).length ≤ 1 :=
  one_per_node_core rs st released aff now d h (fun _ => hn) (fun _ => hc) hne inv _
    (livePodsOn_filter_length_le d _ st.pods)

/-- a created pod counts as a live pod of the EDS on its node, provided the replica set carries the
EDS-name label of its owner (it is copied onto the pod), the node has a name and — in affinity mode —
the template's required node affinity is not the empty term list (`C04_created_pinned`). -/
theorem C01_created_pod_live (h : ersOwner rs st = some d)
    (x : String × Pod) (hx : x ∈ (reconcileErs rs st released aff now).creates)
    (hl : SMap.get? rs.labels K.edsNameLabel = some d.name)
    (hne : x.1 ≠ "") (ha : aff = true → rs.template.affRequired ≠ some []) :
    livePodsOn d [x.2] x.1 = [x.2] := by
  have hpin := C04_created_pinned rs st released aff now x hx hne ha
  obtain ⟨n, s, rfl⟩ := C04_created_shape rs st released aff now x hx
  have heds := createPod_isEdsPod (ersOwner_some h).2.1 hl (some n) s aff
  have hlive : (createPod rs (some n) s aff).pod.live = true := by
    unfold Pod.live
    rw [(createPod_fresh rs (some n) s aff).1, (createPod_fresh rs (some n) s aff).2]
    decide
  unfold livePodsOn
  simp only [] at hpin
  rw [List.filter_cons, heds, hpin, hlive]
  simp

/-- … so after the sync the node of a creation carries exactly that pod. -/
theorem C01_created_node_exactly_one (h : ersOwner rs st = some d)
    (hn : (st.nodes.map (·.name)).Nodup) (hc : (ersCanaryNodes d).Nodup)
    (hne : ∀ nd ∈ st.nodes, nd.name ≠ "")
    (inv : ∀ n, (livePodsOn d st.pods n).length ≤ 1)
    (hl : SMap.get? rs.labels K.edsNameLabel = some d.name)
    (ha : aff = true → rs.template.affRequired ≠ some [])
    (x : String × Pod) (hx : x ∈ (reconcileErs rs st released aff now).creates) :
    livePodsOn d (applyPodWrites (reconcileErs rs st released aff now) st.pods now) x.1 = [x.2] := by
  obtain ⟨nd, hnd, hname, _⟩ := C04_created_node_listed rs st released aff now d h x hx
  have hx1 : x.1 ≠ "" := by rw [← hname]; exact hne nd hnd
  have hlive := C01_created_pod_live rs st released aff now d h x hx hl hx1 ha
  apply eq_singleton_of_mem_of_length_le_one
  · unfold applyPodWrites
    rw [livePodsOn_append]
    apply List.mem_append_right
    have hm : x.2 ∈ livePodsOn d [x.2] x.1 := by rw [hlive]; exact List.mem_singleton.mpr rfl
    obtain ⟨_, b, c, e, f, g⟩ := mem_livePodsOn.mp hm
    exact mem_livePodsOn.mpr ⟨List.mem_map.mpr ⟨x, hx, rfl⟩, b, c, e, f, g⟩
  · exact C01_sync_preserves_one_per_node rs st released aff now d h hn hc (fun _ => hne) inv x.1

end Invariant

/-- the arguments of one sync. -/
structure SyncArgs where
  rs : ERS
  released : String → Bool
  aff : Bool
  now : Time

/-- the store after the API server applied the pod writes of the sync. -/
def applySync (st : ErsStore) (a : SyncArgs) : ErsStore :=
  { st with pods := applyPodWrites (reconcileErs a.rs st a.released a.aff a.now) st.pods a.now }

theorem applySync_nodes (st : ErsStore) (a : SyncArgs) : (applySync st a).nodes = st.nodes := rfl
theorem applySync_owner (st : ErsStore) (a : SyncArgs) (rs : ERS) : ersOwner rs (applySync st a) = ersOwner rs st := rfl

/-- **The invariant along a run.**  Any sequence of syncs of replica sets owned by the EDS — each one
reading the store left by the previous one, in any order of replica sets, with any back-off oracles,
modes and instants — keeps "at most one live pod of the EDS per node", as long as nodes and the EDS
object (in particular `status.canary.nodes`) stay as they are. -/
theorem C01_syncs_preserve_one_per_node (d : EDS) (syncs : List SyncArgs) (st : ErsStore)
    (ho : ∀ a ∈ syncs, ersOwner a.rs st = some d)
    (hn : (st.nodes.map (·.name)).Nodup) (hc : (ersCanaryNodes d).Nodup)
    (hne : ∀ nd ∈ st.nodes, nd.name ≠ "")
    (inv : ∀ n, (livePodsOn d st.pods n).length ≤ 1) :
    ∀ n, (livePodsOn d (syncs.foldl applySync st).pods n).length ≤ 1 := by
  induction syncs generalizing st with
  | nil => exact inv
  | cons a rest ih =>
    rw [List.foldl_cons]
    apply ih
    · intro b hb
      rw [applySync_owner]
      exact ho b (List.mem_cons_of_mem _ hb)
    · exact hn
    · exact hne
    · exact C01_sync_preserves_one_per_node a.rs st a.released a.aff a.now d (ho a List.mem_cons_self) hn hc
        (fun _ => hne) inv

theorem markDeleted_nodeOf (names : List String) (now : Time) (p : Pod) :
    (markDeleted names now p).nodeOf = p.nodeOf := by
  unfold markDeleted
  split <;> rfl

section Concurrent
variable (st : ErsStore) (d : EDS) (rs₁ rs₂ : ERS) (rel₁ rel₂ : String → Bool) (aff₁ aff₂ : Bool) (now₁ now₂ : Time)

/-- the active replica set creates off the canary nodes, the canary replica set on them. -/
theorem active_canary_creates_disjoint (h₁ : ersOwner rs₁ st = some d) (h₂ : ersOwner rs₂ st = some d)
    (hr₁ : ersRole d rs₁.name = "active") (hr₂ : ersRole d rs₂.name = "canary") :
    ∀ x ∈ (reconcileErs rs₁ st rel₁ aff₁ now₁).creates, ∀ y ∈ (reconcileErs rs₂ st rel₂ aff₂ now₂).creates,
      x.1 ≠ y.1 := by
  intro x hx y hy heq
  obtain ⟨_, _, cs, hcs, _⟩ := (ersRole_canary_iff d rs₂.name).mp hr₂
  have hy' := (C04_canary_creates_in_list rs₂ st rel₂ aff₂ now₂ d h₂ hr₂).1 y hy
  rw [ersCanaryNodes_some d hcs] at hy'
  have hx' := (C04_active_avoids_list rs₁ st rel₁ aff₁ now₁ d h₁ hr₁ cs hcs).1 x hx
  rw [heq] at hx'
  exact hx' hy'

/-- two *different* replica sets of the EDS never create for the same node from the same snapshot:
they cannot both be active, nor both be the canary, and an unknown one creates nothing. -/
theorem sync_creates_disjoint (h₁ : ersOwner rs₁ st = some d) (h₂ : ersOwner rs₂ st = some d)
    (hne : rs₁.name ≠ rs₂.name) :
    ∀ x ∈ (reconcileErs rs₁ st rel₁ aff₁ now₁).creates, ∀ y ∈ (reconcileErs rs₂ st rel₂ aff₂ now₂).creates,
      x.1 ≠ y.1 := by
  intro x hx y hy
  rcases ersRole_cases d rs₁.name with hr₁ | hr₁ | hr₁
  · rcases ersRole_cases d rs₂.name with hr₂ | hr₂ | hr₂
    · exact absurd ((C04_roles_disjoint d rs₁.name rs₂.name).1 hr₁ hr₂) hne
    · exact active_canary_creates_disjoint st d rs₁ rs₂ rel₁ rel₂ aff₁ aff₂ now₁ now₂ h₁ h₂ hr₁ hr₂ x hx y hy
    · exact (mem_nil_elim (C04_unknown_inert rs₂ st rel₂ aff₂ now₂ d h₂ hr₂).1 hy).elim
  · rcases ersRole_cases d rs₂.name with hr₂ | hr₂ | hr₂
    · exact fun heq =>
        active_canary_creates_disjoint st d rs₂ rs₁ rel₂ rel₁ aff₂ aff₁ now₂ now₁ h₂ h₁ hr₂ hr₁ y hy x hx heq.symm
    · exact absurd ((C04_roles_disjoint d rs₁.name rs₂.name).2.1 hr₁ hr₂) hne
    · exact (mem_nil_elim (C04_unknown_inert rs₂ st rel₂ aff₂ now₂ d h₂ hr₂).1 hy).elim
  · exact (mem_nil_elim (C04_unknown_inert rs₁ st rel₁ aff₁ now₁ d h₁ hr₁).1 hx).elim

/-- **Concurrent syncs.**  Two different replica sets of the EDS (in practice the active one and the
canary) sync from the SAME store snapshot `st` — neither sees the other's writes — and the API server
applies the writes of the first, then those of the second.  "At most one live pod per node" is kept.
(The same replica set is never reconciled twice concurrently: controller-runtime serialises the
reconciles of one object.  Two syncs of the *same* replica set from the same stale snapshot would both
create; that is the informer-lag hazard, outside this model, see the header.) -/
theorem C01_concurrent_syncs_preserve_one_per_node
    (h₁ : ersOwner rs₁ st = some d) (h₂ : ersOwner rs₂ st = some d) (hrs : rs₁.name ≠ rs₂.name)
    (hn : (st.nodes.map (·.name)).Nodup) (hc : (ersCanaryNodes d).Nodup)
    (hne : ∀ nd ∈ st.nodes, nd.name ≠ "")
    (inv : ∀ n, (livePodsOn d st.pods n).length ≤ 1) :
    ∀ n, (livePodsOn d
      (applyPodWrites (reconcileErs rs₂ st rel₂ aff₂ now₂)
        (applyPodWrites (reconcileErs rs₁ st rel₁ aff₁ now₁) st.pods now₁) now₂) n).length ≤ 1 := by
  -- the names marked by the second sync
  let names₂ := (reconcileErs rs₂ st rel₂ aff₂ now₂).deletes ++ (reconcileErs rs₂ st rel₂ aff₂ now₂).cleanupDeletes
  have hshape : applyPodWrites (reconcileErs rs₂ st rel₂ aff₂ now₂)
        (applyPodWrites (reconcileErs rs₁ st rel₁ aff₁ now₁) st.pods now₁) now₂ =
      (st.pods.map (markDeleted ((reconcileErs rs₁ st rel₁ aff₁ now₁).deletes ++
          (reconcileErs rs₁ st rel₁ aff₁ now₁).cleanupDeletes) now₁)).map (markDeleted names₂ now₂) ++
      (((reconcileErs rs₁ st rel₁ aff₁ now₁).creates.map (fun x => (x.1, markDeleted names₂ now₂ x.2))) ++
        (reconcileErs rs₂ st rel₂ aff₂ now₂).creates).map (·.2) := by
    unfold applyPodWrites
    simp only [List.map_append, List.map_map, List.append_assoc]
    rfl
  rw [hshape]
  apply one_per_node_of_creates d (ersPods d st) st.pods
  · exact fun _ hp he => isEdsPod_mem_ersPods hp he
  · rw [List.map_append, List.map_map]
    have : ((·.1) ∘ fun x : String × Pod => (x.1, markDeleted names₂ now₂ x.2)) = (·.1) := rfl
    rw [this, List.nodup_append]
    refine ⟨C01_sync_creates_nodup rs₁ st rel₁ aff₁ now₁ d h₁ hn hc,
      C01_sync_creates_nodup rs₂ st rel₂ aff₂ now₂ d h₂ hn hc, ?_⟩
    intro a ha b hb
    obtain ⟨x, hx, rfl⟩ := List.mem_map.mp ha
    obtain ⟨y, hy, rfl⟩ := List.mem_map.mp hb
    exact sync_creates_disjoint st d rs₁ rs₂ rel₁ rel₂ aff₁ aff₂ now₁ now₂ h₁ h₂ hrs x hx y hy
  · intro x hx m hm
    rcases List.mem_append.mp hx with hx | hx
    · obtain ⟨y, hy, rfl⟩ := List.mem_map.mp hx
      simp only [] at hm ⊢
      rw [markDeleted_nodeOf] at hm
      exact sync_creates_pinned rs₁ st rel₁ aff₁ now₁ d h₁ (fun _ => hne) y hy m hm
    · exact sync_creates_pinned rs₂ st rel₂ aff₂ now₂ d h₂ (fun _ => hne) x hx m hm
  · intro x hx p hp hpn
    rcases List.mem_append.mp hx with hx | hx
    · obtain ⟨y, hy, rfl⟩ := List.mem_map.mp hx
      exact sync_creates_empty rs₁ st rel₁ aff₁ now₁ d h₁ y hy p hp hpn
    · exact sync_creates_empty rs₂ st rel₂ aff₂ now₂ d h₂ x hx p hp hpn
  · exact inv
  · intro n
    exact Nat.le_trans (livePodsOn_mark_length_le d _ now₂ _ n) (livePodsOn_mark_length_le d _ now₁ _ n)

end Concurrent

/-- the nodes of the live, attached pods of the EDS are pairwise distinct. -/
def onePerNode (d : EDS) (pods : List Pod) : Prop :=
  ((pods.filter (fun p => isEdsPod d p && p.live && p.nodeOf.isSome)).map (·.nodeOf)).Nodup

instance (d : EDS) (pods : List Pod) : Decidable (onePerNode d pods) :=
  inferInstanceAs (Decidable (List.Nodup _))

theorem livePodsOn_eq_filter (d : EDS) (pods : List Pod) (n : String) :
    livePodsOn d pods n =
      (pods.filter (fun p => isEdsPod d p && p.live && p.nodeOf.isSome)).filter (fun p => p.nodeOf == some n) := by
  unfold livePodsOn
  rw [List.filter_filter]
  apply List.filter_congr
  intro p _
  cases isEdsPod d p <;> cases p.live <;> cases p.nodeOf <;> simp

theorem onePerNode_iff (d : EDS) (pods : List Pod) :
    onePerNode d pods ↔ ∀ n, (livePodsOn d pods n).length ≤ 1 := by
  unfold onePerNode
  constructor
  · intro h n
    rw [livePodsOn_eq_filter]
    exact nodup_filter_eq_length_le (fun p : Pod => p.nodeOf) (some n) _ h
  · intro h
    apply nodup_map_of_filter_length_le
    intro c
    cases c with
    | some n => rw [← livePodsOn_eq_filter]; exact h n
    | none =>
      have : (pods.filter (fun p => isEdsPod d p && p.live && p.nodeOf.isSome)).filter
          (fun p => p.nodeOf == none) = [] := by
        rw [List.filter_eq_nil_iff]
        intro p hp hnone
        have h1 := (List.mem_filter.mp hp).2
        have hnone : p.nodeOf = none := by simpa using hnone
        rw [hnone] at h1
        simp at h1
      rw [this]
      exact Nat.zero_le _

/-! ### Non-vacuity (item 4).  The store of C04 (EDS `d`, active replica set `d-old`, canary `d-new` on `n1`,
nodes `n1`, `n2`) with a Running pod on `n1` and a Failed pod on `n2`; every node is out of back-off.
All hypotheses of `C01_sync_preserves_one_per_node` hold, the active replica set deletes the Failed pod
and creates a pod for `n2` in the same sync, and afterwards each node carries exactly one live pod. -/

def exStore01b : ErsStore :=
  exStore04 [exPod04 "old-1" "n1" "d-old" "old", { exPod04 "f-2" "n2" "d-old" "old" with phase := "Failed" }]

example :
    ersOwner (exErs04 "d-old" "old") exStore01b = some exEds04 ∧
    ersRole exEds04 (exErs04 "d-old" "old").name = "active" ∧
    (exStore01b.nodes.map (·.name)).Nodup ∧ (ersCanaryNodes exEds04).Nodup ∧
    (∀ nd ∈ exStore01b.nodes, nd.name ≠ "") ∧
    onePerNode exEds04 exStore01b.pods ∧
    SMap.get? (exErs04 "d-old" "old").labels K.edsNameLabel = some (exEds04).name := by decide +kernel

example :
    (reconcileErs (exErs04 "d-old" "old") exStore01b (fun _ => true) false 100).creates.map (·.1) = ["n2"] ∧
    (reconcileErs (exErs04 "d-old" "old") exStore01b (fun _ => true) false 100).cleanupDeletes = ["f-2"] ∧
    (livePodsOn exEds04 exStore01b.pods "n2") = [] ∧
    (nonUnknownOn (ersPods exEds04 exStore01b) "n2").map (·.name) = ["f-2"] := by decide +kernel

example :
    (livePodsOn exEds04 (applyPodWrites (reconcileErs (exErs04 "d-old" "old") exStore01b (fun _ => true) false 100)
      exStore01b.pods 100) "n2").map (·.name) = ["d-old-"] ∧
    (livePodsOn exEds04 (applyPodWrites (reconcileErs (exErs04 "d-old" "old") exStore01b (fun _ => true) false 100)
      exStore01b.pods 100) "n1").map (·.name) = ["old-1"] ∧
    onePerNode exEds04 (applyPodWrites (reconcileErs (exErs04 "d-old" "old") exStore01b (fun _ => true) false 100)
      exStore01b.pods 100) := by decide +kernel

/-- the same in affinity mode, and for the canary replica set on an empty store (it creates on `n1`). -/
example :
    onePerNode exEds04 (applyPodWrites (reconcileErs (exErs04 "d-old" "old") exStore01b (fun _ => true) true 100)
      exStore01b.pods 100) ∧
    (livePodsOn exEds04 (applyPodWrites (reconcileErs (exErs04 "d-new" "new") exStore04 (fun _ => true) true 100)
      (exStore04).pods 100) "n1").map (·.name) = ["d-new-"] := by decide +kernel

/-- the theorem applied (this is an instance of it, not a `decide`). -/
example : ∀ n, (livePodsOn exEds04 (applyPodWrites
    (reconcileErs (exErs04 "d-old" "old") exStore01b (fun _ => true) false 100) exStore01b.pods 100) n).length ≤ 1 :=
  C01_sync_preserves_one_per_node _ _ _ _ _ exEds04 (by decide +kernel) (by decide +kernel) (by decide +kernel) (fun _ => by decide +kernel)
    ((onePerNode_iff _ _).mp (by decide +kernel))

/-- `hn` (distinct node names): two stored nodes called `n2`.  The active replica set creates a pod
for each; every other hypothesis holds; afterwards `n2` carries two live pods. -/
def cxStore01bA : ErsStore :=
  { exStore04 [] false with nodes := [(exNode01 "n2").node, (exNode01 "n2").node] }

example :
    ersOwner (exErs04 "d-new" "new") cxStore01bA = some (exEds04 false) ∧
    ersRole (exEds04 false) "d-new" = "active" ∧
    ¬ (cxStore01bA.nodes.map (·.name)).Nodup ∧ (ersCanaryNodes (exEds04 false)).Nodup ∧
    (∀ nd ∈ cxStore01bA.nodes, nd.name ≠ "") ∧ onePerNode (exEds04 false) cxStore01bA.pods ∧
    (reconcileErs (exErs04 "d-new" "new") cxStore01bA (fun _ => true) true 100).creates.map (·.1) = ["n2", "n2"] ∧
    (livePodsOn (exEds04 false) (applyPodWrites (reconcileErs (exErs04 "d-new" "new") cxStore01bA (fun _ => true) true 100)
      cxStore01bA.pods 100) "n2").length = 2 := by decide +kernel

/-- `hc` (`status.canary.nodes` without duplicate): the canary list names `n1` twice.  The canary
replica set creates two pods for `n1`; every other hypothesis holds. -/
def cxEds01bB : EDS :=
  { exEds04 with status := { (exEds04).status with canary := some { replicaSet := "d-new", nodes := ["n1", "n1"] } } }

def cxStore01bB : ErsStore := { exStore04 with edss := [cxEds01bB] }

example :
    ersOwner (exErs04 "d-new" "new") cxStore01bB = some cxEds01bB ∧
    ersRole cxEds01bB "d-new" = "canary" ∧
    (cxStore01bB.nodes.map (·.name)).Nodup ∧ ¬ (ersCanaryNodes cxEds01bB).Nodup ∧
    (∀ nd ∈ cxStore01bB.nodes, nd.name ≠ "") ∧ onePerNode cxEds01bB cxStore01bB.pods ∧
    (reconcileErs (exErs04 "d-new" "new") cxStore01bB (fun _ => true) true 100).creates.map (·.1) = ["n1", "n1"] ∧
    (livePodsOn cxEds01bB (applyPodWrites (reconcileErs (exErs04 "d-new" "new") cxStore01bB (fun _ => true) true 100)
      cxStore01bB.pods 100) "n1").length = 2 := by decide +kernel

/-- `hne` (node-name mode: no node with an empty name).  A node called `""` and a template whose
required node affinity is `metadata.name In [n2]  OR  label "absent" DoesNotExist`: both nodes are fit
(the second term matches any node), the pod built for `""` has no `spec.nodeName`, and
`GetNodeNameFromPod` reads the *template's* first term back: `n2`.  In node-name mode `n2` ends up with
two live pods; in affinity mode (where `hne` is not required) with one. -/
def cxErs01bC : ERS :=
  { exErs04 "d-new" "new" with
    template := { exTemplate01 with
      affRequired := some [
        { exprs := [], fields := [{ key := "metadata.name", op := "In", values := ["n2"] }] },
        { exprs := [{ key := "absent", op := "DoesNotExist", values := [] }], fields := [] }] } }

def cxStore01bC : ErsStore :=
  { exStore04 [] false with nodes := [(exNode01 "").node, (exNode01 "n2").node] }

example :
    ersOwner cxErs01bC cxStore01bC = some (exEds04 false) ∧
    (cxStore01bC.nodes.map (·.name)).Nodup ∧ (ersCanaryNodes (exEds04 false)).Nodup ∧
    ¬ (∀ nd ∈ cxStore01bC.nodes, nd.name ≠ "") ∧ onePerNode (exEds04 false) cxStore01bC.pods ∧
    (reconcileErs cxErs01bC cxStore01bC (fun _ => true) false 100).creates.map (fun x => (x.1, x.2.nodeOf))
      = [("", some "n2"), ("n2", some "n2")] ∧
    (livePodsOn (exEds04 false) (applyPodWrites (reconcileErs cxErs01bC cxStore01bC (fun _ => true) false 100)
      cxStore01bC.pods 100) "n2").length = 2 ∧
    (livePodsOn (exEds04 false) (applyPodWrites (reconcileErs cxErs01bC cxStore01bC (fun _ => true) true 100)
      cxStore01bC.pods 100) "n2").length = 1 := by decide +kernel

/-- "different replica sets" in `C01_concurrent_syncs_preserve_one_per_node`: the *same* replica set
syncing twice from the same snapshot (its cache has not yet seen its first creation) creates twice.
Every other hypothesis holds.  This is the informer-lag hazard; a sync of the model reads one store
snapshot and the model has no notion of cache staleness, so the invariant is only claimed for syncs
that see their own previous writes (`C01_syncs_preserve_one_per_node`). -/
example :
    ersOwner (exErs04 "d-new" "new") (exStore04 [] false) = some (exEds04 false) ∧
    ((exStore04 [] false).nodes.map (·.name)).Nodup ∧ (ersCanaryNodes (exEds04 false)).Nodup ∧
    (∀ nd ∈ (exStore04 [] false).nodes, nd.name ≠ "") ∧ onePerNode (exEds04 false) (exStore04 [] false).pods ∧
    (livePodsOn (exEds04 false)
      (applyPodWrites (reconcileErs (exErs04 "d-new" "new") (exStore04 [] false) (fun _ => true) true 101)
        (applyPodWrites (reconcileErs (exErs04 "d-new" "new") (exStore04 [] false) (fun _ => true) true 100)
          (exStore04 [] false).pods 100) 101) "n2").length = 2 := by decide +kernel

/-- … whereas the second sync *reading the store left by the first* creates nothing more. -/
example :
    onePerNode (exEds04 false)
      ([⟨exErs04 "d-new" "new", fun _ => true, true, 100⟩, ⟨exErs04 "d-new" "new", fun _ => true, true, 101⟩].foldl
        applySync (exStore04 [] false)).pods ∧
    (livePodsOn (exEds04 false)
      ([⟨exErs04 "d-new" "new", fun _ => true, true, 100⟩, ⟨exErs04 "d-new" "new", fun _ => true, true, 101⟩].foldl
        applySync (exStore04 [] false)).pods "n2").length = 1 := by decide +kernel

end Eds
