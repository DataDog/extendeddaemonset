import EdsModel
import EdsProofs.ReconcileEds
/-
  C12 — An ExtendedDaemonSet only ever touches its own objects.
-/
namespace Eds
open Generated

/-- **List sites are scoped** (obligation on the facts extracted from the Go source on this run):
every `client.List` of replica sets, pods or settings in the four controllers carries a namespace
option; only node lists (cluster-scoped objects) do not. -/
theorem C12_lists_scoped :
    Facts.listSites.all (fun s => s.2.2.1 == "NodeList" || s.2.2.2.1) = true := by decide +kernel

/-- the extractor still sees every list site the model accounts for (a site it silently stops
seeing would weaken the obligation above). -/
theorem C12_list_sites_known :
    Facts.listSites.map (fun s => (s.1, s.2.1, s.2.2.1)) = [
      ("controllers/extendeddaemonset/controller.go", "Reconcile", "ExtendedDaemonSetReplicaSetList"),
      ("controllers/extendeddaemonset/controller.go", "selectNodes", "PodList"),
      ("controllers/extendeddaemonset/controller.go", "selectNodes", "NodeList"),
      ("controllers/extendeddaemonset/controller.go", "countTargetedNodes", "NodeList"),
      ("controllers/extendeddaemonsetreplicaset/controller.go", "getExtendedDaemonsetSettings", "ExtendedDaemonsetSettingList"),
      ("controllers/extendeddaemonsetreplicaset/controller.go", "getPodList", "PodList"),
      ("controllers/extendeddaemonsetreplicaset/controller.go", "getNodeList", "NodeList"),
      ("controllers/extendeddaemonsetreplicaset/controller.go", "getOldDaemonsetPodList", "PodList"),
      ("controllers/extendeddaemonsetreplicaset/strategy/rollingupdate.go", "ManageDeployment", "PodList"),
      ("controllers/extendeddaemonsetsetting/controller.go", "Reconcile", "ExtendedDaemonsetSettingList"),
      ("controllers/extendeddaemonsetsetting/controller.go", "Reconcile", "NodeList")] := rfl

/-- **Deletes are owned**: every replica set the reconcile deletes is in the EDS's namespace and
carries its name label. -/
theorem C12_deletes_owned (d : EDS) (all : List ERS) (pods : List Pod) (nodes : List Node) (now : Time) (m : String)
    (nm : String) (h : nm ∈ (reconcileEds d all pods nodes now m).deletedErs) :
    ∃ e ∈ all, e.name = nm ∧ e.ns = d.ns ∧ SMap.get? e.labels K.edsNameLabel = some d.name := by
  obtain ⟨_, _, u, _, hr⟩ := reconcileEds_main d all pods nodes now m (Or.inl (List.ne_nil_of_mem h))
  rw [hr, edsMain_deleted] at h
  obtain ⟨e, he, hn, _⟩ := mem_cleanupTargetsERS h
  unfold ownErs at he
  simp only [List.mem_filter, Bool.and_eq_true, beq_iff_eq] at he
  exact ⟨e, he.1, hn, he.2.1, he.2.2⟩

/-- **Creates are owned**: a created replica set lives in the EDS's namespace, carries its name
label (even if the EDS's own labels define that key) and is owned by it. -/
theorem C12_create_owned (d : EDS) (all : List ERS) (pods : List Pod) (nodes : List Node) (now : Time) (m : String)
    (n : NewErs) (h : (reconcileEds d all pods nodes now m).created = some n) :
    n.ns = d.ns ∧ n.ownerEds = d.name ∧ n.generateName = d.name ++ "-" := by
  obtain ⟨_, rfl, _⟩ := reconcileEds_created_iff d all pods nodes now m n h
  exact ⟨rfl, rfl, rfl⟩

end Eds
